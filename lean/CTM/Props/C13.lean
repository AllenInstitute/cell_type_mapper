/-
  C13 — on-disk sparse transposition and reshaping preserve the matrix.

  Theorems about the executable model `CTM/Model/Sparse.lean` (tied to
  `utils/csc_to_csr.py`, `utils/csc_to_csr_parallel.py`, `utils/anndata_utils.py`,
  `utils/h5_utils.py` by the correspondence suite `harness/props/c13.py`).
  All of them hold for every matrix, every load-chunk size `≥ 1`, every element
  budget, every index sub-range, every worker count: there is no size bound.

  Vocabulary: `Mat α = (indptr, indices, data)`; `WFptr ip n nnz` — `ip` has
  `n + 1` entries, is non-decreasing, starts at 0 and ends at `nnz`;
  `SlicesNodup M n` — indices are unique within each of the `n` major slices;
  `toDense zero M nMajor nMinor` — the dense matrix the arrays stand for
  (`rowSpec`: scatter of slice `i`); `transposeDense` — its transpose.

  Two sets of budget constants: `Budget.of` / `budget_floor` have the literal minimum sizes 100
  (`pinnedConsts`) and serve `C11.by_gene_any_max_gb`; `Budget.ofConsts` / `budget_floor_consts` /
  `source_budget_ok` take the constants as a parameter, instantiated with those read from the
  current source (`sourceConsts`).  A further theorem about budgets belongs to the second set.
-/
import CTM.Lemmas.SparseFlat
import CTM.Generated.SparseConsts

namespace CTM.C13
open CTM.Chunking CTM.Sparse

/-- the running example of the non-vacuity checks: the 3×3 matrix
`[[1,0,2],[0,3,0],[4,0,5]]` in compressed form -/
def M0 : Mat Nat := ⟨[0, 2, 3, 5], [0, 2, 1, 0, 2], [1, 2, 3, 4, 5]⟩

/-! ## "for any memory budget": the loops that cut the work -/

/-- *"the loop nests that cut the work by element budget"* — the blocks
`[r0, r1)` of minor indices written per pass of `transpose_sparse_matrix_on_disk`
partition `[0, nMinor)` in order, whatever the pointer array and whatever the
element budget `el` (also `el = 0`). -/
theorem blocks_partition (csrIndptr : List Nat) (el : Nat) :
    (blockCuts csrIndptr el).flatMap rangeOf = List.range (csrIndptr.length - 1) :=
  blockCuts_flatMap_rangeOf csrIndptr el

example : blockCuts [0, 2, 3, 5] 2 = [(0, 1), (1, 3)] := by decide +kernel

/-- every block is a non-empty range of minor indices; every block but the
last holds at least `el` stored entries and no proper prefix of a block does
(the budget is overshot by at most one slice). -/
theorem blocks_respect_budget (csrIndptr : List Nat) (el : Nat) :
    ∀ p ∈ blockCuts csrIndptr el,
      p.1 < p.2 ∧ p.2 ≤ csrIndptr.length - 1 ∧
      (p.2 < csrIndptr.length - 1 → el ≤ ptr csrIndptr p.2 - ptr csrIndptr p.1) ∧
      (∀ c, p.1 < c → c < p.2 → ptr csrIndptr c - ptr csrIndptr p.1 < el) := by
  intro p hp
  have := blockCutsAux_bounds csrIndptr el _ _ p hp
  exact ⟨this.2.1, this.2.2.1, this.2.2.2.1, this.2.2.2.2⟩

example : (0, 1) ∈ blockCuts [0, 2, 3, 5] 2 := by decide +kernel

/-- the load chunks `indices[i0:i1]`, `i0 in range(0, n, lo)`, concatenate to
the whole array for every chunk size `lo ≥ 1` (fill pass and counting pass). -/
theorem load_chunks_cover {β} (l : List β) (lo : Nat) (h : 1 ≤ lo) :
    (sliceChunks lo l).flatten = l :=
  sliceChunks_flatten l lo h

example : sliceChunks 2 [10, 11, 12, 13, 14] = [[10, 11], [12, 13], [14]] := by decide +kernel

/-- the enforced minimum chunk sizes: whatever `max_gb` (also 0 or negative),
whatever the dtypes and whatever the constants `K` of the source, the three
chunk sizes derived from the memory budget are at least the source's minimum
sizes — hence `≥ 1` as the theorems below need whenever those are. -/
theorem budget_floor_consts (K : BudgetConsts) (countGb loadGb elGb : Rat)
    (dataBytes indptrBytes indicesBytes : Nat) :
    K.minCount ≤ (Budget.ofConsts K countGb loadGb elGb dataBytes indptrBytes indicesBytes).loCount ∧
    K.minLoad ≤ (Budget.ofConsts K countGb loadGb elGb dataBytes indptrBytes indicesBytes).lo ∧
    K.minEl ≤ (Budget.ofConsts K countGb loadGb elGb dataBytes indptrBytes indicesBytes).el := by
  unfold Budget.ofConsts
  exact ⟨Nat.le_max_left _ _, Nat.le_max_left _ _, Nat.le_max_left _ _⟩

/-- the floor at the literal minimum sizes of `utils/csc_to_csr.py`
(`max(100, …)` three times, `pinnedConsts`): every chunk size is `≥ 100`.
Used by `by_gene_any_max_gb` (`Props/C11/Compose.lean`). -/
theorem budget_floor (countGb loadGb elGb : Rat) (dataBytes indptrBytes indicesBytes : Nat) :
    100 ≤ (Budget.of countGb loadGb elGb dataBytes indptrBytes indicesBytes).loCount ∧
    100 ≤ (Budget.of countGb loadGb elGb dataBytes indptrBytes indicesBytes).lo ∧
    100 ≤ (Budget.of countGb loadGb elGb dataBytes indptrBytes indicesBytes).el :=
  budget_floor_consts pinnedConsts countGb loadGb elGb dataBytes indptrBytes indicesBytes

/-- **source constants** (translation tie): the minimum block sizes of the
counting and the fill pass, the budget split and the block size of the joining
loop are re-extracted from the current `utils/csc_to_csr.py` /
`csc_to_csr_parallel.py` on every run (`CTM/Generated/SparseConsts.lean`,
written by `harness/ctmverif/sparse_translate.py`; the driver instantiates the
model with them).  The theorems of this file hold for *every* value of these
constants that satisfies the preconditions below — which is all that is
demanded of the regenerated values (decided by kernel evaluation at build
time): every minimum size and the join block `≥ 1` (a block size 0 would make
`range(0, n, 0)` raise), the budget is split by a positive divisor. -/
theorem source_constants :
    1 ≤ CTM.Generated.SparseConsts.countMinLoadChunk ∧
    1 ≤ CTM.Generated.SparseConsts.transposeMinLoadChunk ∧
    1 ≤ CTM.Generated.SparseConsts.transposeMinElements ∧
    1 ≤ CTM.Generated.SparseConsts.joinBlock ∧
    1 ≤ CTM.Generated.SparseConsts.loadSplitDen := by decide +kernel

/-- the constants of the current source; `Drive/Sparse.lean` builds the same record for the driver -/
def sourceConsts : BudgetConsts :=
  { minCount := CTM.Generated.SparseConsts.countMinLoadChunk
    minLoad := CTM.Generated.SparseConsts.transposeMinLoadChunk
    minEl := CTM.Generated.SparseConsts.transposeMinElements
    dexBytes := CTM.Generated.SparseConsts.dexBytes }

/-- with the constants of the current source every budget has chunk sizes
`≥ 1`, whatever `max_gb`. -/
theorem source_budget_ok (countGb loadGb elGb : Rat) (dataBytes indptrBytes indicesBytes : Nat) :
    1 ≤ (Budget.ofConsts sourceConsts countGb loadGb elGb dataBytes indptrBytes indicesBytes).loCount ∧
    1 ≤ (Budget.ofConsts sourceConsts countGb loadGb elGb dataBytes indptrBytes indicesBytes).lo ∧
    1 ≤ (Budget.ofConsts sourceConsts countGb loadGb elGb dataBytes indptrBytes indicesBytes).el := by
  have h := budget_floor_consts sourceConsts countGb loadGb elGb dataBytes indptrBytes indicesBytes
  have s := source_constants
  exact ⟨Nat.le_trans s.1 h.1, Nat.le_trans s.2.1 h.2.1, Nat.le_trans s.2.2.1 h.2.2⟩

/-! ## the transposition at bucket level -/

/-- **bucket level** (DESIGN §5 C13, level 1).  For every load-chunk size
`lo ≥ 1`, every element budget `el` and every index sub-range `sl`, the fill
pass writes, for minor index `v = 0, 1, …`, the entries with (slice-shifted)
minor index `v` in storage order — the stable bucketing of the entries by minor
index.  `entriesOf M` is the list of stored entries tagged with their major
index exactly as the code computes it (`searchsorted(indptr, ·, 'right') - 1`). -/
theorem transpose_buckets {α} (M : Mat α) (sl : Option (Nat × Nat)) (csrIndptr : List Nat)
    (lo el : Nat) (hlo : 1 ≤ lo) :
    transposeEntries (entriesOf M) sl csrIndptr lo el
      = (List.range (csrIndptr.length - 1)).flatMap fun v =>
          (sliceEntries sl (entriesOf M)).filter (·.minor == v) :=
  transposeEntries_eq_bucketSpec _ sl csrIndptr lo el hlo (entriesOf_majorsSorted M)

example : (transposeEntries (entriesOf M0) none [0, 2, 3, 5] 2 1).map (·.val)
    = [1, 4, 3, 2, 5] := by decide +kernel

/-- **flat-array level** (DESIGN §5 C13, level 2) — *"fill pass writes bounded
blocks of major slices using a running next-free-slot table"*: the same loops
with the code's addressing — per block a zeroed buffer of `d1 - d0` cells, the
group of one load chunk for minor index `v` written at `next_idx[v] - d0`, then
`next_idx[v] += ct`, the buffer written to the output at `[d0, d1)` — produce,
for every load-chunk size `≥ 1`, every element budget and every index
sub-range, exactly the arrays of the bucket-level model `transposeOnDisk`
(the counting-sort invariant `next_idx[v] = indptr[v] + #written(v)`, groups
never overlap, every output cell is written exactly once).  Everything proved
below for `transposeOnDisk` therefore holds for the flat-array version. -/
theorem transpose_flat {α} (zero : α) (M : Mat α) (indicesMax : Nat)
    (sl : Option (Nat × Nat)) (B : Budget)
    (hlo : 1 ≤ B.lo) (hc : 1 ≤ B.loCount) (hlen : M.data.length = M.indices.length)
    (hr : ∀ x ∈ sliceMinors sl M.indices, x < nMinorOf indicesMax sl) :
    transposeOnDiskFlat zero M indicesMax sl B = transposeOnDisk M indicesMax sl B :=
  transposeOnDiskFlat_eq zero M indicesMax sl B hlo hc hlen hr

/-- the transpose of `M0`, evaluated once; the variants below are carried to it by their theorems -/
theorem M0_transposed : transposeOnDisk M0 3 none ⟨2, 2, 1⟩
    = .ok ⟨[0, 2, 3, 5], [0, 2, 1, 0, 2], [1, 4, 3, 2, 5]⟩ := by decide +kernel

example : transposeOnDiskFlat 0 M0 3 none ⟨2, 2, 1⟩
    = .ok ⟨[0, 2, 3, 5], [0, 2, 1, 0, 2], [1, 4, 3, 2, 5]⟩ :=
  (transpose_flat 0 M0 3 none ⟨2, 2, 1⟩ (by decide) (by decide) rfl (by decide)).trans M0_transposed

/-- **counting pass** (`_calculate_csr_indptr`): for every load-chunk size
`≥ 1` and every index sub-range the pointer array is
`k ↦ #{entries whose (slice-shifted) minor index is < k}` and `n_non_zero` is
the number of entries inside the sub-range. -/
theorem count_pass (indices : List Nat) (indicesMax : Nat) (sl : Option (Nat × Nat))
    (loCount : Nat) (h : 1 ≤ loCount)
    (hr : ∀ x ∈ sliceMinors sl indices, x < nMinorOf indicesMax sl) :
    calcIndptr indices indicesMax sl loCount =
      .ok ((List.range (nMinorOf indicesMax sl + 1)).map
            (fun k => (sliceMinors sl indices).countP (· < k)),
           (sliceMinors sl indices).length) :=
  calcIndptr_ok indices indicesMax sl loCount h hr

example : calcIndptr [0, 2, 1, 0, 2] 3 (some (1, 3)) 2 = .ok ([0, 1, 3], 3) := by decide +kernel

/-- a minor index outside `[0, indices_max)` makes the counting pass fail
(`IndexError`), it is never silently dropped or wrapped. -/
theorem count_pass_rejects (indices : List Nat) (indicesMax loCount : Nat) (h : 1 ≤ loCount)
    (x : Nat) (hx : x ∈ indices) (hbig : indicesMax ≤ x) :
    calcIndptr indices indicesMax none loCount = .error .indexOutOfRange := by
  unfold calcIndptr
  have hflat : ((sliceChunks loCount indices).map (sliceMinors none)).flatten = indices := by
    rw [sliceMinors_flatten, sliceChunks_flatten indices loCount h]; rfl
  have : ((sliceChunks loCount indices).map (sliceMinors none)).any
      (·.any (· ≥ nMinorOf indicesMax none)) = true := by
    rw [← List.any_flatten, hflat, List.any_eq_true]
    exact ⟨x, hx, by simp [nMinorOf]; omega⟩
  simp only [this, if_true]

example : calcIndptr [0, 3, 1] 3 none 2 = .error .indexOutOfRange := by decide +kernel

/-! ## "yields exactly the transpose" -/

/-- *"a monotone pointer array ending at the number
of stored entries, minor indices sorted and unique within each major slice,
and every stored value at its transposed position, for any memory budget"*.

For every well-formed input (`WFptr`; input indices need not be sorted), every
budget with chunk sizes `≥ 1` (any element budget), the serial transposition
succeeds and its output `out`
* has a pointer array with `nMinor + 1` entries, starting at 0,
  non-decreasing, ending at the number of stored entries, and `indices` /
  `data` of that length;
* cuts, for every `v`, exactly the major indices / values of the entries with
  minor index `v` in storage order;
* has all its indices `< nMajor`;
* has strictly increasing indices in every slice if the input's indices are
  unique within each major slice;
* denotes the transposed dense matrix. -/
theorem transpose_correct {α} (zero : α) (M : Mat α) (nMajor nMinor : Nat) (B : Budget)
    (hlo : 1 ≤ B.lo) (hc : 1 ≤ B.loCount)
    (w : WFptr M.indptr nMajor M.indices.length) (hlen : M.data.length = M.indices.length)
    (hr : ∀ x ∈ M.indices, x < nMinor) :
    ∃ out, transposeOnDisk M nMinor none B = .ok out ∧
      WFptr out.indptr nMinor M.indices.length ∧
      out.indices.length = M.indices.length ∧ out.data.length = M.indices.length ∧
      (∀ x ∈ out.indices, x < nMajor) ∧
      (∀ v, v < nMinor →
        slice out.indices (ptr out.indptr v) (ptr out.indptr (v + 1))
          = ((entriesOf M).filter (·.minor == v)).map (·.major) ∧
        slice out.data (ptr out.indptr v) (ptr out.indptr (v + 1))
          = ((entriesOf M).filter (·.minor == v)).map (·.val)) ∧
      (SlicesNodup M nMajor → ∀ v, v < nMinor →
        (slice out.indices (ptr out.indptr v) (ptr out.indptr (v + 1))).Pairwise (· < ·)) ∧
      toDense zero out nMinor nMajor
        = transposeDense zero (toDense zero M nMajor nMinor) nMinor := by
  have hE := entriesOf_minor_lt M nMinor hlen hr
  refine ⟨canonOut (entriesOf M) nMinor, ?_, ?_, ?_, ?_, ?_, ?_, ?_, ?_⟩
  · exact transposeOnDisk_eq_canonOut M nMinor none B hlo hc hlen hr
  · rw [← entriesOf_length M hlen]; exact canonOut_wf _ _ hE
  · rw [← entriesOf_length M hlen]; exact (canonOut_lengths _ _ hE).1
  · rw [← entriesOf_length M hlen]; exact (canonOut_lengths _ _ hE).2
  · exact canonOut_indices_lt M nMajor nMinor w
  · intro v hv; exact canonOut_slice _ _ _ hv
  · intro hn v hv
    rw [(canonOut_slice _ _ _ hv).1]
    exact bucketSeg_fst_pairwise_lt _ (entriesOf_majorsSorted M)
      (entriesOf_uniqueCoords M nMajor w hlen hn) v
  · exact canonOut_toDense zero M nMajor nMinor w

/- non-vacuity: the hypotheses hold for `M0` and the conclusion is what the
model computes -/
example : WFptr M0.indptr 3 5 := ⟨rfl, by decide +kernel, rfl, rfl⟩
example : SlicesNodup M0 3 := by
  unfold SlicesNodup
  decide +kernel
example : transposeOnDisk M0 3 none ⟨2, 2, 1⟩
    = .ok ⟨[0, 2, 3, 5], [0, 2, 1, 0, 2], [1, 4, 3, 2, 5]⟩ := M0_transposed
example : toDense 0 M0 3 3 = [[1, 0, 2], [0, 3, 0], [4, 0, 5]] := by decide +kernel

/-- transposing twice (CSC → CSR → CSC, any two budgets)
gives arrays that denote the original matrix again, now in canonical form:
indices strictly increasing within every slice (whatever their order in the
input), pointer array monotone from 0 to the number of stored entries. -/
theorem involution {α} (zero : α) (M : Mat α) (nMajor nMinor : Nat) (B1 B2 : Budget)
    (hlo1 : 1 ≤ B1.lo) (hc1 : 1 ≤ B1.loCount) (hlo2 : 1 ≤ B2.lo) (hc2 : 1 ≤ B2.loCount)
    (w : WFptr M.indptr nMajor M.indices.length) (hlen : M.data.length = M.indices.length)
    (hr : ∀ x ∈ M.indices, x < nMinor) (hn : SlicesNodup M nMajor) :
    ∃ out1 out2, transposeOnDisk M nMinor none B1 = .ok out1 ∧
      transposeOnDisk out1 nMajor none B2 = .ok out2 ∧
      toDense zero out2 nMajor nMinor = toDense zero M nMajor nMinor ∧
      WFptr out2.indptr nMajor M.indices.length ∧
      (∀ i, i < nMajor →
        (slice out2.indices (ptr out2.indptr i) (ptr out2.indptr (i + 1))).Pairwise (· < ·)) := by
  obtain ⟨out1, e1, w1, l1, d1, r1, _, s1, t1⟩ :=
    transpose_correct zero M nMajor nMinor B1 hlo1 hc1 w hlen hr
  have w1' : WFptr out1.indptr nMinor out1.indices.length := by rw [l1]; exact w1
  have hn1 : SlicesNodup out1 nMinor := by
    intro v hv
    have := s1 hn v hv
    exact this.imp (fun h => Nat.ne_of_lt h)
  obtain ⟨out2, e2, w2, l2, _, _, _, s2, t2⟩ :=
    transpose_correct zero out1 nMinor nMajor B2 hlo2 hc2 w1' (by omega) r1
  refine ⟨out1, out2, e1, e2, ?_, ?_, ?_⟩
  · rw [t2, t1]
    exact transposeDense_involutive zero _ nMajor nMinor (toDense_length _ _ _ _)
      (toDense_rows_length zero M nMajor nMinor)
  · rw [← l1]; exact w2
  · exact s2 hn1

example : (transposeOnDisk (⟨[0, 2, 3, 5], [2, 0, 1, 2, 0], [2, 1, 3, 5, 4]⟩ : Mat Nat)
              3 none ⟨1, 1, 1⟩ >>= fun o => transposeOnDisk o 3 none ⟨2, 3, 1⟩)
    = .ok ⟨[0, 2, 3, 5], [0, 2, 1, 0, 2], [1, 2, 3, 4, 5]⟩ := by decide +kernel

/-- *"for any sub-range of the minor axis"*: with
`indices_slice = (a, b)`, `a ≤ b ≤ nMinor`, the serial transposition succeeds
for every budget and its output denotes rows `a ..< b` of the transposed
matrix. -/
theorem transpose_slice {α} (zero : α) (M : Mat α) (nMajor nMinor : Nat) (B : Budget)
    (hlo : 1 ≤ B.lo) (hc : 1 ≤ B.loCount)
    (w : WFptr M.indptr nMajor M.indices.length) (hlen : M.data.length = M.indices.length)
    (a b : Nat) (hab : a ≤ b) (hb : b ≤ nMinor) :
    ∃ out, transposeOnDisk M nMinor (some (a, b)) B = .ok out ∧
      toDense zero out (b - a) nMajor
        = slice (transposeDense zero (toDense zero M nMajor nMinor) nMinor) a b :=
  ⟨_, transposeOnDisk_eq_canonOut M nMinor (some (a, b)) B hlo hc hlen (sliceMinors_lt nMinor a b _),
    canonOut_sliceEntries_toDense zero M nMajor nMinor w a b hb⟩

example : transposeOnDisk M0 3 (some (1, 3)) ⟨2, 2, 1⟩
    = .ok ⟨[0, 1, 3], [1, 0, 2], [3, 2, 5]⟩ := by decide +kernel

/-- *"serially or with parallel workers"*: for every worker
count `≥ 1` (also more workers than minor indices) and every pair of budgets,
cutting the minor range into `ceil(indices_max / n_processors)`-wide
sub-ranges, transposing each on its own and joining the pieces in range order
with shifted pointers produces exactly the arrays of the serial transposition
(hence everything `transpose_correct` says holds for the parallel version). -/
theorem v2_eq {α} (M : Mat α) (indicesMax nProc : Nat) (B B' : Budget)
    (himax : 1 ≤ indicesMax) (hp : 1 ≤ nProc)
    (hlo : 1 ≤ B.lo) (hc : 1 ≤ B.loCount) (hlo' : 1 ≤ B'.lo) (hc' : 1 ≤ B'.loCount)
    (hlen : M.data.length = M.indices.length) (hr : ∀ x ∈ M.indices, x < indicesMax) :
    transposeV2 M indicesMax nProc B = transposeOnDisk M indicesMax none B' :=
  transposeV2_eq M indicesMax nProc B B' himax hp hlo hc hlo' hc' hlen hr

example : transposeV2 M0 3 2 ⟨1, 1, 1⟩ = transposeOnDisk M0 3 none ⟨5, 5, 5⟩ :=
  v2_eq M0 3 2 ⟨1, 1, 1⟩ ⟨5, 5, 5⟩ (by decide) (by decide) (by decide) (by decide) (by decide) (by decide)
    rfl (by decide)
example : chunks 3 (ceilDiv 3 2) = [(0, 2), (2, 3)] := by decide +kernel

/-- the joining loop of
`_transpose_sparse_matrix_on_disk_v2` copies every worker's `indices` (and
`data`, when there is one) into the final arrays in blocks of `chunk_size`
entries at a running destination offset (`dst1 = dst0 + (src1-src0)`,
`dst[dst0:dst1] = src[src0:src1]`, `dst0 = dst1`).  For **every block size
`≥ 1`** (the source's literal is only required to be `≥ 1`, `source_constants`) this blockwise
copy is the whole copy: the parallel transposition with the blockwise join
equals `transposeV2` — for every matrix, budget and worker count, with a value
array (`α` arbitrary) and without (`α := Unit`). -/
theorem v2_join_blocks {α} (zero : α) (M : Mat α) (indicesMax nProc : Nat) (B : Budget)
    (blk : Nat) (hblk : 1 ≤ blk) :
    transposeV2Blocked zero M indicesMax nProc B blk = transposeV2 M indicesMax nProc B ∧
    (∀ (dst : List Nat) (dst0 : Nat) (src : List Nat), dst0 + src.length ≤ dst.length →
      blockCopyInto blk dst dst0 src = (writeAt dst dst0 src, dst0 + src.length)) :=
  ⟨transposeV2Blocked_eq zero M indicesMax nProc B blk hblk,
   fun dst dst0 src h => blockCopyInto_eq blk hblk dst dst0 src h⟩

example : transposeV2Blocked 0 M0 3 2 ⟨1, 1, 1⟩ 2
    = .ok ⟨[0, 2, 3, 5], [0, 2, 1, 0, 2], [1, 4, 3, 2, 5]⟩ :=
  ((v2_join_blocks 0 M0 3 2 ⟨1, 1, 1⟩ 2 (by decide)).1.trans
    (v2_eq M0 3 2 ⟨1, 1, 1⟩ ⟨2, 2, 1⟩ (by decide) (by decide) (by decide) (by decide) (by decide)
      (by decide) rfl (by decide))).trans M0_transposed
example : blockCopyInto 2 [0, 0, 0, 0, 0, 0, 0] 1 [7, 8, 9, 10, 11]
    = ([0, 7, 8, 9, 10, 11, 0], 6) := by decide +kernel
example : transposeV2Blocked () (⟨[0, 2, 3, 5], [0, 2, 1, 0, 2], [(), (), (), (), ()]⟩ : Mat Unit)
    3 1 ⟨1, 1, 1⟩ 2 = .ok ⟨[0, 2, 3, 5], [0, 2, 1, 0, 2], [(), (), (), (), ()]⟩ := by decide +kernel

/-- the sub-ranges handed to the workers partition `[0, indices_max)` in
order, for every worker count `≥ 1`. -/
theorem v2_slices_partition (indicesMax nProc : Nat) (himax : 1 ≤ indicesMax) (hp : 1 ≤ nProc) :
    (chunks indicesMax (ceilDiv indicesMax nProc)).flatMap rangeOf = List.range indicesMax :=
  chunks_flatMap_rangeOf indicesMax _ (ceilDiv_pos indicesMax nProc himax hp)

/-! ## the file-level operations equal the in-memory operation -/

/-- **CSR → CSC pivot** (`pivot_csr_h5ad`): parallel transposition of `X`
followed by a chunked copy of the three arrays (any chunk length `delta ≥ 1`)
gives exactly the serial transposition's arrays, i.e. (by `transpose_correct`)
the CSC encoding of the same matrix. -/
theorem pivot {α} (M : Mat α) (nCols nProc : Nat) (B B' : Budget) (delta : Nat)
    (hd : 1 ≤ delta) (hcols : 1 ≤ nCols) (hp : 1 ≤ nProc)
    (hlo : 1 ≤ B.lo) (hc : 1 ≤ B.loCount) (hlo' : 1 ≤ B'.lo) (hc' : 1 ≤ B'.loCount)
    (hlen : M.data.length = M.indices.length) (hr : ∀ x ∈ M.indices, x < nCols) :
    pivotCsr M nCols nProc B delta = transposeOnDisk M nCols none B' := by
  unfold pivotCsr
  rw [transposeV2_eq M nCols nProc B B' hcols hp hlo hc hlo' hc' hlen hr]
  cases h : transposeOnDisk M nCols none B' with
  | error e => rfl
  | ok t =>
    simp only [bind, Except.bind, pure, Except.pure]
    rw [chunkCopy_id delta _ hd, chunkCopy_id delta _ hd, chunkCopy_id delta _ hd]

example : pivotCsr M0 3 2 ⟨1, 1, 1⟩ 2 = .ok ⟨[0, 2, 3, 5], [0, 2, 1, 0, 2], [1, 4, 3, 2, 5]⟩ :=
  (pivot M0 3 2 ⟨1, 1, 1⟩ ⟨2, 2, 1⟩ 2 (by decide) (by decide) (by decide) (by decide) (by decide)
    (by decide) (by decide) rfl (by decide)).trans M0_transposed

/-- **row shuffling** (`shuffle_csr_h5ad_rows`): for every permutation
`order` of the rows, the written arrays denote the matrix whose row `k` is row
`order[k]` of the input. -/
theorem shuffle_rows {α} (zero : α) (M : Mat α) (nRows nCols : Nat)
    (w : WFptr M.indptr nRows M.indices.length) (hlen : M.data.length = M.indices.length)
    (order : List Nat) (hp : order.Perm (List.range nRows)) :
    toDense zero (shuffleRows M order) nRows nCols
      = order.map fun o => (toDense zero M nRows nCols).getD o [] :=
  shuffleRows_toDense zero M nRows nCols w hlen order hp

example : toDense 0 (shuffleRows M0 [2, 0, 1]) 3 3 = [[4, 0, 5], [1, 0, 2], [0, 3, 0]] := by decide +kernel

/-- **column sub-setting** (`subset_csc_h5ad_columns`): for every list of
chosen columns (any order, repeats allowed) the written CSC arrays denote the
chosen columns of the input in increasing order (`isort`), column by column
(`rowSpec` of a CSC matrix is one column). -/
theorem subset_columns {α} (zero : α) (M : Mat α) (nCols nRows : Nat)
    (w : WFptr M.indptr nCols M.indices.length) (hlen : M.data.length = M.indices.length)
    (chosen : List Nat) (hc : ∀ c ∈ chosen, c < nCols) :
    toDense zero (subsetColumns M chosen) chosen.length nRows
      = (isort (fun a b => decide (a ≤ b)) chosen).map (rowSpec zero M nRows) :=
  subsetColumns_toDense zero M nCols nRows w hlen chosen hc

example : toDense 0 (subsetColumns M0 [2, 0]) 2 3 = [[1, 0, 2], [4, 0, 5]] := by decide +kernel

/-- **stacking row selections** — *"pointer arithmetic when concatenating CSR
pieces"*: for well-formed pieces `(Pₖ, nₖ)` the arrays produced by
`merge_csr`, by `amalgamate_csr_to_x` and by the joining loop of the parallel
transposition all denote the pieces' matrices stacked in order.  (The pieces
`amalgamate_h5ad` stacks are `get_batch(rows, sparse=True)` results, which are
exactly the requested rows by `C05.load_disjoint`.) -/
theorem stack_pieces {α} (zero : α) (parts : List (Mat α × Nat)) (nCols : Nat)
    (hwf : ∀ P ∈ parts, WFptr P.1.indptr P.2 P.1.indices.length ∧
      P.1.data.length = P.1.indices.length) :
    toDense zero (mergeCsr (parts.map (·.1))) ((parts.map (·.2)).sum) nCols
        = parts.flatMap (fun P => toDense zero P.1 P.2 nCols) ∧
    toDense zero (amalgamateCsr (parts.map (·.1))) ((parts.map (·.2)).sum) nCols
        = parts.flatMap (fun P => toDense zero P.1 P.2 nCols) ∧
    toDense zero (joinParts (parts.map (·.1))) ((parts.map (·.2)).sum) nCols
        = parts.flatMap (fun P => toDense zero P.1 P.2 nCols) :=
  ⟨concat_toDense zero mergeCsr mergeCsr_ofSegs parts nCols hwf,
   concat_toDense zero amalgamateCsr amalgamateCsr_ofSegs parts nCols hwf,
   concat_toDense zero joinParts joinParts_ofSegs parts nCols hwf⟩

example : toDense 0 (amalgamateCsr [M0, ⟨[0, 1], [1], [7]⟩]) 4 3
    = [[1, 0, 2], [0, 3, 0], [4, 0, 5], [0, 7, 0]] := by decide +kernel

/-- **copying a layer into X / element-wise HDF5 copy in bounded hyperslabs**:
a chunked 1-d copy with any chunk length `≥ 1` and a tiled 2-d copy over any
grid of chunk lists (`_copy_layer_to_x_sparse`, `_copy_layer_to_x_dense`,
`copy_h5_excluding_data`) reproduce the array. -/
theorem chunked_copies {β} :
    (∀ (c : Nat) (l : List β), 1 ≤ c → chunkCopy c l = l) ∧
    (∀ (D : List (List β)) (m a b : Nat), 1 ≤ a → 1 ≤ b → (∀ row ∈ D, row.length = m) →
      tileCopy (chunks D.length a) (chunks m b) D = D) :=
  ⟨fun c l h => chunkCopy_id c l h, fun D m a b ha hb hr => tileCopy_id D m a b ha hb hr⟩

example : tileCopy (chunks 3 2) (chunks 3 2) [[1, 0, 2], [0, 3, 0], [4, 0, 5]]
    = [[1, 0, 2], [0, 3, 0], [4, 0, 5]] := by decide +kernel

/-- `_copy_layer_to_x_dense`: whatever the HDF5 chunk shape of the source
(`none` = contiguous: the function then copies in tiles of
`(min(10000, n // 10) or n, m)`), the copy reproduces the matrix. -/
theorem copy_dense_layer {β} (h5chunks : Option (Nat × Nat)) (D : List (List β)) (m : Nat)
    (hn : 1 ≤ D.length) (hm : 1 ≤ m) (hrows : ∀ row ∈ D, row.length = m)
    (hch : ∀ c, h5chunks = some c → 1 ≤ c.1 ∧ 1 ≤ c.2) :
    copyDenseLayer h5chunks D m = D := by
  unfold copyDenseLayer
  have h1 : 1 ≤ (denseCopyChunks h5chunks D.length m).1 ∧ 1 ≤ (denseCopyChunks h5chunks D.length m).2 := by
    unfold denseCopyChunks
    cases h5chunks with
    | some c => exact hch c rfl
    | none =>
      simp only
      by_cases h : (min 10000 (D.length / 10) == 0) = true
      · simp only [h, if_true]; exact ⟨hn, hm⟩
      · simp only [h]
        have : min 10000 (D.length / 10) ≠ 0 := by simpa using h
        exact ⟨by simp only [Bool.false_eq_true, if_false]; omega, hm⟩
  exact tileCopy_id D m _ _ h1.1 h1.2 hrows

example : copyDenseLayer none [[1, 0, 2], [0, 3, 0], [4, 0, 5]] 3
    = [[1, 0, 2], [0, 3, 0], [4, 0, 5]] := by decide +kernel

/-- the hyperslabs chosen by `_get_slices_for_copy` tile every dimension
exactly (in order, without overlap), whatever `max_elements` — also 0 — and
whatever the shape. -/
theorem copy_slices_tile (perDim : Nat) (shape : List Nat) :
    (copySlices perDim shape).map (·.flatMap rangeOf) = shape.map List.range := by
  unfold copySlices
  rw [List.map_map]
  apply List.map_congr_left
  intro n _
  exact copySlices1_flatMap_rangeOf perDim n

example : copySlices 2 [5, 3] = [[(0, 2), (2, 4), (4, 5)], [(0, 2), (2, 3)]] := by decide +kernel

end CTM.C13
