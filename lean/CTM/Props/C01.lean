/-
  C01 — every query cell gets one complete, ordered, tree-consistent assignment.

  Theorems about the model `CTM/Model/LevelLoop.lean` (which the suite
  `harness/props/c01.py` compares with `/repo` on every run).  Hypotheses used
  throughout:
    `wfb t = true`   the decidable well-formedness of the tree the run votes on
                     (distinct level names and node names, every parent node has
                     children, all of them nodes of the next level, no shared
                     child, every node has a parent): evaluated by the driver on
                     every generated tree and compared with the real validator, and
                     implied by it (`Props/C01/Bridge.lean` restates the theorems
                     with `t.validate = .ok ()`);
    `VoteOK t vote`  the oracle (`_run_type_assignment`, modelled in
                     `CTM/Model/Election.lean`) returns a child of the parent it
                     is asked about.
-/
import CTM.Lemmas.LevelLoopTrees

namespace CTM.C01
open CTM CTM.LevelLoop

/-- "the assignments of a cell form one root-to-leaf path": **the batch loop
`run_type_assignment` computes, row by row, the walk of that row's cell** —
descend from the root; at each node take the single child or ask the oracle.
(All the `previously_assigned` / `chosen_idx` / write-back-by-row-index
bookkeeping is discharged once, in `runLevelLoop_eq_mapM_walk`.) -/
theorem levelLoop_refines_walk {κ} (t : RawTree) (vote : Oracle κ) (cells : List κ)
    (hwf : wfb t = true) (hv : VoteOK t vote) :
    runLevelLoop t vote cells = cells.mapM (walk t vote) :=
  runLevelLoop_eq_mapM_walk t vote cells hwf hv

example : runLevelLoop exTree exVote [0, 1, 5, 2] = [0, 1, 5, 2].mapM (walk exTree exVote) :=
  levelLoop_refines_walk _ _ _ exTree_wf (exVote_ok _)

/-- "exactly one record per query cell ... with an assignment at every level of
the taxonomy. Each assignment is a node of its level and the assignments of a
cell form one root-to-leaf path of that taxonomy": `run_type_assignment`
succeeds on every well-formed tree (any depth, single-child chains, a single
node at the top), returns as many rows as cells, and every row binds every
level of the hierarchy, in order, to a node of that level, consecutive ones
related by `child_to_parent`. -/
theorem path {κ} (t : RawTree) (vote : Oracle κ) (cells : List κ)
    (hwf : wfb t = true) (hv : VoteOK t vote) :
    ∃ rs, runLevelLoop t vote cells = .ok rs ∧ rs.length = cells.length ∧
      ∀ r ∈ rs, IsRootToLeafPath t r := by
  rw [runLevelLoop_eq_mapM_walk t vote cells hwf hv]
  exact ListAux.mapM_ok_forall_of_forall (fun c _ => walk_path hwf hv c)

example : ∃ rs, runLevelLoop exTree exVote [3, 4] = .ok rs ∧ rs.length = 2 ∧
    ∀ r ∈ rs, IsRootToLeafPath exTree r :=
  path exTree exVote [3, 4] exTree_wf (exVote_ok _)

/-- the chunk borders `(r0, r1)` of `run_type_assignment_on_h5ad_cpu` tile the
rows for every chunk size >= 1: concatenating the slices `xs[r0:r1]` gives `xs`
back (no row lost, none repeated, order kept) -/
theorem chunks_cover {α} (xs : List α) (n nProc chunkSize : Nat) (hn : xs.length = n)
    (hcs : 1 ≤ chunkSize) :
    (chunks n (effChunk n nProc chunkSize)).flatMap (fun r => slice xs r.1 r.2) = xs := by
  subst hn
  exact LevelLoop.chunks_cover xs _ (effChunk_pos hcs)

example : (chunks 7 (effChunk 7 3 5)).flatMap (fun r => slice [10, 11, 12, 13, 14, 15, 16] r.1 r.2)
    = [10, 11, 12, 13, 14, 15, 16] :=
  chunks_cover _ 7 3 5 rfl (by decide +kernel)

/-- "results keyed by cell id and re-emitted in obs order": `re_order_blob`
turns any permutation of records with distinct ids into the obs order -/
theorem reorder_any_order (ids : List CellId) (blob target : List Record)
    (hperm : blob.Perm target) (hids : target.map (·.cellId) = ids) (hnd : ids.Nodup) :
    reorderBlob ids blob = .ok target :=
  reorderBlob_perm ids blob target hperm hids hnd

/-- "returns exactly one record per query cell, in the query file's cell order
and carrying that cell's identifier": for every chunk size >= 1, worker count
>= 1 and ANY order in which the chunk results are gathered (completion order
or sorted file names), the whole data flow of `_run_mapping` is the per-cell
map `ids[i], cells[i] ↦ backfill (flag (walk cells[i]))` in obs order. -/
theorem order_ids {κ} (t0 t : RawTree) (cfg : Config) (vote : Oracle κ)
    (ids : List CellId) (cells : List κ) (order : List Nat)
    (hrun : runTree t0 cfg = .ok t) (hwf : wfb t = true) (hv : VoteOK t vote)
    (hlen : ids.length = cells.length) (hnd : ids.Nodup)
    (hproc : 1 ≤ cfg.nProc) (hcs : 1 ≤ cfg.chunkSize)
    (horder : order.Perm (List.range
      (chunks cells.length (effChunk cells.length cfg.nProc cfg.chunkSize)).length)) :
    mapPipeline t0 cfg vote ids cells order =
      backfill t0.dropCells
        ((List.zipWith (mkRecord t vote) ids cells).map (markDirect t.hierarchy)) ∧
    ∀ out, mapPipeline t0 cfg vote ids cells order = .ok out →
      out.map (·.cellId) = ids ∧ out.length = cells.length := by
  have hspec := mapPipeline_spec t0 t cfg vote ids cells order hrun hwf hv hlen hnd hproc hcs horder
  refine ⟨hspec, fun out hout => ?_⟩
  have h3 : out.map (·.cellId) = ids := by
    rw [backfill_cellId (hspec ▸ hout), List.map_map]
    exact map_cellId_zipWith t vote ids cells hlen
  exact ⟨h3, by rw [← hlen, ← h3, List.length_map]⟩

-- (test, not a theorem) the ids of the example come back in obs order
example : (mapPipeline exTree { chunkSize := 2, nProc := 2 } exVote [7, 3, 9] [0, 1, 2] [1, 0]).toOption.map
    (fun out => out.map (·.cellId)) = some [7, 3, 9] := by decide +kernel

/-- "for ... any chunk size, any worker count": HOW the rows are cut into chunks
is immaterial.  For ANY borders that tile the rows (consecutive, non-empty,
ending at the last row — `tilesB`, checked on the borders the workers are
really handed) and any gathering order, the pipeline is the per-cell map in obs
order with each cell's id.  (The clamp `effChunk` of the code is one
instance: `chunks_tile`.) -/
theorem order_ids_any_chunks {κ} (t0 t : RawTree) (cfg : Config) (vote : Oracle κ)
    (ids : List CellId) (cells : List κ) (borders : List (Nat × Nat)) (order : List Nat)
    (hrun : runTree t0 cfg = .ok t) (hwf : wfb t = true) (hv : VoteOK t vote)
    (hlen : ids.length = cells.length) (hnd : ids.Nodup)
    (htiles : tilesB cells.length borders = true)
    (horder : order.Perm (List.range borders.length)) :
    mapPipelineChunks t0 cfg vote ids cells borders order =
      backfill t0.dropCells
        ((List.zipWith (mkRecord t vote) ids cells).map (markDirect t.hierarchy)) :=
  mapPipelineChunks_spec t0 t cfg vote ids cells borders order hrun hwf hv hlen hnd htiles horder

example : mapPipelineChunks exTree {} exVote [7, 3, 9, 4] [0, 1, 2, 3] [(0, 1), (1, 4)] [1, 0] =
    mapPipelineChunks exTree {} exVote [7, 3, 9, 4] [0, 1, 2, 3] [(0, 2), (2, 3), (3, 4)] [2, 0, 1] := by
  rw [order_ids_any_chunks exTree exTree {} exVote [7, 3, 9, 4] [0, 1, 2, 3] [(0, 1), (1, 4)] [1, 0]
      rfl exTree_wf (exVote_ok _) rfl (by decide +kernel) (by decide +kernel) (by decide +kernel),
    order_ids_any_chunks exTree exTree {} exVote [7, 3, 9, 4] [0, 1, 2, 3]
      [(0, 2), (2, 3), (3, 4)] [2, 0, 1] rfl exTree_wf (exVote_ok _) rfl (by decide +kernel) (by decide +kernel)
      (by decide +kernel)]

/-- the borders the code uses (row iterator at the clamped chunk size)
are such a tiling, and `mapPipeline` is `mapPipelineChunks` on them -/
theorem chunks_tile {κ} (t0 : RawTree) (cfg : Config) (vote : Oracle κ)
    (ids : List CellId) (cells : List κ) (order : List Nat)
    (hproc : 1 ≤ cfg.nProc) (hcs : 1 ≤ cfg.chunkSize) :
    tilesB cells.length (chunks cells.length (effChunk cells.length cfg.nProc cfg.chunkSize)) = true ∧
    mapPipeline t0 cfg vote ids cells order =
      mapPipelineChunks t0 cfg vote ids cells
        (chunks cells.length (effChunk cells.length cfg.nProc cfg.chunkSize)) order :=
  ⟨chunks_tiles _ _ (effChunk_pos hcs),
   mapPipeline_eq_chunks t0 cfg vote ids cells order hproc hcs⟩

-- (test, not a theorem) two tilings of 23 rows
example : tilesB 23 (chunks 23 (effChunk 23 2 7)) = true ∧ tilesB 23 [(0, 6), (6, 12), (12, 18), (18, 23)] = true := by
  decide +kernel

/-- "the levels that were not voted on are inferred from the voted descendant
and flagged as not directly assigned" (`backfill_assignments`, one cell): if
the levels present in the record agree with a path `path` of the stored tree
(consecutive levels related by `child_to_parent`) and the leaf level is
present, then backfilling succeeds, binds EVERY level of the stored hierarchy
to the node of that path, leaves the voted levels untouched and writes at each
missing level the copy of the level below with the parent as assignment, no
runner-ups and `directly_assigned = False`. -/
theorem backfill_path (tMeta : RawTree) (path : Level → Node) (r : Record)
    (hnd : tMeta.hierarchy.Nodup)
    (hlink : ∀ cp ∈ pairsOf tMeta.hierarchy.reverse,
      tMeta.childToParent cp.1 (path cp.1) = some (path cp.2))
    (hagree : ∀ l e, r.levels.lookup l = some e → e.assignment = path l)
    (hleaf : ∀ l, tMeta.hierarchy.getLast? = some l → (r.levels.lookup l).isSome) :
    ∃ r', backfillPairs tMeta (pairsOf tMeta.hierarchy.reverse) r = .ok r' ∧
      r'.cellId = r.cellId ∧
      (∀ l ∈ tMeta.hierarchy, ∃ e, r'.levels.lookup l = some e ∧ e.assignment = path l) ∧
      (∀ l e, r.levels.lookup l = some e → r'.levels.lookup l = some e) ∧
      (∀ cp ∈ pairsOf tMeta.hierarchy.reverse, r.levels.lookup cp.2 = none →
        ∃ ec, r'.levels.lookup cp.1 = some ec ∧
          r'.levels.lookup cp.2 = some (inferred ec (path cp.2))) := by
  obtain ⟨r', h1, h2, h3, h4, h6⟩ := backfillPairs_path_spec tMeta path tMeta.hierarchy.reverse r
    (ListAux.nodup_reverse hnd) hlink hagree
    (fun l hl => hleaf l (by rwa [List.head?_reverse] at hl))
  exact ⟨r', h1, h2, fun l hl => h3 l (List.mem_reverse.mpr hl), h4, h6⟩

-- (test, not a theorem) a record with the leaf level only gets the two levels above it
example : (backfill exTree.dropCells
    [{ cellId := 1, levels := [(2, { assignment := 31, prob := 1, corr := none, ru := some ([], [], []) })] }]).toOption.map
      (fun out => out.map (fun r => r.levels.map (fun le => (le.1, le.2.assignment, le.2.direct))))
    = some [[(2, 31, none), (1, 21, some false), (0, 10, some false)]] := by decide +kernel

/-- **No run fails, and every record is a path of the stored tree.**  Whatever `drop_level` and
`flatten` make of a well-formed stored tree `t0` (`t`, the tree the run votes on), the run returns
one record per cell, and every record binds every level of the STORED hierarchy to a node of that
level, consecutive ones related by `child_to_parent` of the stored tree; the levels of `t` are
flagged `directly_assigned = True`, the others inferred, `False` and without runner-ups.
`flatten_path`, `drop_path` and `flatten_drop_path` are instances (a `drop_level` that is not in the
hierarchy is one more kind of `cfg`, `runTree_absent`); of the plain run `no_error_plain` says more. -/
theorem runs_path {κ} {t0 t : RawTree} {cfg : Config} {vote : Oracle κ}
    {ids : List CellId} {cells : List κ} {order : List Nat}
    (hwf0 : wfb t0 = true) (hrun : runTree t0 cfg = .ok t) (hv : VoteOK t vote)
    (hlen : ids.length = cells.length) (hnd : ids.Nodup)
    (hproc : 1 ≤ cfg.nProc) (hcs : 1 ≤ cfg.chunkSize)
    (horder : order.Perm (List.range
      (chunks cells.length (effChunk cells.length cfg.nProc cfg.chunkSize)).length)) :
    ∃ out, mapPipeline t0 cfg vote ids cells order = .ok out ∧ out.length = cells.length ∧
      ∀ o ∈ out, ∃ path : Level → Node,
        (∀ cp ∈ pairsOf t0.hierarchy.reverse,
          t0.childToParent cp.1 (path cp.1) = some (path cp.2)) ∧
        ∀ x ∈ t0.hierarchy, path x ∈ t0.nodesAt x ∧
          ∃ e', o.levels.lookup x = some e' ∧ e'.assignment = path x ∧
            (x ∈ t.hierarchy → e'.direct = some true) ∧
            (x ∉ t.hierarchy → e'.direct = some false ∧ e'.ru = none) :=
  have r := runTree_reduces hwf0 hrun
  mapPipeline_forall hrun r.wf hv hlen hnd hproc hcs horder (cellResult_path r hv)

/-- "Every taxonomy the tree validator accepts ... is mapped without error"
(the part that concerns the level loop and the data flow, for a run without
`drop_level` / `flatten`): on a well-formed tree, with an oracle returning
children, the pipeline cannot fail — whatever the depth, single-child chains, a
single node at the top — and returns, in obs order, each cell's flagged walk.
(The marker side of the clause is C08's; with `drop_level` / `flatten` the
run succeeds too: `runs_path`.) -/
theorem no_error_plain {κ} (t0 : RawTree) (cfg : Config) (vote : Oracle κ)
    (ids : List CellId) (cells : List κ) (order : List Nat)
    (hdrop : cfg.dropLevel = none) (hflat : cfg.flatten = false)
    (hwf : wfb t0 = true) (hv : VoteOK t0 vote)
    (hlen : ids.length = cells.length) (hnd : ids.Nodup)
    (hproc : 1 ≤ cfg.nProc) (hcs : 1 ≤ cfg.chunkSize)
    (horder : order.Perm (List.range
      (chunks cells.length (effChunk cells.length cfg.nProc cfg.chunkSize)).length)) :
    mapPipeline t0 cfg vote ids cells order =
      .ok ((List.zipWith (mkRecord t0 vote) ids cells).map (markDirect t0.hierarchy)) :=
  mapPipeline_plain_ok t0 cfg vote ids cells order hdrop hflat hwf hv hlen hnd hproc hcs horder

example : mapPipeline exTree { chunkSize := 2, nProc := 2 } exVote [7, 3, 9] [0, 1, 2] [1, 0] =
    .ok ((List.zipWith (mkRecord exTree exVote) [7, 3, 9] [0, 1, 2]).map (markDirect exTree.hierarchy)) :=
  no_error_plain exTree { chunkSize := 2, nProc := 2 } exVote [7, 3, 9] [0, 1, 2] [1, 0] rfl rfl
    exTree_wf (exVote_ok _) rfl (by decide +kernel) (by decide +kernel) (by decide +kernel) (by decide +kernel)

/-- "this also holds when the taxonomy is flattened ..., in which case the
levels that were not voted on are inferred from the voted descendant and
flagged as not directly assigned": a flattened run on a well-formed stored tree
(any depth, chains, single-node levels; the flattened tree is then well-formed
too, `wfb_flatten`) NEVER fails, returns one record per cell, and every record
binds every level of the STORED hierarchy to a node of that level, consecutive
ones related by `child_to_parent` of the stored tree (`path`), every level
above the leaf level flagged `directly_assigned = False` and without
runner-ups. -/
theorem flatten_path {κ} (t0 : RawTree) (cfg : Config) (vote : Oracle κ) (ll : Level)
    (ids : List CellId) (cells : List κ) (order : List Nat)
    (hdrop : cfg.dropLevel = none) (hflat : cfg.flatten = true)
    (hleaf : t0.leafLevel = some ll)
    (hwf0 : wfb t0 = true) (hv : VoteOK t0.flatten vote)
    (hlen : ids.length = cells.length) (hnd : ids.Nodup)
    (hproc : 1 ≤ cfg.nProc) (hcs : 1 ≤ cfg.chunkSize)
    (horder : order.Perm (List.range
      (chunks cells.length (effChunk cells.length cfg.nProc cfg.chunkSize)).length)) :
    ∃ out, mapPipeline t0 cfg vote ids cells order = .ok out ∧ out.length = cells.length ∧
      ∀ o ∈ out, ∃ path : Level → Node,
        (∀ cp ∈ pairsOf t0.hierarchy.reverse,
          t0.childToParent cp.1 (path cp.1) = some (path cp.2)) ∧
        ∀ l ∈ t0.hierarchy, path l ∈ t0.nodesAt l ∧
          ∃ e', o.levels.lookup l = some e' ∧ e'.assignment = path l ∧
            (l ≠ ll → e'.direct = some false ∧ e'.ru = none) := by
  have hrun : runTree t0 cfg = .ok t0.flatten := by rw [runTree_none hdrop, hflat]; rfl
  exact (runs_path hwf0 hrun hv hlen hnd hproc hcs horder).imp fun _ h => ⟨h.1, h.2.1,
    fun o ho => (h.2.2 o ho).imp fun _ hp => ⟨hp.1, fun x hx => (hp.2 x hx).imp_right <|
      Exists.imp fun _ he => ⟨he.1, he.2.1, fun hxl => he.2.2.2 (by
        simpa only [RawTree.flatten, hleaf, List.mem_singleton] using hxl)⟩⟩⟩

example : ∃ out, mapPipeline exTree { flatten := true, chunkSize := 2, nProc := 2 } exVote
    [7, 3, 9] [0, 1, 2] [1, 0] = .ok out ∧ out.length = 3 :=
  (flatten_path exTree { flatten := true, chunkSize := 2, nProc := 2 } exVote 2 [7, 3, 9] [0, 1, 2]
    [1, 0] rfl rfl (by decide +kernel) exTree_wf (exVote_ok _) rfl (by decide +kernel)
    (by decide +kernel) (by decide +kernel) (by decide +kernel)).imp fun _ h => ⟨h.1, h.2.1⟩

/-- "... or a level is dropped for the run, in which case the levels that were
not voted on are inferred from the voted descendant and flagged as not
directly assigned": a run with `drop_level = l` (`l` any non-leaf level: top or
middle; `cl` the level right below it) on a well-formed stored tree (the
reduced tree is then well-formed too, `wfb_dropLevel`) NEVER fails, returns one
record per cell, and every record binds every level of the STORED hierarchy to
a node of that level, consecutive ones related by `child_to_parent` of the
stored tree; the voted levels are flagged `directly_assigned = True`, the
dropped level `False` and without runner-ups. -/
theorem drop_path {κ} (t0 t' : RawTree) (cfg : Config) (vote : Oracle κ)
    (l cl : Level) (pre post : List Level)
    (ids : List CellId) (cells : List κ) (order : List Nat)
    (hcfg : cfg.dropLevel = some l) (hflat : cfg.flatten = false)
    (hdrop : t0.dropLevel l = .ok t') (hs : t0.hierarchy = pre ++ l :: cl :: post)
    (hwf0 : wfb t0 = true) (hv : VoteOK t' vote)
    (hlen : ids.length = cells.length) (hnd : ids.Nodup)
    (hproc : 1 ≤ cfg.nProc) (hcs : 1 ≤ cfg.chunkSize)
    (horder : order.Perm (List.range
      (chunks cells.length (effChunk cells.length cfg.nProc cfg.chunkSize)).length)) :
    ∃ out, mapPipeline t0 cfg vote ids cells order = .ok out ∧ out.length = cells.length ∧
      ∀ o ∈ out, ∃ path : Level → Node,
        (∀ cp ∈ pairsOf t0.hierarchy.reverse,
          t0.childToParent cp.1 (path cp.1) = some (path cp.2)) ∧
        ∀ x ∈ t0.hierarchy, path x ∈ t0.nodesAt x ∧
          ∃ e', o.levels.lookup x = some e' ∧ e'.assignment = path x ∧
            (x = l → e'.direct = some false ∧ e'.ru = none) ∧
            (x ≠ l → e'.direct = some true) := by
  have hnd0 := wfb_nodup_hierarchy hwf0
  obtain ⟨hl, hh'⟩ := dropLevel_hierarchy hdrop
  have hrun : runTree t0 cfg = .ok t' := by rw [runTree_drop hcfg hl hdrop, hflat]; rfl
  exact (runs_path hwf0 hrun hv hlen hnd hproc hcs horder).imp fun _ h => ⟨h.1, h.2.1,
    fun o ho => (h.2.2 o ho).imp fun _ hp => ⟨hp.1, fun x hx => (hp.2 x hx).imp_right <|
      Exists.imp fun _ he => ⟨he.1, he.2.1,
        fun hxl => he.2.2.2 (by rw [hh', hxl]; exact hnd0.not_mem_erase),
        fun hxl => he.2.2.1 (by rw [hh']; exact hnd0.mem_erase_iff.mpr ⟨hxl, hx⟩)⟩⟩⟩

/-- the example taxonomy without its middle level (what `drop_level` returns) -/
def exDropped : RawTree :=
  { hierarchy := [0, 2],
    levels := [(0, [(10, [31, 32, 30])]), (2, [(30, [5]), (31, [6]), (32, [])])] }

example : ∃ out, mapPipeline exTree { dropLevel := some 1, chunkSize := 2, nProc := 2 } exVote
    [7, 3, 9] [0, 1, 2] [1, 0] = .ok out ∧ out.length = 3 :=
  (drop_path exTree exDropped { dropLevel := some 1, chunkSize := 2, nProc := 2 } exVote 1 2 [0] []
    [7, 3, 9] [0, 1, 2] [1, 0] rfl rfl exTree_dropLevel rfl exTree_wf (exVote_ok _) rfl
    (by decide +kernel) (by decide +kernel) (by decide +kernel) (by decide +kernel)).imp
    fun _ h => ⟨h.1, h.2.1⟩

/-- flatten AND drop_level together (`drop_level = l` a non-leaf level of the
stored tree): the run never fails, returns one record per cell, and every
record is a root-to-leaf path of the STORED tree; every level above the leaf
level — the dropped one included — is flagged `directly_assigned = False` and
carries no runner-ups.  (The oracle is assumed good on `t0.flatten`; the run votes
on `t'.flatten`, which has the same one level: `voteOK_onelevel`.) -/
theorem flatten_drop_path {κ} (t0 t' : RawTree) (cfg : Config) (vote : Oracle κ)
    (l cl ll : Level) (pre post : List Level)
    (ids : List CellId) (cells : List κ) (order : List Nat)
    (hdrop : t0.dropLevel l = .ok t') (hs : t0.hierarchy = pre ++ l :: cl :: post)
    (hleaf : t0.leafLevel = some ll) (hwf0 : wfb t0 = true) (hv : VoteOK t0.flatten vote)
    (hlen : ids.length = cells.length) (hnd : ids.Nodup)
    (hproc : 1 ≤ cfg.nProc) (hcs : 1 ≤ cfg.chunkSize)
    (horder : order.Perm (List.range
      (chunks cells.length (effChunk cells.length cfg.nProc cfg.chunkSize)).length)) :
    ∃ out, mapPipeline t0 { cfg with dropLevel := some l, flatten := true } vote ids cells order
        = .ok out ∧ out.length = cells.length ∧
      ∀ o ∈ out, ∃ path : Level → Node,
        (∀ cp ∈ pairsOf t0.hierarchy.reverse,
          t0.childToParent cp.1 (path cp.1) = some (path cp.2)) ∧
        ∀ x ∈ t0.hierarchy, path x ∈ t0.nodesAt x ∧
          ∃ e', o.levels.lookup x = some e' ∧ e'.assignment = path x ∧
            (x ≠ ll → e'.direct = some false ∧ e'.ru = none) := by
  have hrun : runTree t0 { cfg with dropLevel := some l, flatten := true } = .ok t'.flatten :=
    runTree_drop rfl (dropLevel_hierarchy hdrop).1 hdrop
  have hh : t'.flatten.hierarchy = [ll] := by
    simp only [RawTree.flatten, (Reduces.dropLevel hwf0 hdrop).leaf.trans hleaf]
  have hv' : VoteOK t'.flatten vote :=
    voteOK_onelevel (by simp only [RawTree.flatten, hleaf]) hh hv
  exact (runs_path hwf0 hrun hv' hlen hnd hproc hcs horder).imp fun _ h => ⟨h.1, h.2.1,
    fun o ho => (h.2.2 o ho).imp fun _ hp => ⟨hp.1, fun x hx => (hp.2 x hx).imp_right <|
      Exists.imp fun _ he => ⟨he.1, he.2.1, fun hxl => he.2.2.2 (by
        simpa only [hh, List.mem_singleton] using hxl)⟩⟩⟩

example : ∃ out, mapPipeline exTree { dropLevel := some 1, flatten := true, chunkSize := 2, nProc := 2 }
    exVote [7, 3, 9] [0, 1, 2] [1, 0] = .ok out ∧ out.length = 3 :=
  (flatten_drop_path exTree exDropped { chunkSize := 2, nProc := 2 } exVote 1 2 2 [0] []
    [7, 3, 9] [0, 1, 2] [1, 0] exTree_dropLevel rfl (by decide +kernel) exTree_wf (exVote_ok _) rfl
    (by decide +kernel) (by decide +kernel) (by decide +kernel) (by decide +kernel)).imp
    fun _ h => ⟨h.1, h.2.1⟩

end CTM.C01
