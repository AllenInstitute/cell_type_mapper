/-
  Property C12 — selected query markers cover every cluster pair as far as
  possible.  Theorems about the model `CTM/Model/Selection.lean`
  (`_run_selection`, `select_marker_genes_v2`, `select_all_markers` with
  `genes_at_a_time = 1`), for every reference-marker table, query, target and
  EVERY tie-breaking policy: the policy `tie` is an arbitrary function; the
  model refuses (`illegalPick`) an answer that is not a gene of maximal
  utility, so a successful run is a run of the greedy loop under some legal
  tie order, and conversely every legal policy yields a successful run
  (`terminates`).

  Hypothesis `TableWF t` = the file is as `diff_exp/markers.py` writes it: per
  pair the up/down lists have no repeats, are disjoint, and hold gene indices
  `< nGenes`.  The pairs a parent must discriminate are an input (`leaves`,
  global pair indices as `taxonomy_tree.leaves_to_compare` lists them; their
  exactness is C10).

  After the invariant and the greedy pick: the block loop of `create_utility_array`,
  termination, coverage and well-formedness of one parent's selection, the whole of
  `select_all_markers`, several reference files (`multi_spec`), independence of the table path
  and of the behemoth cut-off.  The worker count is `Props/C12/Workers.lean`; `leaves` read
  off the taxonomy tree (C10) is `Props/C12/Bridge.lean`.
-/
import CTM.Lemmas.Selection
import CTM.Generated.SelectionConsts

namespace CTM.C12
open CTM.Selection

/-! ### sample data (also used by `Props/C12/Bridge.lean` and `Props/C12/Workers.lean`) -/

/-- a sample table: 4 reference genes, 3 pairs -/
def sampleTable : RefTable :=
  { nGenes := 4, pairs := [⟨[0], [1, 2]⟩, ⟨[], [3]⟩, ⟨[2, 3], [0]⟩] }

/-- (non-vacuity of `TableWF`) -/
example : TableWF sampleTable := by
  unfold TableWF
  decide +kernel

/-- the thinned sample (query = genes 0, 2, 3 and a gene the reference lacks) -/
def sampleThin : Thinned := { kept := [0, 2, 3], pairs := [⟨[0], [1]⟩, ⟨[], [2]⟩, ⟨[1, 2], [0]⟩] }

example : thin sampleTable [3, 9, 0, 2] = .ok sampleThin := by decide +kernel

/-! ### the invariant, the greedy pick, the desperate phase -/

/-- "utility = number of unfilled (pair, direction) slots a gene marks; …
marker_counts / been_filled / utility_array" (anchors.state and mechanism 1–2 of C12 in
properties.jsonl):
at the exit of `_run_selection`, for every tie-breaking policy,
* the utility of every gene not chosen is the number of unfilled slots it marks,
* the counts of every pair are the census of the chosen genes among its
  markers (hence never above the number of markers), `aggregate` is their sum,
* a slot is flagged filled exactly when its fill condition holds. -/
theorem inv {nG n : Nat} {pairs : List Pair} {tie : Tie} {st : St}
    (hp : ∀ p ∈ pairs, PairWF nG p) (h : runState nG pairs n tie = .ok st) :
    st.slots.map Slot.toPair = pairs ∧
    (∀ g, g < nG → g ∉ st.chosen → st.util[g]? = some (specUtil st.slots g)) ∧
    (∀ s ∈ st.slots, s.cUp = cnt st.chosen s.up ∧ s.cDown = cnt st.chosen s.down ∧
        s.agg = s.cDown + s.cUp ∧ s.cUp ≤ s.up.length ∧ s.cDown ≤ s.down.length) ∧
    (∀ s ∈ st.slots, (s.fDown = true ↔ s.condDown n = true) ∧
        (s.fUp = true ↔ s.condUp n = true)) := by
  obtain ⟨hI, hF, _⟩ := runState_exit hp h
  refine ⟨hI.shape, hI.util, ?_, ?_⟩
  · intro s hs
    have := hI.slot s hs
    refine ⟨this.cUp, this.cDown, this.agg, ?_, ?_⟩
    · rw [this.cUp]; exact cnt_le _ _
    · rw [this.cDown]; exact cnt_le _ _
  · intro s hs
    have := hI.slot s hs
    exact ⟨⟨this.fDown, (hF s hs).1⟩, ⟨this.fUp, (hF s hs).2⟩⟩

/-- the same facts as an invariant of every step (`Inv` is the conjunction
above plus: chosen genes are distinct, in range, have utility ≤ -1, and each
marks some pair): it holds initially, `_update_been_filled` preserves it, and
so does choosing any in-range unchosen gene that marks some pair — "filled"
flags only ever go from false to true (`Slot.fill`). -/
theorem inv_step {nG n : Nat} {pairs : List Pair} (hp : ∀ p ∈ pairs, PairWF nG p) :
    Inv n nG pairs (initState nG pairs) ∧
    (∀ st, Inv n nG pairs st → Inv n nG pairs (updateBeenFilled n st)) ∧
    (∀ st st' g, Inv n nG pairs st → g < nG → (∃ p ∈ pairs, g ∈ p.up ∨ g ∈ p.down) →
        chooseGene g st = .ok st' → Inv n nG pairs st') ∧
    (∀ s : Slot, ((s.fill n).fDown = false → s.fDown = false) ∧
        ((s.fill n).fUp = false → s.fUp = false)) := by
  refine ⟨Inv.init hp, fun st h => h.update, fun st st' g h hg hm hc => h.choose hg hm hc, ?_⟩
  intro s
  simp only [fill_fDown, fill_fUp, Bool.or_eq_false_iff]
  exact ⟨fun h => h.1, fun h => h.1⟩

example : ∀ p ∈ sampleThin.pairs, PairWF 3 p := by decide +kernel

example : (runState 3 sampleThin.pairs 1 tieFirst).map (·.chosen) = .ok [2, 0, 1] := by decide +kernel

/-- "utility = number of unfilled (pair, direction) slots a gene marks; greedy
pick of the maximum": in any state of the loop (`Inv`), a pick the model
accepts (`legalPick`, made only while the maximal utility is positive) is a
gene not chosen before, marks at least one unfilled slot, and no unchosen gene
marks more unfilled slots. -/
theorem greedy_pick {n nG : Nat} {pairs : List Pair} {st : St} {m : Int} {g : Nat}
    (h : Inv n nG pairs st) (hm : maxUtil st.util = some m) (hpos : ¬ m ≤ 0)
    (hl : legalPick st.util g = true) :
    g ∉ st.chosen ∧ 0 < specUtil st.slots g ∧
      ∀ g', g' < nG → g' ∉ st.chosen → specUtil st.slots g' ≤ specUtil st.slots g :=
  (pick_spec h hm hpos hl).2

example : legalPick [1, 3, -1, 3] 3 = true ∧ legalPick [1, 3, -1, 3] 0 = false := by decide +kernel

/-- "pairs with at most the target number of markers have all of them taken up
front" (`_choose_desperate_markers`): before the main loop starts, every
marker (in the query) of a pair with `0 < #markers ≤ n` has been chosen. -/
theorem desperate_all_taken {n nG : Nat} {pairs : List Pair} {st : St}
    (hp : ∀ p ∈ pairs, PairWF nG p) (h : preState nG pairs n = .ok st) :
    ∀ p ∈ pairs, 0 < p.down.length + p.up.length → p.down.length + p.up.length ≤ n →
      ∀ g, g ∈ p.up ∨ g ∈ p.down → g ∈ st.chosen := by
  intro p hpm h0 hn g hg
  have hu := (Inv.init (n := n) hp).update
  rw [preState_eq hp] at h
  cases h
  rw [← hu.shape] at hpm
  obtain ⟨s, hs, rfl⟩ := List.mem_map.mp hpm
  refine mem_chosen_foldl_chooseIfNew.mpr (Or.inr (mem_desperateList.mpr ⟨s, hs, ?_, ?_, hg⟩))
  · rw [Slot.desperate, Bool.and_eq_true, decide_eq_true_eq, decide_eq_true_eq]
    exact ⟨h0, hn⟩
  · exact hg.elim ((hu.wf s hs).upLt g) ((hu.wf s hs).downLt g)

example : (preState 3 sampleThin.pairs 2).map (·.chosen) = .ok [0, 1, 2] := by decide +kernel

/-! ### the block loop of `create_utility_array` -/

/-- `create_utility_array` visits the parent's pairs in blocks
(`for pair0 in range(0, n_taxon, batch_size)`): for EVERY block size ≥ 1 the
blocks partition the pair list — no block border and no trailing partial block
is lost or visited twice … -/
theorem block_slices_cover {α : Type} (bs : Nat) (hbs : 0 < bs) (l : List α) :
    (blockSlices bs l).flatten = l :=
  blockSlices_flatten bs hbs l

/-- … hence the utility accumulated block by block is the utility over all the
parent's pairs, and the initial arrays the model builds with the code's block
size (`utilityBlock gbSize nGenes`) are those of the whole-table sum on which
`inv` … `indep` are proved. -/
theorem utility_blocks (bs : Nat) (hbs : 0 < bs) (slots : List Slot) (g : Nat) (nGenes : Nat)
    (pairs : List Pair) :
    initUtilB bs slots g = initUtil slots g ∧
    initStateB bs nGenes pairs = initStateWhole nGenes pairs ∧
    initState nGenes pairs = initStateWhole nGenes pairs :=
  ⟨initUtilB_eq bs hbs slots g, initStateB_eq bs hbs nGenes pairs, initState_eq_whole nGenes pairs⟩

example : blockSlices 2 [1, 2, 3, 4, 5] = [[1, 2], [3, 4], [5]] := by decide +kernel
example : utilityBlock 10 200000 = 17896 := by decide +kernel

/-- pins the source text of the block arithmetic as re-extracted from the current source
(`CTM/Generated/SelectionConsts.lean`, rewritten by `./check C12`): `gb_size`, `byte_size`,
`batch_size`, the loop header and the slice end.  `utilityBlock` and `blockSlices` are its
translation by hand; only `gbSize` is compared with the model. -/
theorem block_constants_pinned :
    CTM.Generated.SelectionConsts.gbSize = gbSize ∧
    CTM.Generated.SelectionConsts.byteSizeExpr = "gb_size * 1024 ** 3" ∧
    CTM.Generated.SelectionConsts.batchSizeExpr =
      "max(1, np.round(byte_size / (3 * n_genes)).astype(int))" ∧
    CTM.Generated.SelectionConsts.blockLoop = "pair0 in range(0, n_taxon, batch_size)" ∧
    CTM.Generated.SelectionConsts.pair1Expr = "min(n_pairs, pair0 + batch_size)" :=
  ⟨rfl, rfl, rfl, rfl, rfl⟩

/-! ### termination -/

/-- the `while True` loop of `_run_selection` stops: under every legal
tie-breaking policy (one that always names a gene of maximal utility, as
`np.argsort(...)[-1]` does) the run ends successfully — in particular the
fuel bound `nGenes + 1` of the model is never reached and no gene is chosen
twice. -/
theorem terminates {nG n : Nat} {pairs : List Pair} {tie : Tie}
    (hp : ∀ p ∈ pairs, PairWF nG p) (hG : 0 < nG) (ht : LegalTie tie) :
    ∃ st, runState nG pairs n tie = .ok st := by
  have := runState_spec (n := n) (tie := tie) hp
  cases h : runState nG pairs n tie with
  | ok st => exact ⟨st, rfl⟩
  | error e =>
    rw [h] at this
    rcases this with ⟨_, hn⟩ | ⟨_, h0⟩
    · exact absurd ht hn
    · omega

/-- for an arbitrary (possibly illegal) policy the only possible failures are
the model's refusal of an illegal pick, or `max()` of an empty utility array
when there is no gene at all: never `outOfFuel`, never `choseTwice`, never the
up/down assertion. -/
theorem terminates_any {nG n : Nat} {pairs : List Pair} {tie : Tie} {e : Err}
    (hp : ∀ p ∈ pairs, PairWF nG p) (h : runState nG pairs n tie = .error e) :
    (e = .illegalPick ∧ ¬ LegalTie tie) ∨ (e = .emptyMax ∧ nG = 0) := by
  have := runState_spec (n := n) (tie := tie) hp
  rwa [h] at this

example : LegalTie tieFirst := tieFirst_legal

/-! ### coverage and well-formedness of one parent's selection -/

/-- "For every such leaf pair the number of selected genes that are reference
markers of the pair is at least the smaller of twice the per-direction target
and the number of the pair's reference markers available in the query."
`names` is what the parent gets; `k` ranges over the pairs the parent must
discriminate; `p.up ++ p.down` are the pair's reference markers. For every
table, query, target, tie policy, and both table paths (`beh`). -/
theorem coverage {t : RefTable} {query leaves : List Nat} {beh : Bool} {n : Nat} {tie : Tie}
    {th : Thinned} {names : List Nat}
    (ht : TableWF t) (hth : thin t query = .ok th)
    (h : selectParent th leaves beh n tie = .ok names) :
    ∀ k ∈ leaves, ∀ p, t.pairs[k]? = some p →
      min (2 * n) ((p.up ++ p.down).countP (fun g => query.contains g))
        ≤ names.countP (fun g => (p.up ++ p.down).contains g) := by
  intro k hk p hpk
  obtain ⟨st, hr, hnames, hwf, hfwd, _⟩ := selectParent_pieces ht hth (List.ne_nil_of_mem hk) h
  obtain ⟨hkept, _⟩ := thin_ok hth
  have hpw : PairWF t.nGenes p := ht p (List.mem_of_getElem? hpk)
  have hcov := coverage_pairs hwf hr (thinPair th.kept p) (hfwd k hk p hpk)
  obtain ⟨hI, _, _⟩ := runState_exit hwf hr
  rw [hnames, countP_names (hkept ▸ keptGenes_nodup _ _) hI.nodup hI.lt hpw, List.countP_append,
    ← length_thinList_kept hpw.upLt, ← length_thinList_kept hpw.downLt, ← hkept]
  exact hcov

/-- the same bound on the arrays `_run_selection` works with (after thinning
to the query genes and restriction to the parent's pairs). -/
theorem coverage_core {nG n : Nat} {pairs : List Pair} {tie : Tie} {chosen : List Nat}
    (hp : ∀ p ∈ pairs, PairWF nG p) (h : runSelection nG pairs n tie = .ok chosen) :
    ∀ p ∈ pairs, min (2 * n) (p.up ++ p.down).length
      ≤ chosen.countP (fun g => (p.up ++ p.down).contains g) := by
  intro p hpm
  obtain ⟨st, hr, rfl⟩ := runSelection_ok h
  rw [countP_markers (hp p hpm) (runState_exit hp hr).1.nodup, List.length_append]
  exact coverage_pairs hp hr p hpm

example : selectParent sampleThin [0, 2] false 1 tieFirst = .ok [0, 2] := by decide +kernel

/-- "For each parent node the selected genes are free of duplicates, occur in
the query and are reference markers of at least one leaf pair that the parent
must discriminate". -/
theorem wf {t : RefTable} {query leaves : List Nat} {beh : Bool} {n : Nat} {tie : Tie}
    {th : Thinned} {names : List Nat}
    (ht : TableWF t) (hth : thin t query = .ok th)
    (h : selectParent th leaves beh n tie = .ok names) :
    names.Nodup ∧
    (∀ g ∈ names, g ∈ query ∧ g < t.nGenes) ∧
    (∀ g ∈ names, ∃ k ∈ leaves, ∃ p, t.pairs[k]? = some p ∧ (g ∈ p.up ∨ g ∈ p.down)) := by
  by_cases hne : leaves = []
  · subst hne
    cases h
    exact ⟨List.nodup_nil, nofun, nofun⟩
  obtain ⟨st, hr, rfl, hwf, _, hback⟩ := selectParent_pieces ht hth hne h
  obtain ⟨hkept, _⟩ := thin_ok hth
  obtain ⟨hI, _, _⟩ := runState_exit hwf hr
  have hkn : th.kept.Nodup := hkept ▸ keptGenes_nodup _ _
  refine ⟨?_, List.forall_mem_map.mpr fun i hi => ?_, List.forall_mem_map.mpr fun i hi => ?_⟩
  · refine List.Nodup.map_on (fun i hi j hj hij => ?_) hI.nodup
    rw [ListAux.getD_eq_getElem _ _ (hI.lt i hi), ListAux.getD_eq_getElem _ _ (hI.lt j hj)] at hij
    exact (List.Nodup.getElem_inj_iff hkn).mp hij
  · have : th.kept.getD i 0 ∈ keptGenes t.nGenes query := by
      rw [← hkept, ListAux.getD_eq_getElem _ _ (hI.lt i hi)]
      exact List.getElem_mem _
    exact (mem_keptGenes.mp this).symm
  · obtain ⟨p', hp', hm⟩ := hI.marks i hi
    obtain ⟨k, hk, p, hpk, rfl⟩ := hback p' hp'
    rw [thinPair, mem_thinList_iff_getD hkn (hI.lt i hi),
      mem_thinList_iff_getD hkn (hI.lt i hi)] at hm
    exact ⟨k, hk, p, hpk, hm⟩

/-- "a parent with nothing to discriminate gets none" -/
theorem wf_trivial (th : Thinned) (beh : Bool) (n : Nat) (tie : Tie) :
    selectParent th [] beh n tie = .ok [] := rfl

/-- … also when the parent has pairs but none of them has a marker in the
query: nothing is selected. -/
theorem wf_no_markers {nG n : Nat} {pairs : List Pair} {tie : Tie} {chosen : List Nat}
    (hp : ∀ p ∈ pairs, p.up = [] ∧ p.down = [])
    (h : runSelection nG pairs n tie = .ok chosen) : chosen = [] := by
  have hwf : ∀ p ∈ pairs, PairWF nG p := fun p hpm => by
    obtain ⟨h1, h2⟩ := hp p hpm
    constructor <;> simp [h1, h2]
  obtain ⟨st, hr, rfl⟩ := runSelection_ok h
  refine List.eq_nil_iff_forall_not_mem.mpr fun g hg => ?_
  obtain ⟨p, hpm, hm⟩ := (runState_exit hwf hr).1.marks g hg
  rw [(hp p hpm).1, (hp p hpm).2] at hm
  exact hm.elim nofun nofun

example : selectParent sampleThin [1] false 2 tieFirst = .ok [3] := by decide +kernel

/-! ### the whole of `select_all_markers` -/

/-- all clauses of the first two sentences of C12 for the result of
`select_all_markers` (any cut-off, any per-parent tie policies, per-parent
targets `p.n` after `n_per_utility_override`): one entry per parent, and every
entry that is a selection is well-formed and covers each of the parent's pairs
up to `min (2n) (available)`. -/
theorem select_all_spec {t : RefTable} {query : List Nat} {parents : List Parent} {cutoff : Nat}
    {ties : Nat → Tie} {r : List (Except Err (List Nat))}
    (ht : TableWF t) (h : selectAll t query parents cutoff ties = .ok r) :
    r.length = parents.length ∧
    ∀ (i : Nat) (p : Parent) (names : List Nat), parents[i]? = some p →
      r[i]? = some (Except.ok names) →
      names.Nodup ∧ (∀ g ∈ names, g ∈ query ∧ g < t.nGenes) ∧
      (∀ g ∈ names, ∃ k ∈ p.leaves, ∃ pr, t.pairs[k]? = some pr ∧ (g ∈ pr.up ∨ g ∈ pr.down)) ∧
      (p.leaves = [] → names = []) ∧
      (∀ k ∈ p.leaves, ∀ pr, t.pairs[k]? = some pr →
        min (2 * p.n) ((pr.up ++ pr.down).countP (fun g => query.contains g))
          ≤ names.countP (fun g => (pr.up ++ pr.down).contains g)) := by
  obtain ⟨th, hth, hlen, hget⟩ := selectAll_ok h
  refine ⟨hlen, fun i p names hp hi => ?_⟩
  rw [hget i p hp, Option.some.injEq] at hi
  obtain ⟨h1, h2, h3⟩ := wf ht hth hi
  refine ⟨h1, h2, h3, fun hl => ?_, coverage ht hth hi⟩
  rw [hl] at hi
  cases hi
  rfl

example : selectAll sampleTable [3, 9, 0, 2] [⟨[2], 1⟩, ⟨[], 2⟩] 7 (fun _ => tieFirst)
    = .ok [.ok [0, 2], .ok []] := by decide +kernel

/-! ### several reference-marker files -/

/-- `create_marker_gene_lookup_from_ref_list` with several reference-marker
files (`selectMulti`): a parent is selected on the file with the largest cell
census under it (the first such file), and on THAT file's table, with the
WHOLE query (not the genes common to all files), its selection satisfies all
clauses of C12: duplicate-free, in the query, each gene a marker (in that file)
of a pair the parent must discriminate, every such pair covered up to
`min (2n) (its markers in that file available in the query)`. -/
theorem multi_spec {tables : List RefTable} {query : List Nat} {parents : List MParent}
    {cutoff : Nat} {ties : Nat → Tie}
    (hts : ∀ t ∈ tables, TableWF t) (i : Nat) (p : MParent) (names : List Nat)
    (hp : parents[i]? = some p)
    (hr : (selectMulti tables query parents cutoff ties)[i]? = some (Except.ok names)) :
    ∃ (f : Nat) (t : RefTable) (m : Nat), tables[f]? = some t ∧ p.census[f]? = some m ∧
      (∀ (k v : Nat), p.census[k]? = some v → v ≤ m) ∧
      (∀ k, k < f → ∀ v, p.census[k]? = some v → v < m) ∧
      names.Nodup ∧ (∀ g ∈ names, g ∈ query ∧ g < t.nGenes) ∧
      (∀ g ∈ names, ∃ k ∈ p.leaves, ∃ pr : Pair, t.pairs[k]? = some pr ∧
        (g ∈ pr.up ∨ g ∈ pr.down)) ∧
      (∀ k ∈ p.leaves, ∀ pr : Pair, t.pairs[k]? = some pr →
        min (2 * p.n) ((pr.up ++ pr.down).countP (fun g => query.contains g))
          ≤ names.countP (fun g => (pr.up ++ pr.down).contains g)) := by
  obtain ⟨f, t, th, hf, ht, hth, hs⟩ := selectMulti_ok hp hr
  obtain ⟨m, hm1, hm⟩ := assignFile_spec hf
  have htw : TableWF t := hts t (List.mem_of_getElem? ht)
  obtain ⟨h1, h2, h3⟩ := wf htw hth hs
  exact ⟨f, t, m, ht, hm1, fun k v h => (hm k v h).1, fun k hk v h => (hm k v h).2 hk, h1, h2, h3,
    coverage htw hth hs⟩

example : assignFile [3, 7, 7, 2] = some 1 ∧ assignFile [] = none := by decide +kernel

example : selectMulti [sampleTable, ⟨2, [⟨[0], [1]⟩, ⟨[], []⟩, ⟨[], [1]⟩]⟩] [3, 9, 0, 2, 1]
    [⟨[2], 1, [5, 1]⟩, ⟨[0], 1, [2, 4]⟩] 7 (fun _ => tieFirst) = [.ok [0, 2], .ok [0, 1]] := by
  decide +kernel

/-! ### independence of the table path and of the behemoth cut-off -/

/-- "The selection is the same for … any threshold deciding which parents are
processed on the full table": for one parent, selection on the full thinned
table with the sorted array of global pair indices (`spawn_copy`, behemoth
path) and selection on the table restricted to the parent's pairs in
`leaves_to_compare` order (`downsample_pairs_to_other`) choose the same genes,
under any tie-breaking policy that looks at the utility array only (as
`np.argsort(utility_array)` does; the list of chosen genes, a policy's other argument, comes
in a different order on the two paths).  The two ordered lists can differ in the
order of the forced "desperate" prefix, hence `Perm` and not `=`. -/
theorem indep {t : RefTable} {query leaves : List Nat} {n : Nat} {pol : List Int → Nat}
    {th : Thinned} {a b : List Nat}
    (ht : TableWF t) (hth : thin t query = .ok th)
    (ha : selectParent th leaves true n (fun _ u => pol u) = .ok a)
    (hb : selectParent th leaves false n (fun _ u => pol u) = .ok b) : a.Perm b :=
  selectParent_perm ht hth ha hb

/-- … and therefore the result of `select_all_markers` does not depend on the
behemoth cut-off: parent by parent the same genes are selected.  (The worker count and the
completion order of the workers: `selection_worker_indep` in `Props/C12/Workers.lean`.) -/
theorem indep_cutoff {t : RefTable} {query : List Nat} {parents : List Parent} {c1 c2 : Nat}
    {pol : Nat → List Int → Nat} {r1 r2 : List (Except Err (List Nat))}
    (ht : TableWF t)
    (h1 : selectAll t query parents c1 (fun i _ u => pol i u) = .ok r1)
    (h2 : selectAll t query parents c2 (fun i _ u => pol i u) = .ok r2) :
    r1.length = r2.length ∧
    ∀ (i : Nat) (a b : List Nat), r1[i]? = some (Except.ok a) → r2[i]? = some (Except.ok b) →
      a.Perm b := by
  obtain ⟨th, hth, hl1, hg1⟩ := selectAll_ok h1
  obtain ⟨th', hth', hl2, hg2⟩ := selectAll_ok h2
  cases hth.symm.trans hth'
  refine ⟨hl1.trans hl2.symm, fun i a b hi1 hi2 => ?_⟩
  have hi : i < parents.length := hl1 ▸ (List.getElem?_eq_some_iff.mp hi1).1
  obtain ⟨p, hp⟩ : ∃ p, parents[i]? = some p := ⟨_, List.getElem?_eq_getElem hi⟩
  rw [hg1 i p hp, Option.some.injEq] at hi1
  rw [hg2 i p hp, Option.some.injEq] at hi2
  exact selectParent_perm ht hth hi1 hi2

/-- (non-vacuity of `indep`: both hypotheses hold for the sample, on the two
table paths; here the two ordered lists even coincide) -/
example : selectParent sampleThin [2, 0] false 1 (fun _ u => lastArgmax u) = .ok [2, 0] := by
  decide +kernel

example : selectParent sampleThin [2, 0] true 1 (fun _ u => lastArgmax u) = .ok [2, 0] := by
  -- the behemoth path sorts with `List.mergeSort`, which `decide` does not reduce
  have h : localOrder [2, 0] true = [0, 2] := by simp [localOrder, List.mergeSort]
  unfold selectParent
  rw [h]
  decide +kernel

end CTM.C12
