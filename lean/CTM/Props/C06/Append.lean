/-
  C06 — the output of a query is the row-wise concatenation of the outputs of
  its parts.

  "the result for a cell ... is unchanged by ... removing, adding or
  duplicating other cells": stated for whole output LISTS rather than one
  position (`C06.company_independent` is the pointwise form).  Mapping the
  concatenation of two queries — with any chunk sizes, worker counts and
  gathering orders for the three runs — is mapping each part and concatenating,
  including which error comes out first when a part fails; and the output has
  exactly one record per query row.
-/
import CTM.Props.C06

namespace CTM.C06
open CTM CTM.LevelLoop

/-- one record per row: the output is as long as the query -/
theorem output_length {κ} (t0 t : RawTree) (vote : Oracle κ) (cfg : Config)
    (ids : List CellId) (cells : List κ) (order : List Nat)
    (hrun : runTree t0 cfg = .ok t) (hwf : wfb t = true) (hv : VoteOK t vote)
    (hlen : ids.length = cells.length) (hnd : ids.Nodup)
    (hproc : 1 ≤ cfg.nProc) (hcs : 1 ≤ cfg.chunkSize)
    (horder : order.Perm (List.range
      (chunks cells.length (effChunk cells.length cfg.nProc cfg.chunkSize)).length))
    (out : List Record) (hout : mapPipeline t0 cfg vote ids cells order = .ok out) :
    out.length = cells.length := by
  exact (mapPipeline_mem hrun hwf hv hlen hnd hproc hcs horder hout).1

example : ∀ out,
    mapPipeline exTree { chunkSize := 2, nProc := 2 } exVote [7, 3, 9] [0, 1, 2] [1, 0] = .ok out →
    out.length = 3 :=
  fun out h => output_length exTree exTree exVote { chunkSize := 2, nProc := 2 } [7, 3, 9]
    [0, 1, 2] [1, 0] rfl exTree_wf (exVote_ok _) rfl (by decide +kernel) (by decide +kernel) (by decide +kernel)
    (by decide +kernel) out h

/-- "adding ... other cells": the query `A ++ B` maps to (the mapping of `A`)
`++` (the mapping of `B`), whatever the three runs' chunk sizes, worker counts
and gathering orders; if a part fails, the whole fails with the first part's
error first. -/
theorem append_queries {κ} (t0 t : RawTree) (vote : Oracle κ) (cfg cfgA cfgB : Config)
    (idsA idsB : List CellId) (cellsA cellsB : List κ) (order orderA orderB : List Nat)
    (hrun : runTree t0 cfg = .ok t) (hrunA : runTree t0 cfgA = .ok t)
    (hrunB : runTree t0 cfgB = .ok t)
    (hwf : wfb t = true) (hv : VoteOK t vote)
    (hlenA : idsA.length = cellsA.length) (hlenB : idsB.length = cellsB.length)
    (hnd : (idsA ++ idsB).Nodup)
    (hproc : 1 ≤ cfg.nProc) (hprocA : 1 ≤ cfgA.nProc) (hprocB : 1 ≤ cfgB.nProc)
    (hcs : 1 ≤ cfg.chunkSize) (hcsA : 1 ≤ cfgA.chunkSize) (hcsB : 1 ≤ cfgB.chunkSize)
    (horder : order.Perm (List.range
      (chunks (cellsA ++ cellsB).length
        (effChunk (cellsA ++ cellsB).length cfg.nProc cfg.chunkSize)).length))
    (horderA : orderA.Perm (List.range
      (chunks cellsA.length (effChunk cellsA.length cfgA.nProc cfgA.chunkSize)).length))
    (horderB : orderB.Perm (List.range
      (chunks cellsB.length (effChunk cellsB.length cfgB.nProc cfgB.chunkSize)).length)) :
    mapPipeline t0 cfg vote (idsA ++ idsB) (cellsA ++ cellsB) order =
      (do let a ← mapPipeline t0 cfgA vote idsA cellsA orderA
          let b ← mapPipeline t0 cfgB vote idsB cellsB orderB
          pure (a ++ b)) := by
  have hndA : idsA.Nodup := (List.nodup_append.mp hnd).1
  have hndB : idsB.Nodup := (List.nodup_append.mp hnd).2.1
  have hlen : (idsA ++ idsB).length = (cellsA ++ cellsB).length := by
    simp [hlenA, hlenB]
  rw [mapPipeline_spec t0 t cfg vote _ _ order hrun hwf hv hlen hnd hproc hcs horder,
    mapPipeline_spec t0 t cfgA vote _ _ orderA hrunA hwf hv hlenA hndA hprocA hcsA horderA,
    mapPipeline_spec t0 t cfgB vote _ _ orderB hrunB hwf hv hlenB hndB hprocB hcsB horderB]
  unfold backfill
  rw [List.zipWith_append hlenA, List.map_append, List.mapM_append]

example :
    mapPipeline exTree { chunkSize := 2, nProc := 2 } exVote [7, 3, 9] [0, 1, 2] [1, 0] =
      (do let a ← mapPipeline exTree { chunkSize := 1, nProc := 1 } exVote [7] [0] [0]
          let b ← mapPipeline exTree { chunkSize := 5, nProc := 3 } exVote [3, 9] [1, 2] [1, 0]
          pure (a ++ b)) :=
  append_queries exTree exTree exVote _ _ _ [7] [3, 9] [0] [1, 2] _ _ _ rfl rfl rfl exTree_wf
    (exVote_ok _) rfl rfl (by decide +kernel) (by decide +kernel) (by decide +kernel) (by decide +kernel) (by decide +kernel) (by decide +kernel)
    (by decide +kernel) (by decide +kernel) (by decide +kernel) (by decide +kernel)

/-- "removing ... other cells": dropping the rows of `B` from the end of a query that
mapped successfully leaves the records of the first rows as they were. -/
theorem remove_suffix {κ} (t0 t : RawTree) (vote : Oracle κ) (cfg cfgA : Config)
    (idsA idsB : List CellId) (cellsA cellsB : List κ) (order orderA : List Nat)
    (hrun : runTree t0 cfg = .ok t) (hrunA : runTree t0 cfgA = .ok t)
    (hwf : wfb t = true) (hv : VoteOK t vote)
    (hlenA : idsA.length = cellsA.length) (hlenB : idsB.length = cellsB.length)
    (hnd : (idsA ++ idsB).Nodup)
    (hproc : 1 ≤ cfg.nProc) (hprocA : 1 ≤ cfgA.nProc)
    (hcs : 1 ≤ cfg.chunkSize) (hcsA : 1 ≤ cfgA.chunkSize)
    (horder : order.Perm (List.range
      (chunks (cellsA ++ cellsB).length
        (effChunk (cellsA ++ cellsB).length cfg.nProc cfg.chunkSize)).length))
    (horderA : orderA.Perm (List.range
      (chunks cellsA.length (effChunk cellsA.length cfgA.nProc cfgA.chunkSize)).length))
    (out : List Record)
    (hout : mapPipeline t0 cfg vote (idsA ++ idsB) (cellsA ++ cellsB) order = .ok out) :
    mapPipeline t0 cfgA vote idsA cellsA orderA = .ok (out.take cellsA.length) := by
  have hndA : idsA.Nodup := (List.nodup_append.mp hnd).1
  have hlen : (idsA ++ idsB).length = (cellsA ++ cellsB).length := by
    simp [hlenA, hlenB]
  rw [mapPipeline_spec t0 t cfg vote _ _ order hrun hwf hv hlen hnd hproc hcs horder] at hout
  rw [mapPipeline_spec t0 t cfgA vote _ _ orderA hrunA hwf hv hlenA hndA hprocA hcsA horderA]
  unfold backfill at hout ⊢
  -- a successful `mapM` is a `map`, and the records of `A ++ B` are those of `A`, then those of `B`
  rw [ListAux.mapM_eq_ok_iff] at hout ⊢
  rw [List.zipWith_append hlenA, List.map_append, List.map_append] at hout
  rw [List.map_take, ← hout, List.take_left' (by simp [hlenA])]

example : ∀ out,
    mapPipeline exTree { chunkSize := 2, nProc := 2 } exVote [7, 3, 9] [0, 1, 2] [1, 0] = .ok out →
    mapPipeline exTree { chunkSize := 1, nProc := 1 } exVote [7, 3] [0, 1] [1, 0] = .ok (out.take 2) :=
  fun out h => remove_suffix exTree exTree exVote { chunkSize := 2, nProc := 2 }
    { chunkSize := 1, nProc := 1 } [7, 3] [9] [0, 1] [2] [1, 0] [1, 0] rfl rfl exTree_wf
    (exVote_ok _) rfl rfl (by decide +kernel) (by decide +kernel) (by decide +kernel) (by decide +kernel) (by decide +kernel) (by decide +kernel)
    (by decide +kernel) out h

end CTM.C06
