/-
  C10 — the taxonomy stays a strict tree under construction and transformation.

  Theorems about the executable model `CTM/Model/Tree.lean` (which mirrors
  taxonomy/utils.py + taxonomy/taxonomy_tree.py of cell_type_mapper), for ALL
  trees: no bound on depth, width or number of rows.

  Vocabulary (CTM/Lemmas/TreeDefs.lean):
    `DictOK t`  every Python dict of the tree has distinct keys
    `WF t`      `validate t = .ok ()`, `t.hierarchy.Nodup`, `t.hierarchy ≠ []`, `DictOK t`
                (= `validate t = .ok () ∧ DictOK t`, see `wf_iff_validate`)
    `(pl, cl) ∈ levelPairs t.hierarchy`   cl is the level right below pl
    `t.level l` the dict of level l (association list node ↦ children / rows),
    `t.nodesAt l` its keys, `t.entry l n` = `tree[l][n]`
-/
import CTM.Lemmas.Tree
import CTM.Lemmas.TreeLca
import CTM.Lemmas.TreeLinks
import CTM.Lemmas.TreeEquivWF
import CTM.Generated.TreeConsts

namespace CTM.C10
open CTM CTM.RawTree

/-- a concrete tree for the non-vacuity examples:
levels 0 > 1 > 2 (2 = leaf level); nodes 10,11 / 20,21,22 / 30..33; rows 0..4 -/
def exTree : RawTree :=
  { hierarchy := [0, 1, 2]
    levels := [(1, [(21, [31, 32]), (20, [30]), (22, [33])]),
               (0, [(10, [21, 20]), (11, [22])]),
               (2, [(30, [0]), (31, [1, 2]), (32, []), (33, [4, 3])])] }

theorem exTree_wf_test : WF exTree :=
  ⟨by decide +kernel, by decide +kernel, by decide +kernel, dictOK_of_b (by decide +kernel)⟩

/-- *"A taxonomy is accepted only if every node below the top level has exactly
one parent, every listed child exists and no reference cell belongs to two
leaves"* — for every accepted tree (Python dicts have distinct keys), and every
pair of adjacent levels `pl > cl`:
 1. every listed child is a key of the next level; every node of `pl` has at
    least one child;
 2. every node of `cl` is listed exactly once in all the child lists of `pl`
    together (one parent, listed once);
 3. that parent is unique as a node: `∃! p`;
and no row occurs twice in the leaf level's row lists (neither in two leaves
nor twice in one); the level keys are exactly the hierarchy. -/
theorem validate_sound (t : RawTree) (d : DictOK t) (hv : t.validate = .ok ()) :
    (∀ pl cl, (pl, cl) ∈ levelPairs t.hierarchy →
      (∀ p, p ∈ t.nodesAt pl → ∀ c, c ∈ t.entry pl p → c ∈ t.nodesAt cl) ∧
      (∀ p, p ∈ t.nodesAt pl → t.entry pl p ≠ []) ∧
      (∀ c, c ∈ t.nodesAt cl → ((t.level pl).flatMap (·.2)).count c = 1) ∧
      (∀ c, c ∈ t.nodesAt cl → ∃ p, (p ∈ t.nodesAt pl ∧ c ∈ t.entry pl p) ∧
          ∀ p', (p' ∈ t.nodesAt pl ∧ c ∈ t.entry pl p') → p' = p)) ∧
    t.allRows.Nodup ∧
    (∀ k, k ∈ t.levels.map (·.1) ↔ k ∈ t.hierarchy) := by
  have s := strict_of_validate hv
  refine ⟨fun pl cl hpc => ?_, s.rowsNodup, fun k => ⟨s.keysSub k, s.hierSub k⟩⟩
  obtain ⟨i, hi, rfl, rfl⟩ := mem_levelPairs.1 hpc
  refine ⟨fun p hp c hc => s.entry_sub hi hp hc,
    fun p hp => s.childNe _ _ hpc p _ (mem_level_entry hp), fun c hc => ?_, fun c hc => ?_⟩
  · rw [← flatMap_entry_nodesAt d]
    have hnd := s.entries_nodup hi (d.nodesAt_nodup _) (fun _ h => h)
    rw [hnd.count, if_pos ((s.entries_perm_next d hi).mem_iff.2 hc)]
  · obtain ⟨p, cs, hp, hcs⟩ := s.hasParent _ _ hpc c hc
    have hpc' := (isChild_iff d).1 ⟨cs, hp, hcs⟩
    exact ⟨p, hpc', fun p' hp' => s.parent_unique hi hp'.1 hpc'.1 hp'.2 hpc'.2⟩

example : exTree.validate = .ok () ∧ DictOK exTree := ⟨exTree_wf_test.valid, exTree_wf_test.dict⟩

/-- No reference cell belongs to two leaves, in the words of the statement. -/
theorem validate_rows_one_leaf (t : RawTree) (d : DictOK t) (hne : t.hierarchy ≠ [])
    (hv : t.validate = .ok ()) (n₁ n₂ : Node) (r : Nat)
    (h₁ : n₁ ∈ t.nodesAt (t.hierarchy.getLast hne)) (h₂ : n₂ ∈ t.nodesAt (t.hierarchy.getLast hne))
    (hr₁ : r ∈ t.entry (t.hierarchy.getLast hne) n₁) (hr₂ : r ∈ t.entry (t.hierarchy.getLast hne) n₂) :
    n₁ = n₂ := by
  have hrows := (strict_of_validate hv).rowsNodup
  rw [allRows_of_leaf (List.getLast?_eq_some_getLast hne), ← flatMap_entry_nodesAt d] at hrows
  exact ListAux.eq_of_mem_of_nodup_flatMap hr₁ hr₂ hrows h₁ h₂

/-- The validator decides exactly the strict-tree specification `Strict`
(CTM/Lemmas/TreeDefs.lean: key set = hierarchy, string node names, every listed
child exists, no orphan, no second parent, no childless parent, no repeated
child, no repeated row) together with: distinct level names, a non-empty
hierarchy and a node at the top level.  Nothing less is accepted and nothing
more is demanded (sound and complete, no hypothesis). -/
theorem validate_iff_strict (t : RawTree) :
    t.validate = .ok () ↔ Strict t ∧ t.hierarchy.Nodup ∧ t.hierarchy ≠ [] ∧
      ∀ l0, t.hierarchy.head? = some l0 → t.nodesAt l0 ≠ [] :=
  validate_ok_iff

/-- An accepted tree lists no level twice, has at least one level, and every level
of its hierarchy has at least one node (top level by the validator, the others
because every node above the leaf level has a child). -/
theorem validate_wellformed (t : RawTree) (hv : t.validate = .ok ()) :
    t.hierarchy.Nodup ∧ t.hierarchy ≠ [] ∧
    (∃ l0 n, t.hierarchy.head? = some l0 ∧ n ∈ t.nodesAt l0) ∧
    ∀ l, l ∈ t.hierarchy → t.nodesAt l ≠ [] :=
  ⟨hierarchy_nodup_of_validate hv, hierarchy_ne_nil_of_validate hv,
    exists_top_node_of_validate hv, fun _ hl => nodesAt_ne_nil_of_validate_lv hv hl⟩

example : exTree.validate = .ok () := exTree_wf_test.valid

/-- Hence `WF` — the hypothesis of the theorems below — is exactly "accepted by
the validator + Python dict-key uniqueness": every theorem stated for `w : WF t`
applies to any accepted tree through `WF.of_validate hv d`. -/
theorem wf_iff_validate (t : RawTree) : WF t ↔ t.validate = .ok () ∧ DictOK t :=
  ⟨fun w => ⟨w.valid, w.dict⟩, fun h => WF.of_validate h.1 h.2⟩

example : exTree.hierarchy.Nodup := exTree_wf_test.hNodup

/-! What `validate_taxonomy_tree` refuses: one theorem for each clause of `Strict` that can fail
(a listed child that is no key of the next level, an orphan, a second parent, a repeated child, a
childless parent, a repeated row, a level key outside the hierarchy, a level without a dict) and one
for each test in front of them (a repeated level, no level or no top-level node, no `hierarchy` key,
a node name that is not a `str`).  `∃ e, t.validate = .error e` is `t.validate ≠ .ok ()`: which
error class is reported depends on which test of the validator fires first. -/

theorem validate_rejects_missing_child_key (t : RawTree) {pl cl : Level} {p c : Node}
    {cs : List Node} (hm : (pl, cl) ∈ levelPairs t.hierarchy) (hp : (p, cs) ∈ t.level pl)
    (hc : c ∈ cs) (hnot : c ∉ t.nodesAt cl) : ∃ e, t.validate = .error e :=
  rejects_not_strict fun s => hnot (s.childExists pl cl hm p cs hp c hc)

example : ({ exTree with levels := exTree.levels.map (fun (l, m) =>
    if l = 1 then (l, m.filter (fun e => e.1 != 20)) else (l, m)) } : RawTree).validate
    = .error .missingChild := by decide +kernel

theorem validate_rejects_orphan (t : RawTree) {pl cl : Level} {c : Node}
    (hm : (pl, cl) ∈ levelPairs t.hierarchy) (hc : c ∈ t.nodesAt cl)
    (hnot : ¬ ∃ p cs, (p, cs) ∈ t.level pl ∧ c ∈ cs) : ∃ e, t.validate = .error e :=
  rejects_not_strict fun s => hnot (s.hasParent pl cl hm c hc)

example : ({ exTree with levels := exTree.levels.map (fun (l, m) =>
    if l = 1 then (l, m ++ [(29, [])]) else (l, m)) } : RawTree).validate
    = .error .orphan := by decide +kernel

theorem validate_rejects_second_parent (t : RawTree) {pl cl : Level} {p₁ p₂ c : Node}
    {cs₁ cs₂ : List Node} (hm : (pl, cl) ∈ levelPairs t.hierarchy) (h₁ : (p₁, cs₁) ∈ t.level pl)
    (h₂ : (p₂, cs₂) ∈ t.level pl) (hc₁ : c ∈ cs₁) (hc₂ : c ∈ cs₂) (hne : p₁ ≠ p₂) :
    ∃ e, t.validate = .error e :=
  rejects_not_strict fun s => hne (s.oneParent pl cl hm p₁ cs₁ p₂ cs₂ h₁ h₂ c hc₁ hc₂)

example : ({ exTree with levels := exTree.levels.map (fun (l, m) =>
    if l = 0 then (l, [(10, [21, 20]), (11, [22, 20])]) else (l, m)) } : RawTree).validate
    = .error .twoParents := by decide +kernel

theorem validate_rejects_repeated_child (t : RawTree) {pl cl : Level} {p : Node} {cs : List Node}
    (hm : (pl, cl) ∈ levelPairs t.hierarchy) (hp : (p, cs) ∈ t.level pl) (hd : ¬ cs.Nodup) :
    ∃ e, t.validate = .error e :=
  rejects_not_strict fun s => hd (s.childNodup pl cl hm p cs hp)

example : ({ exTree with levels := exTree.levels.map (fun (l, m) =>
    if l = 0 then (l, [(10, [21, 20, 21]), (11, [22])]) else (l, m)) } : RawTree).validate
    = .error .repeatedChild := by decide +kernel

theorem validate_rejects_childless_parent (t : RawTree) {pl cl : Level} {p : Node}
    (hm : (pl, cl) ∈ levelPairs t.hierarchy) (hp : (p, []) ∈ t.level pl) :
    ∃ e, t.validate = .error e :=
  rejects_not_strict fun s => s.childNe pl cl hm p [] hp rfl

example : ({ exTree with levels := exTree.levels.map (fun (l, m) =>
    if l = 0 then (l, m ++ [(12, [])]) else (l, m)) } : RawTree).validate
    = .error .noChildren ∧
  -- emptying a child list orphans the former children: the orphan test fires first
  ({ exTree with levels := exTree.levels.map (fun (l, m) =>
    if l = 0 then (l, [(10, [21, 20]), (11, [])]) else (l, m)) } : RawTree).validate
    = .error .orphan := by decide +kernel

theorem validate_rejects_repeated_row (t : RawTree) (hd : ¬ t.allRows.Nodup) :
    ∃ e, t.validate = .error e :=
  rejects_not_strict fun s => hd s.rowsNodup

example : ({ exTree with levels := exTree.levels.map (fun (l, m) =>
    if l = 2 then (l, [(30, [0]), (31, [1, 2]), (32, [1]), (33, [4, 3])]) else (l, m)) } : RawTree).validate
    = .error .dupRows := by decide +kernel

theorem validate_rejects_stray_key (t : RawTree) (hh : t.hasHierarchy = true)
    (hn : t.hierarchy.Nodup) {k : Level}
    (hk : k ∈ t.levels.map (·.1)) (hnot : k ∉ t.hierarchy) : t.validate = .error .badKeys :=
  rejects_bad_keys hh hn (Bool.eq_false_iff.2 fun hkm => hnot ((keysMatch_iff.1 hkm).1 k hk))

example : ({ exTree with hierarchy := [0, 1] } : RawTree).validate = .error .badKeys := by decide +kernel

theorem validate_rejects_ghost_level (t : RawTree) (hh : t.hasHierarchy = true)
    (hn : t.hierarchy.Nodup) {k : Level}
    (hk : k ∈ t.hierarchy) (hnot : k ∉ t.levels.map (·.1)) : t.validate = .error .badKeys :=
  rejects_bad_keys hh hn (Bool.eq_false_iff.2 fun hkm => hnot ((keysMatch_iff.1 hkm).2 k hk))

example : ({ exTree with hierarchy := [0, 1, 2, 7] } : RawTree).validate = .error .badKeys := by decide +kernel

/-- the duplicate-level test comes right after the test for the `hierarchy` key itself -/
theorem validate_rejects_duplicate_level (t : RawTree) (hh : t.hasHierarchy = true)
    (h : ¬ t.hierarchy.Nodup) : t.validate = .error .dupLevel := by
  have : hasDup t.hierarchy = true := by
    cases hd : hasDup t.hierarchy with
    | true => rfl
    | false => exact absurd ((hasDup_eq_false_iff _).1 hd) h
  simp [validate, validateWith, hh, this]

example : ({ exTree with hierarchy := [0, 1, 2, 1] } : RawTree).validate = .error .dupLevel ∧
    -- the cycle x → y → x spelled with a repeated level name
    (⟨true, [0, 1, 0], [(0, [(5, [6])]), (1, [(6, [5])])], true⟩ : RawTree).validate
      = .error .dupLevel := by decide +kernel

theorem validate_rejects_no_nodes (t : RawTree) :
    (t.hierarchy = [] → ∃ e, t.validate = .error e) ∧
    (∀ l0, t.hierarchy.head? = some l0 → t.nodesAt l0 = [] → ∃ e, t.validate = .error e) :=
  ⟨fun h => validate_error_of_not_ok fun hv => hierarchy_ne_nil_of_validate hv h,
   fun l0 h0 h => validate_error_of_not_ok fun hv => hasNode_of_validate hv l0 h0 h⟩

example : (⟨true, [], [], true⟩ : RawTree).validate = .error .noNodes ∧
    (⟨true, [0], [(0, [])], true⟩ : RawTree).validate = .error .noNodes := by decide +kernel

theorem validate_rejects_no_hierarchy (t : RawTree) (h : t.hasHierarchy = false) :
    t.validate = .error .noHierarchy := by
  simp [validate, validateWith, h]

example : ({ exTree with hasHierarchy := false } : RawTree).validate = .error .noHierarchy := by decide +kernel

theorem validate_rejects_non_str_node (t : RawTree) (hh : t.hasHierarchy = true)
    (hn : t.hierarchy.Nodup)
    (hk : t.keysMatch = true) (h : t.nodesAreStr = false) : t.validate = .error .nonStrNode := by
  simp [validate, validateWith, hh, hk, h, (hasDup_eq_false_iff _).2 hn]

example : ({ exTree with nodesAreStr := false } : RawTree).validate = .error .nonStrNode := by decide +kernel

/-- *"the descendant leaves of a node's children partition the node's leaves"*:
for a node `p` of a non-leaf level `pl` (children at level `cl`),
 1. the concatenated `as_leaves` lists of its children are a permutation of its
    own `as_leaves` list (union, with multiplicity),
 2. which has no duplicate — so the children's lists are duplicate free and
 3. pairwise disjoint. -/
theorem leaves_partition (t : RawTree) (w : WF t) {pl cl : Level}
    (hpc : (pl, cl) ∈ levelPairs t.hierarchy) {p : Node} (hp : p ∈ t.nodesAt pl) :
    ((t.entry pl p).flatMap (t.asLeaves cl)).Perm (t.asLeaves pl p) ∧
    (t.asLeaves pl p).Nodup ∧
    (t.entry pl p).Pairwise (fun c₁ c₂ => ∀ a, a ∈ t.asLeaves cl c₁ → a ∉ t.asLeaves cl c₂) := by
  have s := strict_of_validate w.valid
  obtain ⟨i, hi, rfl, rfl⟩ := mem_levelPairs.1 hpc
  have hperm := asLeaves_perm_children w.hNodup hi p
  have hnd := asLeaves_nodup s w.hNodup (by omega) hp
  refine ⟨hperm.symm, hnd, ?_⟩
  exact (ListAux.nodup_flatMap_iff.1 (hperm.nodup hnd)).2.imp (fun h a ha hb => h a ha a hb rfl)

example : exTree.asLeaves 0 10 = [30, 31, 32] ∧ exTree.entry 0 10 = [21, 20] ∧
    exTree.asLeaves 1 21 = [31, 32] ∧ exTree.asLeaves 1 20 = [30] := by decide +kernel

/-- At every level the `as_leaves` lists of the level's nodes partition the
leaf level: every leaf lies under exactly one node of each level. -/
theorem leaves_partition_level (t : RawTree) (w : WF t) {l : Level} (hl : l ∈ t.hierarchy) :
    ((t.nodesAt l).flatMap (t.asLeaves l)).Perm (t.nodesAt (t.hierarchy.getLast w.hNe)) ∧
    (t.nodesAt (t.hierarchy.getLast w.hNe)).Nodup := by
  have s := strict_of_validate w.valid
  obtain ⟨i, hi, rfl⟩ := List.mem_iff_getElem.1 hl
  have := asLeaves_cover s w.dict w.hNodup hi
  rw [List.getLast_eq_getElem]
  exact ⟨this, w.dict.nodesAt_nodup _⟩

example : (exTree.nodesAt 0).flatMap (exTree.asLeaves 0) = [30, 31, 32, 33] ∧
    exTree.nodesAt 2 = [30, 31, 32, 33] := by decide +kernel

/-- Every node of an accepted tree has at least one leaf below it (every node
above the leaf level has a child), so no `as_leaves` list is empty. -/
theorem leaves_nonempty (t : RawTree) (w : WF t) {l : Level} (hl : l ∈ t.hierarchy)
    {n : Node} (hn : n ∈ t.nodesAt l) : t.asLeaves l n ≠ [] := by
  obtain ⟨i, hi, rfl⟩ := List.mem_iff_getElem.1 hl
  exact asLeaves_ne_nil (strict_of_validate w.valid) w.hNodup hi hn

example : 11 ∈ exTree.nodesAt 0 ∧ exTree.asLeaves 0 11 = [33] := by decide +kernel

/-- *"parent and child queries are mutually inverse"*: for adjacent levels
`pl > cl`, `c` is among `children(pl, p)` iff `parents(cl, c)[pl] == p`, iff the
child→parent table maps `c` to `p`. -/
theorem parent_child_inverse (t : RawTree) (w : WF t) {pl cl : Level}
    (hpc : (pl, cl) ∈ levelPairs t.hierarchy) (p c : Node) (cs : List Node)
    (hcs : t.children (some (pl, p)) = .ok cs) :
    (c ∈ cs ↔ (t.parents cl c).lookup pl = some p) ∧
    (c ∈ cs ↔ t.childToParent cl c = some p) := by
  have s := strict_of_validate w.valid
  obtain ⟨i, hi, rfl, rfl⟩ := mem_levelPairs.1 hpc
  obtain ⟨_, hpn, rfl⟩ := children_some_ok_iff.1 hcs
  have h2 := ((childToParent_eq_some_iff s w.hNodup hi c p).trans
    ((isChild_iff w.dict).trans (and_iff_right hpn))).symm
  exact ⟨by rw [lookup_parents_succ w.hNodup hi]; exact h2, h2⟩

example : exTree.children (some (0, 10)) = .ok [21, 20] ∧
    (exTree.parents 1 21).lookup 0 = some 10 ∧ exTree.parents 2 31 = [(1, 21), (0, 10)] := by decide +kernel

/-- Every node below the top level has exactly one parent, `parents` lists one
ancestor for each level above (nearest first) and the node is among the
children of its parent. -/
theorem parents_total (t : RawTree) (w : WF t) {pl cl : Level}
    (hpc : (pl, cl) ∈ levelPairs t.hierarchy) {c : Node} (hc : c ∈ t.nodesAt cl) :
    ∃ p, t.childToParent cl c = some p ∧ p ∈ t.nodesAt pl ∧ c ∈ t.entry pl p ∧
      t.parents cl c = (pl, p) :: t.parents pl p := by
  have s := strict_of_validate w.valid
  obtain ⟨i, hi, rfl, rfl⟩ := mem_levelPairs.1 hpc
  obtain ⟨p, hp, hpm⟩ := exists_childToParent s w.hNodup hi hc
  refine ⟨p, hp, hpm, ?_, parents_succ s w.hNodup hi hp⟩
  exact ((isChild_iff w.dict).1 ((childToParent_eq_some_iff s w.hNodup hi c p).1 hp)).2

/-- the levels listed by `parents(l, n)` are exactly the levels above `l`,
nearest first -/
theorem parents_levels_above (t : RawTree) (w : WF t) {i : Nat} (hi : i < t.hierarchy.length)
    {n : Node} (hmem : n ∈ t.nodesAt t.hierarchy[i]) :
    (t.parents t.hierarchy[i] n).map (·.1) = (t.hierarchy.take i).reverse :=
  parents_levels (strict_of_validate w.valid) w.hNodup i hi n hmem

/-- *"The leaf pairs to be discriminated under a parent are exactly the
unordered pairs of leaves lying under two different children of that parent,
each listed once."*  `parent = none` is the root (children = the top-level
nodes); `sibs` are the children of the parent, `cl` the level they live at.
The list returned by `leaves_to_compare(parent)` has no duplicate, and `(a, b)`
is in it iff `a < b` and `a`, `b` lie under two different children. -/
theorem pairs_exact (t : RawTree) (w : WF t) (parent : Option (Level × Node))
    (sibs : List Node) (cl : Level) (hs : t.children parent = .ok sibs)
    (hcl : t.levelUnder parent = some cl) :
    (t.leafPairs parent).Nodup ∧
    ∀ a b, (a, b) ∈ t.leafPairs parent ↔
      a < b ∧ ∃ s₀ s₁, s₀ ∈ sibs ∧ s₁ ∈ sibs ∧ s₀ ≠ s₁ ∧
        a ∈ t.asLeaves cl s₀ ∧ b ∈ t.asLeaves cl s₁ := by
  have s := strict_of_validate w.valid
  have hlen := List.length_pos_iff.2 w.hNe
  -- in both cases the pairs are `crossPairs` over duplicate-free disjoint leaf lists
  suffices h : t.leafPairs parent = crossPairs (t.asLeaves cl) sibs ∧
      (sibs.flatMap (t.asLeaves cl)).Nodup by
    rw [h.1]
    exact ⟨crossPairs_nodup _ _ h.2, fun a b => mem_crossPairs _ _ h.2 a b⟩
  cases parent with
  | none =>
    have h0 : t.hierarchy.head? = some t.hierarchy[0] := by
      rw [List.head?_eq_getElem?]; exact List.getElem?_eq_getElem hlen
    simp only [levelUnder, h0, Option.some.injEq] at hcl
    subst hcl
    simp only [children, h0] at hs
    cases hs
    exact ⟨leafPairs_root _ h0,
      asLeaves_flatMap_nodup s w.hNodup hlen (w.dict.nodesAt_nodup _) (fun _ h => h)⟩
  | some ln =>
    obtain ⟨l, n⟩ := ln
    simp only [levelUnder] at hcl
    have hln := children_some_ok_iff.1 hs
    have hln : l ∈ t.hierarchy ∧ n ∈ t.nodesAt l ∧ sibs = t.entry l n :=
      ⟨s.keysSub l hln.1, hln.2⟩
    obtain ⟨hl, hnm, rfl⟩ := hln
    obtain ⟨i, hi, rfl⟩ := List.mem_iff_getElem.1 hl
    rw [childLevel_getElem w.hNodup hi] at hcl
    have hi1 : i + 1 < t.hierarchy.length := by
      rcases Nat.lt_or_ge (i+1) t.hierarchy.length with h | h
      · exact h
      · rw [List.getElem?_eq_none h] at hcl; cases hcl
    rw [List.getElem?_eq_getElem hi1] at hcl
    cases hcl
    refine ⟨leafPairs_node n (hierarchy_ne_leafLevel w hi1)
      (by rw [childLevel_getElem w.hNodup hi]; exact List.getElem?_eq_getElem hi1), ?_⟩
    exact asLeaves_flatMap_nodup s w.hNodup hi1 (s.entry_nodup hi1 hnm)
      (fun c hc => s.entry_sub hi1 hnm hc)

example : exTree.leafPairs none = [(30, 33), (31, 33), (32, 33)] ∧
    exTree.leafPairs (some (0, 10)) = [(30, 31), (30, 32)] ∧
    exTree.children (some (0, 10)) = .ok [21, 20] ∧ exTree.levelUnder (some (0, 10)) = some 1 := by
  decide +kernel

/-- each unordered pair is listed exactly once (count form of `pairs_exact`) -/
theorem pairs_count (t : RawTree) (w : WF t) (parent : Option (Level × Node))
    (sibs : List Node) (cl : Level) (hs : t.children parent = .ok sibs)
    (hcl : t.levelUnder parent = some cl) (a b : Node) :
    (t.leafPairs parent).count (a, b) ≤ 1 ∧ (t.leafPairs parent).count (b, a) ≤ 1 ∧
    ((a, b) ∈ t.leafPairs parent → (b, a) ∉ t.leafPairs parent) := by
  obtain ⟨hnd, hmem⟩ := pairs_exact t w parent sibs cl hs hcl
  refine ⟨List.nodup_iff_count.1 hnd _, List.nodup_iff_count.1 hnd _, fun h1 h2 => ?_⟩
  have hab := ((hmem a b).1 h1).1
  have hba := ((hmem b a).1 h2).1
  exact Nat.lt_irrefl _ (Nat.lt_trans hab hba)

/-- a parent with a single child has no pair to discriminate (`leaves_to_compare` returns `{}`) -/
theorem pairs_single_child (t : RawTree) (parent : Option (Level × Node)) (c : Node)
    (hs : t.children parent = .ok [c]) : t.leafPairs parent = [] := by
  cases parent with
  | none =>
    obtain ⟨l0, h0, he⟩ := children_none_ok_iff.1 hs
    rw [leafPairs_root l0 h0, ← he, crossPairs_singleton]
  | some ln =>
    obtain ⟨l, n⟩ := ln
    obtain ⟨_, _, he⟩ := children_some_ok_iff.1 hs
    simp only [leafPairs]
    split
    · rfl
    · rename_i cl sibs hsome
      split at hsome
      · cases hsome
      · cases hc : t.childLevel l with
        | none => simp [hc] at hsome
        | some cl' =>
          simp only [hc, Option.map_some, Option.some.injEq, Prod.mk.injEq] at hsome
          obtain ⟨_, rfl⟩ := hsome
          simp [← he, combos2]

example : exTree.children (some (0, 11)) = .ok [22] ∧ exTree.leafPairs (some (0, 11)) = [] := by
  decide +kernel

/-- nor has a node of the leaf level -/
theorem pairs_leaf_level (t : RawTree) (l : Level) (n : Node) (hl : t.leafLevel = some l) :
    t.leafPairs (some (l, n)) = [] :=
  leafPairs_leaf n hl

example : exTree.leafLevel = some 2 ∧ exTree.leafPairs (some (2, 31)) = [] := by decide +kernel

/-- Taken over all parents of `all_parents` (the root and every node above the
leaf level), every unordered pair of distinct leaves is listed exactly once: under
one parent and under no other.  (That parent is the lowest node above both leaves, or
the root: `RawTree.mem_leafPairs_node_iff`, `RawTree.mem_leafPairs_root_iff`; the
statement here does not say which.) -/
theorem pairs_cover_once (t : RawTree) (w : WF t) {a b : Node}
    (ha : a ∈ t.nodesAt (t.hierarchy.getLast w.hNe))
    (hb : b ∈ t.nodesAt (t.hierarchy.getLast w.hNe)) (hab : a < b) :
    ∃ P, P ∈ t.allParents ∧ (a, b) ∈ t.leafPairs P ∧
      ∀ Q, Q ∈ t.allParents → (a, b) ∈ t.leafPairs Q → Q = P := by
  have hleaf := w.leafLevel_getLast
  obtain ⟨P, hP, hmem⟩ := leafPairs_cover w hleaf ha hb hab
  exact ⟨P, hP, hmem, fun Q hQ h2 => leafPairs_cover_unique w hleaf ha hb hQ hP h2 hmem⟩

example : exTree.allParents = [none, some (0, 10), some (0, 11), some (1, 21), some (1, 20),
      some (1, 22)] ∧
    exTree.allParents.map exTree.leafPairs =
      [[(30, 33), (31, 33), (32, 33)], [(30, 31), (30, 32)], [], [(31, 32)], [], []] := by decide +kernel

/-- *"Flattening … preserve[s] the leaf set and each leaf's ancestor at every
remaining level"*: `flatten()` of a well-formed tree is again well formed (so
the constructor's validation passes), its only level is the leaf level, whose
dict (leaf names, their order, their rows) is untouched; and `as_leaves` of a leaf
is the leaf.  The ancestor clause speaks of that one level, where every leaf is its
own ancestor in any tree (`ancestorAt_self`): it says nothing about `flatten`. -/
theorem flatten_preserves (t : RawTree) (w : WF t) :
    WF t.flatten ∧
    t.flatten.hierarchy = [t.hierarchy.getLast w.hNe] ∧
    t.flatten.level (t.hierarchy.getLast w.hNe) = t.level (t.hierarchy.getLast w.hNe) ∧
    t.flatten.allRows = t.allRows ∧
    (∀ n, t.flatten.ancestorAt (t.hierarchy.getLast w.hNe) n (t.hierarchy.getLast w.hNe) =
        t.ancestorAt (t.hierarchy.getLast w.hNe) n (t.hierarchy.getLast w.hNe)) ∧
    (∀ n, t.flatten.asLeaves (t.hierarchy.getLast w.hNe) n = [n]) := by
  have hl := w.leafLevel_getLast
  exact ⟨flatten_wf w, flatten_hierarchy hl, flatten_level_leaf w.hNodup hl,
    flatten_allRows w.hNodup, fun n => by rw [ancestorAt_self, ancestorAt_self],
    fun n => flatten_asLeaves hl n⟩

example : exTree.flatten = ⟨true, [2],
    [(2, [(30, [0]), (31, [1, 2]), (32, []), (33, [4, 3])])], true⟩ := by decide +kernel

/-- *"dropping any level … preserve[s] the leaf set and each leaf's ancestor at
every remaining level"*: for a well-formed tree with at least two levels and
any non-leaf level `h[i]`, `drop_level(h[i])` succeeds — in particular the
re-validation in the constructor of the new tree never fails —, the result is
well formed, its hierarchy is the old one without `h[i]`, the leaf level's dict
(leaf names, order, rows) is untouched, and every leaf has the same ancestor as
before at every remaining level. -/
theorem drop_preserves (t : RawTree) (w : WF t) {i : Nat} (hi : i + 1 < t.hierarchy.length)
    (allowLeaf : Bool) :
    ∃ t', t.dropLevel (t.hierarchy[i]'(by omega)) allowLeaf = .ok t' ∧
      WF t' ∧
      t'.hierarchy = t.hierarchy.eraseIdx i ∧
      t'.level (t.hierarchy.getLast w.hNe) = t.level (t.hierarchy.getLast w.hNe) ∧
      t'.allRows = t.allRows ∧
      (∀ n, n ∈ t.nodesAt (t.hierarchy.getLast w.hNe) → ∀ l, l ∈ t'.hierarchy →
        t'.ancestorAt (t.hierarchy.getLast w.hNe) n l =
          t.ancestorAt (t.hierarchy.getLast w.hNe) n l) ∧
      (∀ l, l ∈ t'.hierarchy → ∀ n, (t'.asLeaves l n).Perm (t.asLeaves l n)) := by
  have hi' : i < t.hierarchy.length := by omega
  obtain ⟨hd, w'⟩ := dropLevel_eq_ok w hi' (by omega) (allowLeaf := allowLeaf) (Or.inr hi)
  refine ⟨_, hd, w', rfl, ?_, dropAt_allRows_nonleaf w.hNodup hi' hi,
    fun n hn l hl => dropAt_ancestorAt w hi' hi w.leafLevel_getLast hn hl,
    fun l hl n => dropAt_asLeaves w.hNodup hi' hi hl n⟩
  rw [List.getLast_eq_getElem]
  exact dropAt_level_leafLevel_nonleaf w.hNodup hi' hi

example : exTree.dropLevel 1 = .ok ⟨true, [0, 2],
      [(0, [(10, [31, 32, 30]), (11, [33])]),
       (2, [(30, [0]), (31, [1, 2]), (32, []), (33, [4, 3])])], true⟩ ∧
    exTree.dropLevel 0 = .ok ⟨true, [1, 2],
      [(1, [(21, [31, 32]), (20, [30]), (22, [33])]),
       (2, [(30, [0]), (31, [1, 2]), (32, []), (33, [4, 3])])], true⟩ := by decide +kernel

/-- `drop_leaf_level()`: the parents of the leaves become the leaves. The
result is well formed, every other level's dict is untouched, the new leaves
are the nodes of the old last-but-one level, each owning the rows of its former
children, and no row is lost or duplicated. -/
theorem drop_leaf_preserves (t : RawTree) (w : WF t) (h2 : 2 ≤ t.hierarchy.length) :
    ∃ t', t.dropLevel (t.hierarchy.getLast w.hNe) true = .ok t' ∧
      WF t' ∧
      t'.hierarchy = t.hierarchy.dropLast ∧
      (∀ j (hj : j + 2 < t.hierarchy.length),
        t'.level (t.hierarchy[j]'(by omega)) = t.level (t.hierarchy[j]'(by omega))) ∧
      t'.nodesAt (t.hierarchy[t.hierarchy.length - 2]'(by omega)) =
        t.nodesAt (t.hierarchy[t.hierarchy.length - 2]'(by omega)) ∧
      (∀ p, t'.entry (t.hierarchy[t.hierarchy.length - 2]'(by omega)) p =
        (t.entry (t.hierarchy[t.hierarchy.length - 2]'(by omega)) p).flatMap
          (t.entry (t.hierarchy.getLast w.hNe))) ∧
      t'.allRows.Perm t.allRows := by
  have hlast : t.hierarchy.getLast w.hNe = t.hierarchy[t.hierarchy.length - 1]'(by omega) :=
    List.getLast_eq_getElem _
  have hi : t.hierarchy.length - 1 < t.hierarchy.length := by omega
  obtain ⟨hd, w'⟩ := dropLevel_eq_ok w hi h2 (allowLeaf := true) (Or.inl rfl)
  have s := strict_of_validate w.valid
  refine ⟨_, by rw [hlast]; exact hd, w', ?_, ?_, ?_, ?_,
    dropAt_allRows_perm s w.dict w.hNodup hi (by omega)⟩
  · rw [dropAt_hierarchy, List.dropLast_eq_take, List.eraseIdx_eq_take_drop_succ]
    rw [List.drop_eq_nil_of_le (by omega), List.append_nil]
  · intro j hj
    exact dropAt_level_other hi (ListAux.getElem_ne_of_nodup w.hNodup (by omega))
      (fun hm => ListAux.getElem_ne_of_nodup w.hNodup (by omega)
        (eq_pred_of_mem_levelPairs w.hNodup hi hm).2)
  · exact dropAt_nodesAt w.hNodup hi (ListAux.getElem_ne_of_nodup w.hNodup (by omega))
  · intro p
    rw [hlast]
    exact dropAt_entry_parent w.hNodup hi (mem_levelPairs_pred hi (by omega)) p

example : exTree.dropLevel 2 true = .ok ⟨true, [0, 1],
      [(1, [(21, [1, 2]), (20, [0]), (22, [4, 3])]),
       (0, [(10, [21, 20]), (11, [22])])], true⟩ := by decide +kernel

/-- the refusals of `_drop_level`, in the order the code tests them -/
theorem drop_refusals (t : RawTree) (l : Level) (allowLeaf : Bool) :
    (t.hierarchy.length = 1 → t.dropLevel l allowLeaf = .error .flatTree) ∧
    (t.hierarchy.length ≠ 1 → l ∉ t.hierarchy → t.dropLevel l allowLeaf = .error .levelNotInTree) ∧
    (t.hierarchy.length ≠ 1 → l ∈ t.hierarchy → t.leafLevel = some l →
      t.dropLevel l false = .error .isLeafLevel) := by
  refine ⟨fun h => ?_, fun h hl => ?_, fun h hl hll => ?_⟩
  · simp [dropLevel, dropLevelRaw_flat h]
  · simp [dropLevel, dropLevelRaw_not_in h hl]
  · simp [dropLevel, dropLevelRaw_leaf h hl hll]

example : exTree.dropLevel 2 = .error .isLeafLevel ∧ exTree.dropLevel 9 = .error .levelNotInTree ∧
    exTree.flatten.dropLevel 2 = .error .flatTree := by decide +kernel

/-- *"serialising then re-reading preserve[s] the leaf set and each leaf's
ancestor at every remaining level"*, for `to_str(drop_cells=True)` (plain
`to_str` / `from_str` is the identity on the data; JSON itself is trusted): the
tree without its cell lists is well formed, has the same hierarchy, the same
nodes at every level (in the same order), the same dicts above the leaf level,
empty row lists, and every query that does not read rows answers the same:
`parents`, ancestors, `as_leaves`. -/
theorem drop_cells_preserves (t : RawTree) (w : WF t) :
    WF t.dropCells ∧
    t.dropCells.hierarchy = t.hierarchy ∧
    (∀ l, t.dropCells.nodesAt l = t.nodesAt l) ∧
    (∀ l, t.leafLevel ≠ some l → t.dropCells.level l = t.level l) ∧
    (∀ n, t.dropCells.entry (t.hierarchy.getLast w.hNe) n = []) ∧
    (∀ l n, t.dropCells.parents l n = t.parents l n) ∧
    (∀ l n al, t.dropCells.ancestorAt l n al = t.ancestorAt l n al) ∧
    (∀ l n, t.dropCells.asLeaves l n = t.asLeaves l n) :=
  ⟨dropCells_wf w, dropCells_hierarchy, fun l => dropCells_nodesAt l,
    fun _ hl => dropCells_level_other hl, fun n => dropCells_entry_leaf w.leafLevel_getLast n,
    fun l n => dropCells_parents w.hNodup l n, fun l n al => dropCells_ancestorAt w.hNodup l n al,
    fun l n => dropCells_asLeaves w.hNodup l n⟩

example : exTree.dropCells.level 2 = [(30, []), (31, []), (32, []), (33, [])] ∧
    exTree.dropCells.level 1 = exTree.level 1 := by decide +kernel

/-- `flatten` absorbs a drop of a non-leaf level and itself: flattening the result of
`drop_level` gives the flattened tree, and flattening twice is flattening once. -/
theorem flatten_after_drop (t : RawTree) (w : WF t) :
    (∀ i (hi : i + 1 < t.hierarchy.length) (allowLeaf : Bool) (t' : RawTree),
      t.dropLevel (t.hierarchy[i]'(by omega)) allowLeaf = .ok t' → t'.flatten = t.flatten) ∧
    t.flatten.flatten = t.flatten :=
  ⟨fun _ hi _ _ ht' => flatten_drop_eq w hi ht', flatten_flatten w⟩

example : (exTree.dropLevel 1).map (·.flatten) = .ok exTree.flatten := by decide +kernel

/-- *"building it from per-cell label columns reproduces exactly the label
combinations present"*.  `cols` = the column hierarchy (distinct names, at
least one), `recs` = one list of labels per cell, one label per column.
`get_taxonomy_tree` accepts the records iff there is at least one cell and the
label columns are functionally nested (cells with the same child label have
the same parent label; without any cell the tree has no node and is refused);
the tree it returns is well formed, its levels are the columns, the nodes of a level are
the labels occurring in that column, `c` is a child of `p` iff some cell
carries `p` and `c` in adjacent columns, the rows of a leaf are exactly the
indices of the cells carrying that leaf label, and the root-to-leaf paths of
the tree are exactly the label tuples of the cells. -/
theorem from_records (cols : List Level) (recs : List (List Node)) (hc : cols.Nodup)
    (hne : cols ≠ []) (hr : RecsOK cols recs) :
    ((∃ t, fromRecords cols recs = .ok t) ↔ Nested cols recs ∧ recs ≠ []) ∧
    ∀ t, fromRecords cols recs = .ok t →
      WF t ∧ t.hierarchy = cols ∧
      (∀ j (hj : j < cols.length) p,
        p ∈ t.nodesAt cols[j] ↔ ∃ r, r ∈ recs ∧ r[j]? = some p) ∧
      (∀ j (hj : j + 1 < cols.length) p c,
        (p ∈ t.nodesAt (cols[j]'(by omega)) ∧ c ∈ t.entry (cols[j]'(by omega)) p) ↔
          ∃ r, r ∈ recs ∧ r[j]? = some p ∧ r[j+1]? = some c) ∧
      (∀ leaf i, (leaf ∈ t.nodesAt (cols.getLast hne) ∧ i ∈ t.entry (cols.getLast hne) leaf) ↔
          ∃ r, recs[i]? = some r ∧ r.getLast? = some leaf) ∧
      (∀ ns, IsPath t ns ↔ ns ∈ recs) := by
  have hd := fromRecordsRaw_dictOK hc recs
  have hiff : (fromRecordsRaw cols recs).validate = .ok () ↔ Nested cols recs ∧ recs ≠ [] := by
    constructor
    · intro hv
      refine ⟨(fromRecordsRaw_strict_iff hc hr).1 (strict_of_validate hv), ?_⟩
      rintro rfl
      have h0 : (fromRecordsRaw cols []).hierarchy.head? =
          some (cols[0]'(List.length_pos_iff.2 hne)) := by
        rw [fromRecordsRaw_hierarchy, List.head?_eq_getElem?]
        exact List.getElem?_eq_getElem _
      exact hasNode_of_validate hv _ h0 (fromRecordsRaw_nil_noNode hc hne)
    · intro h
      exact (fromRecordsRaw_wf hc hne hr h.1 h.2).valid
  refine ⟨⟨fun ⟨t, ht⟩ => ?_, fun hn => ⟨_, fromRecords_eq_ok_iff.2 ⟨rfl, hiff.2 hn⟩⟩⟩, fun t ht => ?_⟩
  · obtain ⟨rfl, hv⟩ := fromRecords_eq_ok_iff.1 ht
    exact hiff.1 hv
  · obtain ⟨rfl, hv⟩ := fromRecords_eq_ok_iff.1 ht
    have hn := (hiff.1 hv).1
    refine ⟨⟨hv, hc, hne, hd⟩, rfl, fun j hj p => fromRecordsRaw_nodes hc hr j hj p,
      fun j hj p c => ?_, fun leaf i => ?_, fun ns => fromRecordsRaw_paths hc hne hr hn ns⟩
    · rw [← isChild_iff hd]
      exact fromRecordsRaw_children hc hr j hj p c
    · rw [← isChild_iff hd]
      exact fromRecordsRaw_rows hc hne hr leaf i

example : fromRecords [0, 1] [[10, 20], [10, 21], [11, 22], [10, 20]] =
    .ok ⟨true, [0, 1],
          [(0, [(10, [20, 21]), (11, [22])]), (1, [(20, [0, 3]), (21, [1]), (22, [2])])], true⟩ ∧
    fromRecords [0, 1] [[10, 20], [11, 20]] = .error .twoParents ∧
    fromRecords [0, 1] [] = .error .noNodes := by decide +kernel

/-- The tree lemma behind C17 (*"flattening or dropping a level equals mapping
on the reduced taxonomy"*): for nested label columns, building the tree from
all columns and then dropping level `cols[i]` (any level; the leaf level with
`allow_leaf`; at least one record) succeeds and gives the same tree as building it
from the records with column `i` erased — same hierarchy, same nodes at every level,
same children / rows for every node, up to the order inside the child / row lists
(`TreeEquiv`, CTM/Lemmas/TreeEquivWF.lean). -/
theorem drop_commutes_build (cols : List Level) (recs : List (List Node)) (hc : cols.Nodup)
    (hr : RecsOK cols recs) (hn : Nested cols recs) (hrec : recs ≠ []) {i : Nat}
    (hi : i < cols.length)
    (h2 : 2 ≤ cols.length) (allowLeaf : Bool) (hl : allowLeaf = true ∨ i + 1 < cols.length) :
    ∃ t', (fromRecordsRaw cols recs).dropLevel cols[i] allowLeaf = .ok t' ∧
      TreeEquiv t' (fromRecordsRaw (cols.eraseIdx i) (recs.map (·.eraseIdx i))) ∧
      Nested (cols.eraseIdx i) (recs.map (·.eraseIdx i)) :=
  let ⟨t', h1, _, _, e⟩ := dropLevel_build hc hr hn hrec hi h2 allowLeaf hl
  ⟨t', h1, e, nested_eraseIdx hn i⟩

example : (fromRecordsRaw [0, 1, 2] [[10, 20, 30], [10, 21, 31], [11, 22, 32], [10, 20, 33]]).dropLevel 1
      = .ok ⟨true, [0, 2], [(0, [(10, [30, 33, 31]), (11, [32])]),
              (2, [(30, [0]), (31, [1]), (32, [2]), (33, [3])])], true⟩ ∧
    fromRecordsRaw [0, 2] [[10, 30], [10, 31], [11, 32], [10, 33]]
      = ⟨true, [0, 2], [(0, [(10, [30, 31, 33]), (11, [32])]),
              (2, [(30, [0]), (31, [1]), (32, [2]), (33, [3])])], true⟩ := by decide +kernel

/-- C10 constrains the taxonomy as a RELATION (who is a node of which level,
who is a child of whom, which rows a leaf owns), never the order of a dict or
of a child / row list.  A tree `t₂` that is `TreeEquiv` to a well-formed `t₁`
(same hierarchy, same nodes at every level, child / row lists equal up to
permutation) and is itself a Python dict with the same flags and key set is
well formed, and answers every parent / ancestor query identically and every
`as_leaves` query up to order.  This is what licenses the correspondence suite
to compare the code's `drop_level` / `flatten` / `to_str` / factory results
with the model's as relations (children lists sorted on both sides). -/
theorem relation_invariance (t₁ t₂ : RawTree) (e : TreeEquiv t₁ t₂) (w₁ : WF t₁)
    (d₂ : DictOK t₂) (hh : t₂.hasHierarchy = true) (hs : t₂.nodesAreStr = true)
    (hk : ∀ k, k ∈ t₂.levels.map (·.1) ↔ k ∈ t₂.hierarchy) :
    WF t₂ ∧
    (∀ cl c, t₁.childToParent cl c = t₂.childToParent cl c) ∧
    (∀ l n, t₁.parents l n = t₂.parents l n) ∧
    (∀ l n al, t₁.ancestorAt l n al = t₂.ancestorAt l n al) ∧
    (∀ l, l ∈ t₁.hierarchy → ∀ n, n ∈ t₁.nodesAt l → (t₁.asLeaves l n).Perm (t₂.asLeaves l n)) := by
  have w₂ := wf_of_equiv e w₁ d₂ hh hs hk
  exact ⟨w₂, childToParent_equiv e w₁ w₂, parents_equiv e w₁ w₂, ancestorAt_equiv e w₁ w₂,
    fun l hl n hn => asLeaves_equiv e (strict_of_validate w₁.valid) w₁.hNodup hl hn⟩

/-- the same taxonomy with every dict and list in another order -/
def exTreeShuffled : RawTree :=
  ⟨true, [0, 1, 2],
    [(0, [(11, [22]), (10, [20, 21])]), (1, [(22, [33]), (21, [32, 31]), (20, [30])]),
     (2, [(33, [3, 4]), (30, [0]), (31, [2, 1]), (32, [])])], true⟩

example : TreeEquiv exTree exTreeShuffled ∧ DictOK exTreeShuffled := by
  have hn : ∀ l, l ∈ exTree.hierarchy → (exTree.nodesAt l).Perm (exTreeShuffled.nodesAt l) := by
    decide +kernel
  have he : ∀ l, l ∈ exTree.hierarchy → ∀ n, n ∈ exTree.nodesAt l →
      (exTree.entry l n).Perm (exTreeShuffled.entry l n) := by
    decide +kernel
  exact ⟨⟨by decide +kernel, fun l hl n => (hn l hl).mem_iff, he⟩, dictOK_of_b (by decide +kernel)⟩

/-- `drop_preserves` for ANY order of the re-attached grand-children: whatever
tree equals the model's `dropLevel` result as a relation (e.g. the code's, which
is free to list the re-attached children in another order) is well formed and
gives every leaf the ancestors it had before the drop at every remaining level.
(Only `drop_leaf_preserves` mentions a literal concatenation order — of the
row lists of the new leaves — and only as a statement about the model.) -/
theorem drop_preserves_any_order (t : RawTree) (w : WF t) {i : Nat}
    (hi : i + 1 < t.hierarchy.length) (allowLeaf : Bool) (t' t'' : RawTree)
    (hd : t.dropLevel (t.hierarchy[i]'(by omega)) allowLeaf = .ok t')
    (e : TreeEquiv t' t'') (d : DictOK t'') (hh : t''.hasHierarchy = true)
    (hs : t''.nodesAreStr = true)
    (hk : ∀ k, k ∈ t''.levels.map (·.1) ↔ k ∈ t''.hierarchy) :
    WF t'' ∧ t''.hierarchy = t.hierarchy.eraseIdx i ∧
    ∀ n, n ∈ t.nodesAt (t.hierarchy.getLast w.hNe) → ∀ l, l ∈ t''.hierarchy →
      t''.ancestorAt (t.hierarchy.getLast w.hNe) n l =
        t.ancestorAt (t.hierarchy.getLast w.hNe) n l := by
  obtain ⟨t₀, hd₀, w', hh', _, _, hanc, _⟩ := drop_preserves t w hi allowLeaf
  rw [hd] at hd₀
  cases hd₀
  have w'' := wf_of_equiv e w' d hh hs hk
  refine ⟨w'', by rw [← e.hier]; exact hh', fun n hn l hl => ?_⟩
  rw [← ancestorAt_equiv e w' w'']
  exact hanc n hn l (by rw [e.hier]; exact hl)

/-- *"under construction"*, for the route behind `TaxonomyTree.from_data_release`
(`get_tree_above_leaves` on `cluster_annotation_term.csv`, no cell metadata):
whatever the route accepts is validated, has the requested hierarchy, and is
exactly the taxonomy the rows describe — every row whose level has a level above
it in the hierarchy names THAT level as its parent level and its link is in the
tree (never a silently smaller tree), and every link of the tree comes from a
row. -/
theorem from_links_exact (h : List Level) (rows : List LinkRow) (t : RawTree)
    (ht : fromLinks h rows = .ok t) :
    t.validate = .ok () ∧ t.hierarchy = h ∧
    (∀ r, r ∈ rows → ∀ pl, (pl, r.level) ∈ levelPairs h →
      r.parentLevel = pl ∧ IsChild t pl r.parent r.label) ∧
    (∀ pl cl, (pl, cl) ∈ levelPairs h → ∀ p c, IsChild t pl p c →
      ∃ r, r ∈ rows ∧ r.label = c ∧ r.level = cl ∧ r.parent = p ∧ r.parentLevel = pl) :=
  ⟨(fromLinks_ok_inv ht).1, (fromLinks_ok_inv ht).2.1, fromLinks_rows_present ht,
    fun pl cl hm p c hc => fromLinks_links_from_rows ht pl cl hm p c hc⟩

example :
    fromLinks [0, 1, 2] [⟨20, 1, 10, 0⟩, ⟨31, 2, 20, 1⟩, ⟨30, 2, 20, 1⟩, ⟨10, 0, 0, 0⟩] =
      .ok ⟨true, [0, 1, 2], [(0, [(10, [20])]), (1, [(20, [30, 31])]),
                              (2, [(30, []), (31, [])])], true⟩ ∧
    -- a cluster linked to the level two above: rejected, not dropped
    fromLinks [0, 1, 2] [⟨20, 1, 10, 0⟩, ⟨31, 2, 10, 0⟩, ⟨30, 2, 20, 1⟩] =
      .error .badParentLevel := by decide +kernel

/-- Generated obligation: `lean/CTM/Generated/TreeConsts.lean` is rewritten by
`./check C10` from the current source of `validate_taxonomy_tree`.  The
translator recognised the function, the keys it ignores are exactly the three
the model and the harness set aside, and the child-list tests (repeated
child, no children), the duplicate-level test and the no-nodes test are present —
so `validate` (= `validateWith true`) is the validator of the source as it stands. -/
theorem generated_validator_constants :
    Generated.TreeConsts.recognised = true ∧
    Generated.TreeConsts.ignorableKeys = ["hierarchy_mapper", "metadata", "name_mapper"] ∧
    Generated.TreeConsts.repeatedChildTest = true ∧
    Generated.TreeConsts.noChildrenTest = true ∧
    Generated.TreeConsts.dupLevelTest = true ∧
    Generated.TreeConsts.noNodesTest = true ∧
    ∀ t : RawTree, t.validate = t.validateWith Generated.TreeConsts.strictChildren :=
  ⟨rfl, rfl, rfl, rfl, rfl, rfl, fun _ => rfl⟩

end CTM.C10
