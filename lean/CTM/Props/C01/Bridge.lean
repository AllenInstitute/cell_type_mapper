/-
  C01 — bridge to the tree validator.

  The theorems of `CTM/Props/C01.lean` are stated under the level loop's own
  decidable well-formedness `wfb t = true`.  Here the same statements are
  derived with the acceptance of the model of `validate_taxonomy_tree`
  (`RawTree.validate`, the object of C10) as the hypothesis, through
  `CTM/Lemmas/BridgeWF.lean`:

    `t.validate = .ok ()`   the validator accepts the taxonomy
    `DictOK t`              the Python dicts have distinct keys (modelling
                            convention: association lists)
    `VoteOK t vote`         the oracle returns a child of the parent it is asked about
  Nothing else about the taxonomy: distinct level names, a non-empty hierarchy
  and a node at the top level are consequences of acceptance.  Where a run has
  `drop_level` / `flatten`, the STORED tree is the validated one; the tree of the run
  inherits well-formedness (`Bridge.wfb_runTree`, `Bridge.WF_runTree`).
-/
import CTM.Props.C01
import CTM.Lemmas.BridgeWF

namespace CTM.C01
open CTM CTM.LevelLoop CTM.RawTree CTM.Bridge

/-- "the assignments of a cell form one root-to-leaf path" (mechanism): on every
taxonomy the validator accepts, the batch loop `run_type_assignment` computes,
row by row, the walk of that row's cell. -/
theorem levelLoop_refines_walk_of_validate {κ} (t : RawTree) (vote : Oracle κ) (cells : List κ)
    (hval : t.validate = .ok ()) (hd : DictOK t)
    (hv : VoteOK t vote) :
    runLevelLoop t vote cells = cells.mapM (walk t vote) :=
  levelLoop_refines_walk t vote cells (wfb_of_validate hval hd) hv

example : runLevelLoop exTree exVote [0, 1, 5, 2] = [0, 1, 5, 2].mapM (walk exTree exVote) :=
  levelLoop_refines_walk_of_validate _ _ _ exTree_accepted.1 exTree_accepted.2 (exVote_ok _)

/-- "Every taxonomy the tree validator accepts ... returns exactly one record per
query cell ... with an assignment at every level of the taxonomy. Each
assignment is a node of its level and the assignments of a cell form one
root-to-leaf path of that taxonomy": `validate t = .ok ()` is literally the
hypothesis; the path is stated both in C01's form (`IsRootToLeafPath`:
consecutive assignments related by `child_to_parent`) and in C10's form
(`RawTree.IsPath`: each assignment a listed child of the previous one). -/
theorem path_of_validate {κ} (t : RawTree) (vote : Oracle κ) (cells : List κ)
    (hval : t.validate = .ok ()) (hd : DictOK t)
    (hv : VoteOK t vote) :
    ∃ rs, runLevelLoop t vote cells = .ok rs ∧ rs.length = cells.length ∧
      ∀ r ∈ rs, IsRootToLeafPath t r ∧ IsPath t (r.map (·.2.assignment)) := by
  have w := WF.of_validate hval hd
  obtain ⟨rs, h1, h2, h3⟩ := path t vote cells (WF_wfb w) hv
  exact ⟨rs, h1, h2, fun r hr => ⟨h3 r hr, isPath_of_rootToLeaf w (h3 r hr)⟩⟩

example : ∃ rs, runLevelLoop exTree exVote [3, 4] = .ok rs ∧ rs.length = 2 ∧
    ∀ r ∈ rs, IsRootToLeafPath exTree r ∧ IsPath exTree (r.map (·.2.assignment)) :=
  path_of_validate exTree exVote [3, 4] exTree_accepted.1 exTree_accepted.2 (exVote_ok _)

/-- C01 ∘ C10 (`from_records` / `fromRecordsRaw_paths`): when the taxonomy is
the one `get_taxonomy_tree` builds from per-cell label columns (nested, at least
one cell), "one root-to-leaf path of that taxonomy" means: the tuple of
assignments of every query cell is the label tuple of some reference cell. -/
theorem path_is_reference_record {κ} (cols : List Level) (recs : List (List Node))
    (vote : Oracle κ) (cells : List κ)
    (hc : cols.Nodup) (hne : cols ≠ []) (hr : RecsOK cols recs) (hn : Nested cols recs)
    (hrec : recs ≠ []) (hv : VoteOK (fromRecordsRaw cols recs) vote) :
    ∃ rs, runLevelLoop (fromRecordsRaw cols recs) vote cells = .ok rs ∧ rs.length = cells.length ∧
      ∀ r ∈ rs, r.map (·.2.assignment) ∈ recs := by
  have w := fromRecordsRaw_wf hc hne hr hn hrec
  obtain ⟨rs, h1, h2, h3⟩ := path_of_validate _ vote cells w.valid w.dict hv
  exact ⟨rs, h1, h2, fun r hr' => (fromRecordsRaw_paths hc hne hr hn _).1 (h3 r hr').2⟩

example : ∃ rs, runLevelLoop (fromRecordsRaw [0, 1] [[10, 20], [10, 21], [11, 22]]) exVote [0, 1, 2]
      = .ok rs ∧ rs.length = 3 ∧
    ∀ r ∈ rs, r.map (·.2.assignment) ∈ [[10, 20], [10, 21], [11, 22]] :=
  path_is_reference_record [0, 1] [[10, 20], [10, 21], [11, 22]] exVote [0, 1, 2] (by decide +kernel)
    (by decide +kernel) (by decide +kernel) (by decide +kernel)
    (List.cons_ne_nil _ _) (exVote_ok _)

/-- "returns exactly one record per query cell, in the query file's cell order
and carrying that cell's identifier", for every configuration (`drop_level`,
`flatten`, chunk size, worker count) whose run tree exists: the STORED taxonomy
is validator-accepted; the tree of the run inherits well-formedness
(`Bridge.wfb_runTree`). -/
theorem order_ids_of_validate {κ} (t0 t : RawTree) (cfg : Config) (vote : Oracle κ)
    (ids : List CellId) (cells : List κ) (order : List Nat)
    (hval : t0.validate = .ok ()) (hd : DictOK t0)
    (hrun : runTree t0 cfg = .ok t) (hv : VoteOK t vote)
    (hlen : ids.length = cells.length) (hnd : ids.Nodup)
    (hproc : 1 ≤ cfg.nProc) (hcs : 1 ≤ cfg.chunkSize)
    (horder : order.Perm (List.range
      (chunks cells.length (effChunk cells.length cfg.nProc cfg.chunkSize)).length)) :
    mapPipeline t0 cfg vote ids cells order =
      backfill t0.dropCells
        ((List.zipWith (mkRecord t vote) ids cells).map (markDirect t.hierarchy)) ∧
    ∀ out, mapPipeline t0 cfg vote ids cells order = .ok out →
      out.map (·.cellId) = ids ∧ out.length = cells.length :=
  order_ids t0 t cfg vote ids cells order hrun
    (wfb_runTree (wfb_of_validate hval hd) hrun) hv hlen hnd hproc hcs horder

example : ∀ out, mapPipeline exTree { dropLevel := some 1, chunkSize := 2, nProc := 2 } exVote
    [7, 3, 9] [0, 1, 2] [1, 0] = .ok out → out.map (·.cellId) = [7, 3, 9] ∧ out.length = 3 :=
  (order_ids_of_validate exTree exDropped { dropLevel := some 1, chunkSize := 2, nProc := 2 } exVote
    [7, 3, 9] [0, 1, 2] [1, 0] exTree_accepted.1 exTree_accepted.2 (by decide +kernel) (exVote_ok _) rfl (by decide +kernel) (by decide +kernel) (by decide +kernel)
    (by decide +kernel)).2

/-- "Every taxonomy the tree validator accepts — whatever its depth, including
parents with a single child and a taxonomy with a single node at the top — is
mapped without error" (run without `drop_level` / `flatten`). -/
theorem no_error_plain_of_validate {κ} (t0 : RawTree) (cfg : Config) (vote : Oracle κ)
    (ids : List CellId) (cells : List κ) (order : List Nat)
    (hdrop : cfg.dropLevel = none) (hflat : cfg.flatten = false)
    (hval : t0.validate = .ok ()) (hd : DictOK t0)
    (hv : VoteOK t0 vote)
    (hlen : ids.length = cells.length) (hnd : ids.Nodup)
    (hproc : 1 ≤ cfg.nProc) (hcs : 1 ≤ cfg.chunkSize)
    (horder : order.Perm (List.range
      (chunks cells.length (effChunk cells.length cfg.nProc cfg.chunkSize)).length)) :
    mapPipeline t0 cfg vote ids cells order =
      .ok ((List.zipWith (mkRecord t0 vote) ids cells).map (markDirect t0.hierarchy)) :=
  no_error_plain t0 cfg vote ids cells order hdrop hflat (wfb_of_validate hval hd) hv
    hlen hnd hproc hcs horder

example : mapPipeline exTree { chunkSize := 2, nProc := 2 } exVote [7, 3, 9] [0, 1, 2] [1, 0] =
    .ok ((List.zipWith (mkRecord exTree exVote) [7, 3, 9] [0, 1, 2]).map (markDirect exTree.hierarchy)) :=
  no_error_plain_of_validate exTree { chunkSize := 2, nProc := 2 } exVote [7, 3, 9] [0, 1, 2] [1, 0]
    rfl rfl exTree_accepted.1 exTree_accepted.2
    (exVote_ok _) rfl (by decide +kernel) (by decide +kernel) (by decide +kernel) (by decide +kernel)

/-- "this also holds when the taxonomy is flattened ..., in which case the levels
that were not voted on are inferred from the voted descendant and flagged as not
directly assigned" — for every validator-accepted stored taxonomy. -/
theorem flatten_path_of_validate {κ} (t0 : RawTree) (cfg : Config) (vote : Oracle κ) (ll : Level)
    (ids : List CellId) (cells : List κ) (order : List Nat)
    (hdrop : cfg.dropLevel = none) (hflat : cfg.flatten = true)
    (hleaf : t0.leafLevel = some ll)
    (hval : t0.validate = .ok ()) (hd : DictOK t0)
    (hv : VoteOK t0.flatten vote)
    (hlen : ids.length = cells.length) (hnd : ids.Nodup)
    (hproc : 1 ≤ cfg.nProc) (hcs : 1 ≤ cfg.chunkSize)
    (horder : order.Perm (List.range
      (chunks cells.length (effChunk cells.length cfg.nProc cfg.chunkSize)).length)) :
    ∃ out, mapPipeline t0 cfg vote ids cells order = .ok out ∧ out.length = cells.length ∧
      ∀ o ∈ out, ∃ path : Level → Node,
        (∀ cp ∈ pairsOf t0.hierarchy.reverse,
          t0.childToParent cp.1 (path cp.1) = some (path cp.2)) ∧
        ∀ l ∈ t0.hierarchy, path l ∈ t0.nodesAt l ∧
          ∃ e', o.levels.lookup l = some e' ∧ e'.assignment = path l ∧
            (l ≠ ll → e'.direct = some false ∧ e'.ru = none) :=
  flatten_path t0 cfg vote ll ids cells order hdrop hflat hleaf (wfb_of_validate hval hd)
    hv hlen hnd hproc hcs horder

example : ∃ out, mapPipeline exTree { flatten := true, chunkSize := 2, nProc := 2 } exVote
    [7, 3, 9] [0, 1, 2] [1, 0] = .ok out ∧ out.length = 3 :=
  (flatten_path_of_validate exTree
    { flatten := true, chunkSize := 2, nProc := 2 } exVote 2 [7, 3, 9] [0, 1, 2]
    [1, 0] rfl rfl (by decide +kernel) exTree_accepted.1 exTree_accepted.2 (exVote_ok _) rfl (by decide +kernel) (by decide +kernel) (by decide +kernel) (by decide +kernel)).imp
    fun _ h => ⟨h.1, h.2.1⟩

/-- "... or a level is dropped for the run" — for every validator-accepted stored
taxonomy and every level `l` that `drop_level` accepts (the split of the
hierarchy around `l` is derived from the success of `dropLevel`, which refuses
the leaf level). -/
theorem drop_path_of_validate {κ} (t0 t' : RawTree) (cfg : Config) (vote : Oracle κ)
    (l : Level) (ids : List CellId) (cells : List κ) (order : List Nat)
    (hcfg : cfg.dropLevel = some l) (hflat : cfg.flatten = false)
    (hdrop : t0.dropLevel l = .ok t')
    (hval : t0.validate = .ok ()) (hd : DictOK t0)
    (hv : VoteOK t' vote)
    (hlen : ids.length = cells.length) (hnd : ids.Nodup)
    (hproc : 1 ≤ cfg.nProc) (hcs : 1 ≤ cfg.chunkSize)
    (horder : order.Perm (List.range
      (chunks cells.length (effChunk cells.length cfg.nProc cfg.chunkSize)).length)) :
    ∃ out, mapPipeline t0 cfg vote ids cells order = .ok out ∧ out.length = cells.length ∧
      ∀ o ∈ out, ∃ path : Level → Node,
        (∀ cp ∈ pairsOf t0.hierarchy.reverse,
          t0.childToParent cp.1 (path cp.1) = some (path cp.2)) ∧
        ∀ x ∈ t0.hierarchy, path x ∈ t0.nodesAt x ∧
          ∃ e', o.levels.lookup x = some e' ∧ e'.assignment = path x ∧
            (x = l → e'.direct = some false ∧ e'.ru = none) ∧
            (x ≠ l → e'.direct = some true) := by
  obtain ⟨pre, cl, post, hs⟩ := dropLevel_split hdrop
  exact drop_path t0 t' cfg vote l cl pre post ids cells order hcfg hflat hdrop hs
    (wfb_of_validate hval hd) hv hlen hnd hproc hcs horder

example : ∃ out, mapPipeline exTree { dropLevel := some 1, chunkSize := 2, nProc := 2 } exVote
    [7, 3, 9] [0, 1, 2] [1, 0] = .ok out ∧ out.length = 3 :=
  (drop_path_of_validate exTree exDropped { dropLevel := some 1, chunkSize := 2, nProc := 2 } exVote 1
      [7, 3, 9] [0, 1, 2] [1, 0] rfl rfl exTree_dropLevel exTree_accepted.1 exTree_accepted.2 (exVote_ok _) rfl
      (by decide +kernel) (by decide +kernel) (by decide +kernel) (by decide +kernel)).imp
    fun _ h => ⟨h.1, h.2.1⟩

/-- "this also holds when the taxonomy is flattened or a level is dropped for the
run" — BOTH at once (`C01.flatten_drop_path`), for every validator-accepted
stored taxonomy and every level `drop_level` accepts: the run never fails,
returns one record per cell, each a root-to-leaf path of the STORED taxonomy,
every level above the leaf level flagged not directly assigned. -/
theorem flatten_drop_path_of_validate {κ} (t0 t' : RawTree) (cfg : Config) (vote : Oracle κ)
    (l ll : Level) (ids : List CellId) (cells : List κ) (order : List Nat)
    (hdrop : t0.dropLevel l = .ok t') (hleaf : t0.leafLevel = some ll)
    (hval : t0.validate = .ok ()) (hd : DictOK t0) (hv : VoteOK t0.flatten vote)
    (hlen : ids.length = cells.length) (hnd : ids.Nodup)
    (hproc : 1 ≤ cfg.nProc) (hcs : 1 ≤ cfg.chunkSize)
    (horder : order.Perm (List.range
      (chunks cells.length (effChunk cells.length cfg.nProc cfg.chunkSize)).length)) :
    ∃ out, mapPipeline t0 { cfg with dropLevel := some l, flatten := true } vote ids cells order
        = .ok out ∧ out.length = cells.length ∧
      ∀ o ∈ out, ∃ path : Level → Node,
        (∀ cp ∈ pairsOf t0.hierarchy.reverse,
          t0.childToParent cp.1 (path cp.1) = some (path cp.2)) ∧
        ∀ x ∈ t0.hierarchy, path x ∈ t0.nodesAt x ∧
          ∃ e', o.levels.lookup x = some e' ∧ e'.assignment = path x ∧
            (x ≠ ll → e'.direct = some false ∧ e'.ru = none) := by
  obtain ⟨pre, cl, post, hs⟩ := dropLevel_split hdrop
  exact flatten_drop_path t0 t' cfg vote l cl ll pre post ids cells order hdrop hs hleaf
    (wfb_of_validate hval hd) hv hlen hnd hproc hcs horder

example : ∃ out, mapPipeline exTree { dropLevel := some 1, flatten := true, chunkSize := 2, nProc := 2 }
    exVote [7, 3, 9] [0, 1, 2] [1, 0] = .ok out ∧ out.length = 3 :=
  (flatten_drop_path_of_validate exTree exDropped { chunkSize := 2, nProc := 2 } exVote 1 2
      [7, 3, 9] [0, 1, 2] [1, 0] exTree_dropLevel (by decide +kernel) exTree_accepted.1 exTree_accepted.2
      (exVote_ok _) rfl (by decide +kernel) (by decide +kernel) (by decide +kernel) (by decide +kernel)).imp
    fun _ h => ⟨h.1, h.2.1⟩

end CTM.C01
