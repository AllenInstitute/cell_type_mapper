/-
  C02 — assignments are the plurality of bootstrapped nearest-centroid votes.

  Theorems about the executable model (CTM/Model/Numeric.lean,
  CTM/Model/Election.lean) for ALL inputs, one cell at one node.  Helper lemmas
  live in CTM/Lemmas/Numeric.lean (rounding, `corrSsq`, the signed square) and
  CTM/Lemmas/Election.lean.  What ties the model to /repo is the
  correspondence suite harness/props/c02.py.

  `corrOf it leaf` is the correlation VALUE numpy reports in iteration `it` for
  the winning leaf (a float, data of the statement); the vote itself is decided
  on the exact signed square `corrSsq` (`vote_is_argmax`).

  The whole pipeline: Props/C02/Compose.lean (`pipeline_recompute`, the form of
  `recompute` for every record of the composed model), Bridge2.lean (with the
  tree validator's acceptance as hypothesis), EndToEnd.lean (from the files).
-/
import CTM.Lemmas.Election

namespace CTM.C02
open CTM.Numeric CTM.Election

/-- "each bootstrap iteration uses a ... subset, of size max(1, round(factor x n)),
    of the n marker genes": the model's size is `max (roundHalfEven p) 1` where
    `roundHalfEven p` is a nearest integer to the (float) product `p`, the even one
    on a tie (numpy rounds half to even). -/
theorem bootstrap_size (p : Rat) (n : Nat) (hn : 0 < n) :
    bootstrapSize p n = max (roundHalfEven p) 1 ∧
    |((roundHalfEven p : Int) : Rat) - p| ≤ 1 / 2 ∧
    (|((roundHalfEven p : Int) : Rat) - p| = 1 / 2 → roundHalfEven p % 2 = 0) :=
  ⟨bootstrapSize_of_pos p hn, roundHalfEven_spec p⟩

example : bootstrapSize (5 / 2) 5 = 2 ∧ bootstrapSize (7 / 2) 7 = 4 ∧ bootstrapSize (1 / 100) 9 = 1 := by
  decide +kernel

/-- "all bootstrap factors in (0,1]": when the product does not exceed the
    number of markers, `rng.choice` does not raise and every subset has between 1
    and n elements. -/
theorem draw_size_ok (p : Rat) (n : Nat) (hn : 0 < n) (hp : p ≤ (n : Rat)) :
    ∃ k : Nat, drawSize p n = .ok k ∧ 1 ≤ k ∧ k ≤ n ∧ (k : Int) = bootstrapSize p n := by
  have h1 := (bootstrap_size p n hn).1
  have hge : 1 ≤ bootstrapSize p n := h1 ▸ le_max_right _ _
  have hle : bootstrapSize p n ≤ (n : Int) :=
    h1 ▸ max_le (roundHalfEven_le_of_le_nat p n hp) (by omega)
  refine ⟨(bootstrapSize p n).toNat, ?_, by omega, by omega, by omega⟩
  rw [drawSize, if_neg (by omega), if_neg (by omega)]

example : drawSize (9 / 2) 9 = .ok 4 := by decide +kernel

/-- "casts one vote for the child that contains the leaf cluster whose mean
    ... profile has the highest Pearson correlation with the cell's ... profile
    over that subset, considering only leaves below the node": an iteration that
    does not raise returns the index `i` of a reference row (the rows are the
    leaves below the node) whose signed squared correlation with the cell over the
    subset is maximal, the first such (numpy.argmax); the vote goes to `types[i]`
    through `tallyCell` / `aggregateVotes`. -/
theorem vote_is_argmax (refs : List (List Rat)) (x : List Rat) (s : List Nat) (i : Nat) (q : Rat)
    (h : tallyIter refs x s = .ok (i, q)) :
    ∃ hi : i < refs.length,
      q = corrSsq (pick s refs[i]) (pick s x) ∧
      (∀ (j : Nat) (hj : j < refs.length), corrSsq (pick s refs[j]) (pick s x) ≤ q) ∧
      (∀ (j : Nat) (hj : j < refs.length), j < i → corrSsq (pick s refs[j]) (pick s x) < q) :=
  tallyIter_spec refs x s i q h

example : tallyIter [[1, 2, 4], [3, 1, 2], [1, 1, 1]] [1, 2, 5] [0, 1, 2] = .ok (0, 361 / 364) := by
  decide +kernel

/-- the arg-max is decided without square roots: for numbers `r`, `r'` whose
    signed squares are the two scores (i.e. the Pearson correlations themselves),
    comparing the scores compares the correlations. -/
theorem signed_square_decides (r r' s s' : Rat) (hr : r * |r| = s) (hr' : r' * |r'| = s') :
    (s < s' ↔ r < r') ∧ (s ≤ s' ↔ r ≤ r') := by
  subst hr hr'
  exact ⟨signed_square_lt_iff r r', signed_square_le_iff r r'⟩

example : ((1 : Rat) / 2) * |(1 : Rat) / 2| = 1 / 4 := by norm_num [abs_of_pos]

/-- "considering only leaves below the node" and "the child that contains the
    leaf cluster": the reference rows `assemble_query_data` hands to the vote are
    exactly the leaves of the node's children (sorted, each once), the type
    recorded for a row is a child of the node containing that leaf, and in a
    strict tree (leaf sets of distinct children disjoint, C10) it is THE child
    containing it.  `kids` / `leavesOf` are the tree's `children` / `as_leaves`. -/
theorem reference_rows (kids : List Nat) (leavesOf : Nat → List Nat) :
    (assembleRows kids leavesOf).1.Pairwise (· < ·) ∧
    (∀ x, x ∈ (assembleRows kids leavesOf).1 ↔ ∃ c ∈ kids, x ∈ leavesOf c) ∧
    (assembleRows kids leavesOf).2.length = (assembleRows kids leavesOf).1.length ∧
    (∀ (i : Nat) (hi : i < (assembleRows kids leavesOf).1.length),
      (assembleRows kids leavesOf).2.getD i 0 ∈ kids ∧
      (assembleRows kids leavesOf).1[i] ∈ leavesOf ((assembleRows kids leavesOf).2.getD i 0)) ∧
    ((∀ c ∈ kids, ∀ c' ∈ kids, ∀ x, x ∈ leavesOf c → x ∈ leavesOf c' → c = c') →
      ∀ (i : Nat) (hi : i < (assembleRows kids leavesOf).1.length) (c : Nat), c ∈ kids →
        (assembleRows kids leavesOf).1[i] ∈ leavesOf c →
        (assembleRows kids leavesOf).2.getD i 0 = c) := by
  obtain ⟨h1, h2, h3, h4⟩ := assembleRows_spec kids leavesOf
  exact ⟨h1, h2, h3, h4, fun hd i hi c hc hx => assembleRows_unique kids leavesOf hd i hi c hc hx⟩

example : assembleRows [7, 5] (fun c => if c = 7 then [3, 0] else [2, 1]) =
    ([0, 1, 2, 3], [7, 5, 5, 7]) := by decide +kernel

/-- constant rows ("norm := 1"): a row that is constant over the subset has
    correlation 0 with every row. -/
theorem constant_row_scores_zero (m x : List Rat) :
    (var x = 0 → corrSsq m x = 0) ∧ (var m = 0 → corrSsq m x = 0) :=
  ⟨corrSsq_const_right m x, corrSsq_const_left m x⟩

example : var [2, 2, 2] = 0 ∧ corrSsq [1, 2, 3] [2, 2, 2] = 0 := by decide +kernel

/-- `tally_votes`: the vote array counts, per leaf, the iterations whose nearest
    neighbour was that leaf; the correlation array sums the winning correlations
    of exactly those iterations; every iteration casts exactly one vote. -/
theorem tally_counts (n : Nat) (rows : List (Nat × Rat)) :
    (tallyCell n rows).1 = (List.range n).map (countLeaf rows) ∧
    (tallyCell n rows).2 = (List.range n).map (corrOfLeaf rows) ∧
    ((∀ r ∈ rows, r.1 < n) → (tallyCell n rows).1.sum = rows.length) :=
  ⟨tallyCell_votes n rows, tallyCell_corr n rows, tallyCell_sum n rows⟩

example : tallyCell 3 [(0, 1 / 2), (2, 1 / 4), (0, 1)] = ([2, 0, 1], [3 / 2, 0, 1 / 4]) := by
  decide +kernel

/-- "leaf votes summed into the child that owns the leaf": the aggregated types
    are the distinct children in increasing order; the entry of a child is the sum
    over exactly its leaves; no vote (and no correlation) is lost or counted
    twice.  For any leaf -> child map `types`. -/
theorem aggregate_sound (types votes : List Nat) (corr : List Rat) :
    (aggregateVotes types votes corr).2.2.Pairwise (· < ·) ∧
    (∀ t, t ∈ (aggregateVotes types votes corr).2.2 ↔ t ∈ types) ∧
    (aggregateVotes types votes corr).1 = (uniqSorted types).map (fun t =>
      (((List.range types.length).filter (fun i => types.getD i 0 == t)).map
        (fun i => votes.getD i 0)).sum) ∧
    (votes.length = types.length → (aggregateVotes types votes corr).1.sum = votes.sum) ∧
    (corr.length = types.length → (aggregateVotes types votes corr).2.1.sum = corr.sum) :=
  ⟨sorted_uniqSorted types, fun t => mem_uniqSorted t types, rfl,
   aggregateVotes_sum types votes corr, aggregateVotes_corr_sum types votes corr⟩

example : aggregateVotes [7, 5, 7] [2, 0, 1] [3 / 2, 0, 1 / 4] = ([0, 3], [0, 7 / 4], [5, 7]) := by
  decide +kernel

/-- "casts one vote for the child that contains the leaf": tally followed by the
    (optional) aggregation — every column `choose_node` works on holds exactly the
    number of iterations whose nearest leaf belongs to that column's child (and,
    when aggregated, the correlation sum of exactly those iterations). -/
theorem child_votes_are_iterations (types : List Nat) (rows : List (Nat × Rat))
    (h : ∀ r ∈ rows, r.1 < types.length) :
    (∀ k, k < (columns types (tallyCell types.length rows).1
        (tallyCell types.length rows).2).1.length →
      (columns types (tallyCell types.length rows).1 (tallyCell types.length rows).2).1.getD k 0 =
        (rows.filter (fun r => types.getD r.1 0 ==
          (columns types (tallyCell types.length rows).1
            (tallyCell types.length rows).2).2.2.getD k 0)).length) ∧
    (aggregateVotes types (tallyCell types.length rows).1 (tallyCell types.length rows).2).2.1 =
      (uniqSorted types).map
        (fun t => ((rows.filter (fun r => types.getD r.1 0 == t)).map (·.2)).sum) :=
  ⟨fun k hk => (columns_tallyCell types rows h k hk).1, (aggregateVotes_tallyCell types rows h).2⟩

example : columns [7, 5, 7] (tallyCell 3 [(0, 1), (2, 1 / 2), (1, 1)]).1
    (tallyCell 3 [(0, 1), (2, 1 / 2), (1, 1)]).2 = ([1, 2], [1, 3 / 2], [5, 7]) := by
  decide +kernel

/-- "The reported assignment is a child with the most votes, its bootstrapping
    probability is its share of the votes, its average correlation is the mean
    winning correlation over the iterations that voted for it" — for ANY tie
    order numpy's argsort may have produced. `columns types votes corr` are the
    (votes, correlations, types) columns `choose_node` works on (aggregated iff a
    type repeats). -/
theorem plurality (types votes : List Nat) (corr : List Rat) (iters nAssign : Nat)
    (order : List Nat) (ch : Choice)
    (hv : ValidOrder (columns types votes corr).1 order)
    (h : chooseCell types votes corr iters nAssign order = .ok ch) :
    ∃ w, w < (columns types votes corr).1.length ∧
      ch.winner = (columns types votes corr).2.2.getD w 0 ∧
      (∀ i, i < (columns types votes corr).1.length →
        (columns types votes corr).1.getD i 0 ≤ (columns types votes corr).1.getD w 0) ∧
      ch.prob = ((columns types votes corr).1.getD w 0 : Rat) / (iters : Rat) ∧
      (0 < (columns types votes corr).1.getD w 0 →
        ch.avgCorr = (columns types votes corr).2.1.getD w 0 /
          ((columns types votes corr).1.getD w 0 : Rat)) :=
  chooseCols_winner hv h

/-- the hypotheses are satisfiable: `[1, 0]` is a valid tie order of the
    aggregated votes `[0, 3]` -/
example : ValidOrder (columns [7, 5, 7] [2, 0, 1] [3 / 2, 0, 1 / 4]).1 [1, 0] := by
  decide +kernel

example : chooseCell [7, 5, 7] [2, 0, 1] [3 / 2, 0, 1 / 4] 3 3 [1, 0] =
    .ok { winner := 7, prob := 1, avgCorr := 7 / 12,
          runners := [{ type := 5, valid := false, avgCorr := 0, prob := 0 }] } := by
  decide +kernel

/-- `ValidOrder` — the only assumption made about numpy's unstable argsort — is
    never vacuous: for every vote row some valid order exists. -/
theorem tie_order_exists (types votes : List Nat) (corr : List Rat) :
    ∃ order, ValidOrder (columns types votes corr).1 order :=
  validOrder_exists _

/-- "the runners-up are the remaining vote-getting children in order of
    decreasing share": every other child that received votes is listed, unless
    the list was truncated to `nAssign - 1` entries, in which case it has no more
    votes than any listed runner-up (order and positivity of the listed ones:
    `C03.runners`). -/
theorem runners_are_the_rest (types votes : List Nat) (corr : List Rat) (iters nAssign : Nat)
    (order : List Nat) (ch : Choice)
    (hv : ValidOrder (columns types votes corr).1 order)
    (h : chooseCell types votes corr iters nAssign order = .ok ch)
    (i : Nat) (hi : i < (columns types votes corr).1.length)
    (hne : (columns types votes corr).2.2.getD i 0 ≠ ch.winner)
    (hpos : 0 < (columns types votes corr).1.getD i 0) :
    (columns types votes corr).2.2.getD i 0 ∈ (keepRunners ch.runners).1 ∨
    (nAssign < (columns types votes corr).1.length ∧
      ∀ p ∈ (keepRunners ch.runners).2.2,
        ((columns types votes corr).1.getD i 0 : Rat) / (iters : Rat) ≤ p) :=
  chooseCols_runners_complete hv h i hi hne hpos

example : keepRunners [{ type := 5, valid := false, avgCorr := 0, prob := 0 },
    { type := 6, valid := true, avgCorr := 1 / 2, prob := 1 / 3 }] = ([6], [1 / 2], [1 / 3]) := by
  decide +kernel

/-- the runner-up fields: every listed runner-up is a column other than the
    winner's that received votes; its probability is its share of the votes and its
    correlation the mean winning correlation over the iterations that voted for
    it (any tie order). -/
theorem runner_fields (types votes : List Nat) (corr : List Rat) (iters nAssign : Nat)
    (order : List Nat) (ch : Choice)
    (hv : ValidOrder (columns types votes corr).1 order)
    (h : chooseCell types votes corr iters nAssign order = .ok ch) :
    ∃ (w : Nat) (idxs : List Nat),
      ch.winner = (columns types votes corr).2.2.getD w 0 ∧ idxs.Nodup ∧ w ∉ idxs ∧
      (∀ i ∈ idxs, i < (columns types votes corr).1.length ∧
        0 < (columns types votes corr).1.getD i 0) ∧
      (keepRunners ch.runners).1 = idxs.map (fun i => (columns types votes corr).2.2.getD i 0) ∧
      (keepRunners ch.runners).2.1 = idxs.map (fun i =>
        (columns types votes corr).2.1.getD i 0 / ((columns types votes corr).1.getD i 0 : Rat)) ∧
      (keepRunners ch.runners).2.2 = idxs.map (fun i =>
        ((columns types votes corr).1.getD i 0 : Rat) / (iters : Rat)) :=
  chooseCols_runner_fields hv h

example : (chooseCell [7, 5, 9] [2, 3, 1] [1, 2, 1 / 2] 6 3 [1, 0, 2]).toOption.map
    (fun c => keepRunners c.runners) = some ([7, 9], [1 / 2, 1 / 2], [1 / 3, 1 / 6]) := by
  decide +kernel

/-- "Recomputing these quantities directly from the input files and the subsets
    that were drawn reproduces the output", for one cell at one node: whatever
    subsets were drawn, whatever tie order argsort produced and however many
    runners-up were requested, the reported child is a child with the largest
    number of iterations whose arg-max leaf (`vote_is_argmax`) it owns, and the
    reported probability is that number over the iteration count.  `near` is the
    list of per-iteration (arg-max leaf, score) the recomputation produces. -/
theorem recompute (refs : List (List Rat)) (x : List Rat) (types : List Nat)
    (subsets : List (List Nat)) (corrOf : Nat → Nat → Rat) (nAssign : Nat) (order : List Nat)
    (ch : Choice) (tally : List Nat × List Rat) (hlen : types.length = refs.length)
    (htally : tallyVotes refs x subsets corrOf = .ok tally)
    (hv : ValidOrder (columns types tally.1 tally.2).1 order)
    (hch : chooseCell types tally.1 tally.2 subsets.length nAssign order = .ok ch) :
    ∃ near : List (Nat × Rat), subsets.mapM (tallyIter refs x) = .ok near ∧
      near.length = subsets.length ∧
      ch.winner ∈ types ∧
      (∀ t ∈ types, (near.filter (fun r => types.getD r.1 0 == t)).length ≤
        (near.filter (fun r => types.getD r.1 0 == ch.winner)).length) ∧
      ch.prob = ((near.filter (fun r => types.getD r.1 0 == ch.winner)).length : Rat) /
        (subsets.length : Rat) := by
  obtain ⟨near, hnear, rfl⟩ := tallyVotes_ok htally
  refine ⟨near, hnear, ListAux.mapM_ok_length hnear, ?_⟩
  rw [← hlen] at hv hch
  -- the columns count, per child, the iterations whose arg-max leaf it owns
  refine chooseCols_plurality hv hch
    (columns_length types _ _ (by rw [tallyCell_votes]; simp)) (columns_types_mem types _ _)
    fun k hk => ?_
  rw [(columns_tallyCell types _ (hlen ▸ rowsOf_lt hnear corrOf) k hk).1]
  exact ListAux.filter_length_of_map_fst_eq _ _ (map_fst_rowsOf near corrOf) (fun i => types.getD i 0 == _)

example : ∃ tally, tallyVotes [[1, 2, 4], [3, 1, 2], [2, 2, 9]] [1, 2, 5] [[0, 1], [0, 2], [0, 1, 2]]
      (fun _ _ => 1 / 2) = .ok tally ∧
    (chooseCell [8, 6, 8] tally.1 tally.2 3 2 [1, 0]).toOption.map (fun c => (c.winner, c.prob)) =
      some (8, 1) := by
  refine ⟨([3, 0, 0], [3 / 2, 0, 0]), ?_, ?_⟩ <;> decide +kernel

end CTM.C02
