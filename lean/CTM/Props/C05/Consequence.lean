/-
  C05, last sentence — "Consequently the mapping of a query file and the
  statistics of a reference file are identical for all encodings of the same
  matrix."

  Composition of the row-access theorems (`CTM/Props/C05.lean`) with the
  consumers' models:
    `Stats.precompute`          (C09.direct / C09.partition_indep),
    `Normalize.prepareChunk`    (per-chunk CPM / log2 / marker columns),
    `LevelLoop.mapPipeline`     (C06.chunking).
  Adapter lemmas: `CTM/Lemmas/EncodingCompose.lean`.

  The two `…_encoding_indep` theorems speak of the rows of an iteration concatenated.  That the
  consumers' models, which cut these rows with chunk loops of their own, see in each chunk what
  the iterator returns for it is said by `stats_chunks_are_iterator_chunks` and
  `mapper_chunks_are_iterator_chunks`.

  Setting of every theorem (`Enc`): a CSR encoding `R`, a CSC encoding `C` and
  a dense array `D` that store the same `nRows × nCols` matrix of rationals
  (`toDense R = D`, `transposeDense (toDense C) = D`), both compressed encodings
  well formed (pointer array monotone from 0 to nnz, indices in range, not
  necessarily sorted).  Chunk sizes `≥ 1` may differ per encoding; the CSC
  budget `B` is arbitrary (chunk sizes `≥ 1`, any element budget).

  X versus a named layer: the model does not distinguish them — the layer name
  only selects which arrays are read, and every function here is a function of
  those arrays (`layer_indep`).
-/
import CTM.Props.C05
import CTM.Props.C06
import CTM.Props.C09
import CTM.Lemmas.EncodingCompose

namespace CTM.C05
open CTM.Chunking CTM.Sparse CTM.EncodingCompose

/-- three encodings of one matrix -/
structure Enc (R C : Mat Rat) (D : Dense Rat) (nRows nCols : Nat) : Prop where
  wR : WFptr R.indptr nRows R.indices.length
  hrR : ∀ x ∈ R.indices, x < nCols
  wC : WFptr C.indptr nCols C.indices.length
  hlenC : C.data.length = C.indices.length
  hrC : ∀ x ∈ C.indices, x < nRows
  hR : toDense 0 R nRows nCols = D
  hC : transposeDense 0 (toDense 0 C nCols nRows) nRows = D

theorem Enc.length {R C : Mat Rat} {D : Dense Rat} {nRows nCols : Nat}
    (e : Enc R C D nRows nCols) : D.length = nRows := by
  rw [← e.hR, toDense_length]

/-- running example: `[[1,0,2],[0,3,0],[4,0,5]]` in the three encodings -/
def R0 : Mat Rat := ⟨[0, 2, 3, 5], [0, 2, 1, 0, 2], [1, 2, 3, 4, 5]⟩
def C0 : Mat Rat := ⟨[0, 2, 3, 5], [0, 2, 1, 0, 2], [1, 4, 3, 2, 5]⟩
def D0 : Dense Rat := [[1, 0, 2], [0, 3, 0], [4, 0, 5]]

theorem enc0 : Enc R0 C0 D0 3 3 :=
  ⟨⟨rfl, by decide +kernel, rfl, rfl⟩, by decide +kernel, ⟨rfl, by decide +kernel, rfl, rfl⟩, rfl,
   by decide +kernel, by decide +kernel, by decide +kernel⟩

/-! ## what every consumer receives -/

/-- for every chunk size and budget the three iterators succeed and hand over
the same rows in the same order: the blocks of each iteration, concatenated,
are `D` (so anything computed from the concatenated rows is the same). -/
theorem rows_encoding_indep {R C : Mat Rat} {D : Dense Rat} {nRows nCols : Nat}
    (e : Enc R C D nRows nCols) (csR csC csD : Nat) (B : Budget)
    (hR : 1 ≤ csR) (hC : 1 ≤ csC) (hD : 1 ≤ csD) (hlo : 1 ≤ B.lo) (hc : 1 ≤ B.loCount) :
    csrIter 0 R nRows nCols csR = .ok (denseIter D csR) ∧
    cscIter 0 C nRows nCols csC B = .ok (denseIter D csC) ∧
    ((denseIter D csR).map (·.1)).flatten = D ∧
    ((denseIter D csC).map (·.1)).flatten = D ∧
    ((denseIter D csD).map (·.1)).flatten = D :=
  ⟨(encoding_indep 0 R C D nRows nCols csR B hR hlo hc e.wR e.hrR e.wC e.hlenC e.hrC e.hR e.hC).1,
   (encoding_indep 0 R C D nRows nCols csC B hC hlo hc e.wR e.hrR e.wC e.hlenC e.hrC e.hR e.hC).2,
   denseIter_rows D csR hR, denseIter_rows D csC hC, denseIter_rows D csD hD⟩

/-! ## reference statistics -/

/-- **adapter (statistics)** — `Stats.precompute` slices every file with its own
`chunkRanges` / `slice` and takes `Chunk.cells` as "the rows
`iterator.get_chunk(r0, r1)` returns".  For every chunk `c` of the file holding
our matrix (any `rows ≥ 1`), `c.cells` is exactly what `get_chunk(c.r0, c.r1)`
of **each** of the three encodings returns (CSC: after the transposition with
any budget), paired with the obs names `names[c.r0:c.r1]` and normalised row
by row. -/
theorem stats_chunks_are_iterator_chunks {R C : Mat Rat} {D : Dense Rat} {nRows nCols : Nat}
    (e : Enc R C D nRows nCols) (B : Budget) (hlo : 1 ≤ B.lo) (hc : 1 ≤ B.loCount)
    (names : List Nat) (norm : List Rat → List Rat) (hnames : names.length = nRows)
    (rows fid : Nat) (hrows : 1 ≤ rows) :
    ∀ c ∈ Stats.fileChunks rows fid (recsOf names norm D),
      c.cells = recsOf (slice names c.r0 c.r1) norm (slice D c.r0 c.r1) ∧
      csrGetChunk 0 R nCols c.r0 c.r1 = .ok (slice D c.r0 c.r1, c.r0, c.r1) ∧
      cscGetChunk 0 C nRows nCols c.r0 c.r1 B = .ok (slice D c.r0 c.r1, c.r0, c.r1) ∧
      denseGetChunk D c.r0 c.r1 = (slice D c.r0 c.r1, c.r0, c.r1) := by
  intro c hc'
  unfold Stats.fileChunks at hc'
  rw [List.mem_map] at hc'
  obtain ⟨p, hp, rfl⟩ := hc'
  have hlenrecs : (recsOf names norm D).length = nRows := by
    simp [recsOf, hnames, e.length]
  rw [hlenrecs, Stats.chunkRanges_eq_chunks] at hp
  have hb := chunks_bounds nRows rows hrows p hp
  refine ⟨recsOf_slice names norm D p.1 p.2, ?_, ?_, rfl⟩
  · have := get_chunk 0 R nRows nCols e.wR e.hrR p.1 p.2 (by omega) (by omega)
    rw [e.hR] at this
    exact this
  · have := cscGetChunk_ok 0 C nRows nCols B hlo hc e.wC e.hlenC e.hrC p.1 p.2
      (by omega) (by omega)
    rw [e.hC] at this
    exact this

/-- **`stats_encoding_indep`** — *"the statistics of a reference file are
identical for all encodings of the same matrix"*.  Feed
`Stats.precompute` a reference consisting of our matrix (file `fid`, obs names
`names`, any per-row normalisation `norm`, e.g. log2(CPM+1)) and any other
files `others`.  Whether the file's rows come from iterating the CSR, the CSC
(any budget) or the dense encoding — each with its own iterator chunk size — and
whatever `rows_at_a_time` / worker count each run uses, the written statistics
arrays are identical (hypotheses of `C09.partition_indep`: name table inside the
output, some file holds a named cell). -/
theorem stats_encoding_indep {R C : Mat Rat} {D : Dense Rat} {nRows nCols : Nat}
    (e : Enc R C D nRows nCols) (csR csC csD : Nat) (B : Budget)
    (hcsR : 1 ≤ csR) (hcsC : 1 ≤ csC) (hcsD : 1 ≤ csD) (hlo : 1 ≤ B.lo) (hc : 1 ≤ B.loCount)
    (names : List Nat) (norm : List Rat → List Rat) (fid : Nat)
    (others : List (Nat × List Stats.CellRec))
    (nClusters g : Nat) (nameToRow : List (Nat × Nat))
    (rows₁ nProc₁ rows₂ nProc₂ rows₃ nProc₃ : Nat)
    (h₁ : 1 ≤ rows₁) (p₁ : 1 ≤ nProc₁) (h₂ : 1 ≤ rows₂) (p₂ : 1 ≤ nProc₂)
    (h₃ : 1 ≤ rows₃) (p₃ : 1 ≤ nProc₃)
    (hntr : ∀ p ∈ nameToRow, p.2 < nClusters)
    (hw : ∃ f ∈ (fid, recsOf names norm D) :: others, Stats.wanted nameToRow f.2 = true) :
    ∃ bR bC, csrIter 0 R nRows nCols csR = .ok bR ∧ cscIter 0 C nRows nCols csC B = .ok bC ∧
      Stats.precompute nClusters g nameToRow
          ((fid, recsOf names norm ((bR.map (·.1)).flatten)) :: others) rows₁ nProc₁
        = Stats.precompute nClusters g nameToRow
          ((fid, recsOf names norm ((bC.map (·.1)).flatten)) :: others) rows₂ nProc₂ ∧
      Stats.precompute nClusters g nameToRow
          ((fid, recsOf names norm ((bC.map (·.1)).flatten)) :: others) rows₂ nProc₂
        = Stats.precompute nClusters g nameToRow
          ((fid, recsOf names norm (((denseIter D csD).map (·.1)).flatten)) :: others)
          rows₃ nProc₃ := by
  obtain ⟨iR, iC, fR, fC, fD⟩ := rows_encoding_indep e csR csC csD B hcsR hcsC hcsD hlo hc
  refine ⟨_, _, iR, iC, ?_, ?_⟩
  · rw [fR, fC]
    exact C09.partition_indep nClusters g nameToRow _ _ rows₁ nProc₁ rows₂ nProc₂ h₁ p₁ h₂ p₂
      hntr hw hw (List.Perm.refl _)
  · rw [fC, fD]
    exact C09.partition_indep nClusters g nameToRow _ _ rows₂ nProc₂ rows₃ nProc₃ h₂ p₂ h₃ p₃
      hntr hw hw (List.Perm.refl _)

/- non-vacuity: statistics over two clusters from the rows of `D0` iterated with chunk sizes 1 and
5, computed with different `rows` / worker counts; the hypothesis `hw` on these data; the CSR and
CSC encodings of `D0` iterate like `D0` (chunk size 2) -/
example : Stats.precompute 2 3 [(10, 0), (11, 1), (12, 0)]
      [(0, recsOf [10, 11, 12] id (((denseIter D0 1).map (·.1)).flatten))] 1 2
    = Stats.precompute 2 3 [(10, 0), (11, 1), (12, 0)]
      [(0, recsOf [10, 11, 12] id (((denseIter D0 5).map (·.1)).flatten))] 2 1 := by
  decide +kernel
example : ∃ f ∈ [((0 : Nat), recsOf [10, 11, 12] id D0)],
    Stats.wanted [(10, 0), (11, 1), (12, 0)] f.2 = true :=
  ⟨(0, recsOf [10, 11, 12] id D0), by simp, by decide +kernel⟩
example : csrIter 0 R0 3 3 2 = .ok (denseIter D0 2) ∧ cscIter 0 C0 3 3 2 ⟨1, 1, 1⟩
    = .ok (denseIter D0 2) :=
  have h := rows_encoding_indep enc0 2 2 2 ⟨1, 1, 1⟩ (by decide) (by decide) (by decide) (by decide)
    (by decide)
  ⟨h.1, h.2.1⟩

/-! ## mapping -/

/-- **adapter (preparation, mapping)** — the mapper's chunk loop (`LevelLoop.chunks` /
`effChunk` / `slice` inside `mapPipeline`) is the iterator's chunk loop, and the
chunk of cell vectors it cuts from the prepared query, `cells[r0:r1]` with
`cells = D.map g`, is the iterator's block for `(r0, r1)` prepared row by row.
`g` is the row function of `Normalize.prepareChunk` for the given gene lists
and normalisation (`EncodingCompose.prepareChunk_rowwise`). -/
theorem mapper_chunks_are_iterator_chunks (D : Dense Rat) (g : List Rat → List Rat)
    (nProc chunkSize : Nat) :
    LevelLoop.chunks (D.map g).length
        (LevelLoop.effChunk (D.map g).length nProc chunkSize)
      = chunks D.length (effChunk D.length nProc chunkSize) ∧
    ∀ p : Nat × Nat, LevelLoop.slice (D.map g) p.1 p.2 = (denseGetChunk D p.1 p.2).1.map g := by
  constructor
  · rw [levelLoop_chunks_eq, levelLoop_effChunk_eq, List.length_map]
  · intro p
    rw [levelLoop_slice_eq, slice_map]
    rfl

/-- **the cell vectors the mapper receives are the same for the three
encodings** — iterator → `prepareChunk` per block → concatenation.  For every
normalisation function `f`, gene lists and declared normalisation, every chunk
size per encoding and every CSC budget, the three lists of prepared cell
vectors are equal, and equal to the rows of `D` mapped by one row function `g`
(or all three fail with the same `prepareChunk` error, which depends on the gene
lists only).  `hn`: with no row the chunk loop never calls `prepareChunk`, so a
gene-list error would not show. -/
theorem mapping_cells_encoding_indep {R C : Mat Rat} {D : Dense Rat} {nRows nCols : Nat}
    (e : Enc R C D nRows nCols) (hn : 1 ≤ nRows) (csR csC csD : Nat) (B : Budget)
    (hcsR : 1 ≤ csR) (hcsC : 1 ≤ csC) (hcsD : 1 ≤ csD) (hlo : 1 ≤ B.lo) (hc : 1 ≤ B.loCount)
    (f : Rat → Rat) (width : Nat) (genes : List Markers.Gene) (norm : Normalize.Norm)
    (allMarkers : List Markers.Gene) :
    ∃ (g : List Rat → List Rat) (bR bC : List (Dense Rat × Nat × Nat)),
      csrIter 0 R nRows nCols csR = .ok bR ∧ cscIter 0 C nRows nCols csC B = .ok bC ∧
      mapperCells f width genes norm allMarkers bR
        = (Normalize.prepareChunk f [] width genes norm allMarkers).map (fun _ => D.map g) ∧
      mapperCells f width genes norm allMarkers bC
        = (Normalize.prepareChunk f [] width genes norm allMarkers).map (fun _ => D.map g) ∧
      mapperCells f width genes norm allMarkers (denseIter D csD)
        = (Normalize.prepareChunk f [] width genes norm allMarkers).map (fun _ => D.map g) := by
  obtain ⟨g, hg⟩ := mapperCells_eq f width genes norm allMarkers
  obtain ⟨iR, iC, fR, fC, fD⟩ := rows_encoding_indep e csR csC csD B hcsR hcsC hcsD hlo hc
  have hD : D ≠ [] := by
    intro h
    have := e.length
    rw [h] at this
    simp at this
    omega
  exact ⟨g, _, _, iR, iC,
    hg _ D (denseIter_ne_nil D csR hcsR hD) fR,
    hg _ D (denseIter_ne_nil D csC hcsC hD) fC,
    hg _ D (denseIter_ne_nil D csD hcsD hD) fD⟩

/-- **`mapping_encoding_indep`** — *"the mapping of a query file is identical
for all encodings of the same matrix"*.  Let `cellsR`, `cellsC`, `cellsD` be the
prepared cell vectors obtained from the CSR, CSC and dense encodings (each with
its own iterator chunk size, any CSC budget).  Then for **every oracle** `vote`
(the level-loop model's abstraction of the per-node election), every taxonomy accepted by
the level loop, and any two mapper configurations (chunk size, worker count,
gathering order — hypotheses of `C06.chunking`), `mapPipeline` returns the same
output for the three encodings (model equality). -/
theorem mapping_encoding_indep {R C : Mat Rat} {D : Dense Rat} {nRows nCols : Nat}
    (e : Enc R C D nRows nCols) (hn : 1 ≤ nRows) (csR csC csD : Nat) (B : Budget)
    (hcsR : 1 ≤ csR) (hcsC : 1 ≤ csC) (hcsD : 1 ≤ csD) (hlo : 1 ≤ B.lo) (hc : 1 ≤ B.loCount)
    (f : Rat → Rat) (width : Nat) (genes : List Markers.Gene) (norm : Normalize.Norm)
    (allMarkers : List Markers.Gene)
    (bR bC : List (Dense Rat × Nat × Nat)) (cellsR cellsC cellsD : List (List Rat))
    (iR : csrIter 0 R nRows nCols csR = .ok bR) (iC : cscIter 0 C nRows nCols csC B = .ok bC)
    (mR : mapperCells f width genes norm allMarkers bR = .ok cellsR)
    (mC : mapperCells f width genes norm allMarkers bC = .ok cellsC)
    (mD : mapperCells f width genes norm allMarkers (denseIter D csD) = .ok cellsD)
    (t0 t : RawTree) (vote : LevelLoop.Oracle (List Rat))
    (cfg cfg' : LevelLoop.Config) (ids : List LevelLoop.CellId) (order order' : List Nat)
    (hrun : LevelLoop.runTree t0 cfg = .ok t) (hrun' : LevelLoop.runTree t0 cfg' = .ok t)
    (hwf : LevelLoop.wfb t = true) (hv : LevelLoop.VoteOK t vote)
    (hlen : ids.length = cellsR.length) (hnd : ids.Nodup)
    (hproc : 1 ≤ cfg.nProc) (hproc' : 1 ≤ cfg'.nProc)
    (hcs : 1 ≤ cfg.chunkSize) (hcs' : 1 ≤ cfg'.chunkSize)
    (horder : order.Perm (List.range (LevelLoop.chunks cellsR.length
      (LevelLoop.effChunk cellsR.length cfg.nProc cfg.chunkSize)).length))
    (horder' : order'.Perm (List.range (LevelLoop.chunks cellsR.length
      (LevelLoop.effChunk cellsR.length cfg'.nProc cfg'.chunkSize)).length)) :
    cellsR = cellsC ∧ cellsC = cellsD ∧
    LevelLoop.mapPipeline t0 cfg vote ids cellsR order
      = LevelLoop.mapPipeline t0 cfg' vote ids cellsC order' ∧
    LevelLoop.mapPipeline t0 cfg vote ids cellsR order
      = LevelLoop.mapPipeline t0 cfg' vote ids cellsD order' := by
  obtain ⟨g, bR', bC', iR', iC', eR, eC, eD⟩ :=
    mapping_cells_encoding_indep e hn csR csC csD B hcsR hcsC hcsD hlo hc f width genes norm
      allMarkers
  rw [iR] at iR'
  rw [iC] at iC'
  cases iR'
  cases iC'
  have h1 : cellsR = cellsC := by
    have := eR.trans eC.symm
    rw [mR, mC] at this
    exact Except.ok.inj this
  have h2 : cellsC = cellsD := by
    have := eC.trans eD.symm
    rw [mC, mD] at this
    exact Except.ok.inj this
  have key := C06.chunking t0 t vote cfg cfg' ids cellsR order order' hrun hrun' hwf hv hlen hnd
    hproc hproc' hcs hcs' horder horder'
  refine ⟨h1, h2, ?_, ?_⟩
  · rw [← h1]; exact key
  · rw [← h2, ← h1]; exact key

/- non-vacuity: the prepared cells of `D0` (raw counts, two marker genes) for three chunk sizes -/
example : mapperCells id 3 [0, 1, 2] .log2CPM [2, 0] (denseIter D0 2)
    = .ok [[2, 1], [0, 0], [5, 4]] := by decide +kernel
example : mapperCells id 3 [0, 1, 2] .log2CPM [2, 0] (denseIter D0 1)
    = mapperCells id 3 [0, 1, 2] .log2CPM [2, 0] (denseIter D0 3) := by decide +kernel

/-! ## X versus a named layer -/

/-- **`layer_indep`** — the model has no notion of "X" or "layer": the layer
argument of `AnnDataRowIterator` only selects the HDF5 group whose arrays are
read, and iteration, `get_chunk`, `get_batch` are functions of those arrays
alone.  So two groups holding the same arrays (and, by `rows_encoding_indep`,
two groups holding *any* encodings of the same matrix, e.g. X in CSR and the
layer in CSC) give the same rows, hence the same statistics and mapping by the
theorems above. -/
theorem layer_indep {R C : Mat Rat} {D : Dense Rat} {nRows nCols : Nat}
    (e : Enc R C D nRows nCols) (cs : Nat) (B : Budget)
    (hcs : 1 ≤ cs) (hlo : 1 ≤ B.lo) (hc : 1 ≤ B.loCount)
    (xArrays layerArrays : Mat Rat) (hsame : xArrays = layerArrays) :
    csrIter 0 xArrays nRows nCols cs = csrIter 0 layerArrays nRows nCols cs ∧
    csrIter 0 R nRows nCols cs = cscIter 0 C nRows nCols cs B := by
  obtain ⟨iR, iC, _⟩ := rows_encoding_indep e cs cs cs B hcs hcs hcs hlo hc
  exact ⟨by rw [hsame], by rw [iR, iC]⟩

end CTM.C05
