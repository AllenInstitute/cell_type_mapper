/-
  C06 — a cell's mapping depends only on its own expression vector.

  With bootstrap factor 1 every iteration uses all markers: the only
  duplicate-free subset of size n of n markers is everything, so the RNG drops
  out and the vote for a cell under a parent is a function of (parent, what
  the tree says about the parent's children, the cell's expression vector).
  That is exactly the type of the model's oracle (`Oracle κ`, κ = the vector);
  the theorems below hold for EVERY such oracle (the per-row nature of CPM
  normalisation and of the correlation arg-max, i.e. that the real vote IS such
  a function, belongs to the election model, `CTM/Lemmas/Election.lean`, and is
  checked on the implementation by the paired runs of `harness/props/c06.py`).
-/
import CTM.Lemmas.LevelLoopTrees
import CTM.Model.Election
import CTM.Lemmas.Numeric

namespace CTM.C06
open CTM CTM.LevelLoop

/-- "cells selected per parent by stored row index and written back by the
same index": row `i` of the batch result of `run_type_assignment` is what the
loop returns for that cell alone. -/
theorem rowwise {κ} (t : RawTree) (vote : Oracle κ) (cells : List κ)
    (hwf : wfb t = true) (hv : VoteOK t vote)
    (rs : List (List (Level × Entry))) (h : runLevelLoop t vote cells = .ok rs)
    (i : Nat) (c : κ) (hc : cells[i]? = some c) :
    ∃ r, rs[i]? = some r ∧ runLevelLoop t vote [c] = .ok [r] := by
  rw [runLevelLoop_eq_mapM_walk t vote cells hwf hv] at h
  obtain ⟨r, hr, hw⟩ := ListAux.mapM_ok_getElem?_some h hc
  refine ⟨r, hr, ?_⟩
  rw [runLevelLoop_eq_mapM_walk t vote [c] hwf hv]
  simp only [List.mapM_cons, List.mapM_nil, hw]
  rfl

example : ∀ rs, runLevelLoop exTree exVote [4, 1, 3] = .ok rs →
    ∃ r, rs[1]? = some r ∧ runLevelLoop exTree exVote [1] = .ok [r] :=
  fun rs h => rowwise _ _ _ exTree_wf (exVote_ok _) rs h 1 1 rfl

/-- (test, not a theorem) the three cells of the example really take different paths -/
example : (runLevelLoop exTree exVote [4, 1, 3]).toOption.map (·.map assignments) =
    some [[(0, 10), (1, 21), (2, 31)], [(0, 10), (1, 20), (2, 30)], [(0, 10), (1, 20), (2, 30)]] := by
  decide +kernel

/-- "the result for a cell ... is unchanged by reordering the cells of the
query file, by removing, adding or duplicating other cells, and by changing
chunk size or worker count": take two runs on the same reference (stored tree
`t0`, same tree `t` of the run) with ANY two queries, chunk sizes, worker
counts and gathering orders; wherever the same cell (same id, same expression
vector) occurs in both, it gets the same record.  (A permutation, a sub- or
super-set, a query with duplicated rows under fresh ids are all instances.) -/
theorem company_independent {κ} (t0 t : RawTree) (vote : Oracle κ)
    (cfg cfg' : Config) (ids ids' : List CellId) (cells cells' : List κ) (order order' : List Nat)
    (hrun : runTree t0 cfg = .ok t) (hrun' : runTree t0 cfg' = .ok t)
    (hwf : wfb t = true) (hv : VoteOK t vote)
    (hlen : ids.length = cells.length) (hlen' : ids'.length = cells'.length)
    (hnd : ids.Nodup) (hnd' : ids'.Nodup)
    (hproc : 1 ≤ cfg.nProc) (hproc' : 1 ≤ cfg'.nProc)
    (hcs : 1 ≤ cfg.chunkSize) (hcs' : 1 ≤ cfg'.chunkSize)
    (horder : order.Perm (List.range
      (chunks cells.length (effChunk cells.length cfg.nProc cfg.chunkSize)).length))
    (horder' : order'.Perm (List.range
      (chunks cells'.length (effChunk cells'.length cfg'.nProc cfg'.chunkSize)).length))
    (out out' : List Record)
    (hout : mapPipeline t0 cfg vote ids cells order = .ok out)
    (hout' : mapPipeline t0 cfg' vote ids' cells' order' = .ok out')
    (i j : Nat) (id : CellId) (c : κ)
    (hid : ids[i]? = some id) (hc : cells[i]? = some c)
    (hid' : ids'[j]? = some id) (hc' : cells'[j]? = some c) :
    ∃ o, out[i]? = some o ∧ out'[j]? = some o := by
  obtain ⟨o, ho, hr⟩ := mapPipeline_getElem hrun hwf hv hlen hnd hproc hcs horder hout hid hc
  obtain ⟨o', ho', hr'⟩ := mapPipeline_getElem hrun' hwf hv hlen' hnd' hproc' hcs'
    horder' hout' hid' hc'
  rw [hr] at hr'
  cases hr'
  exact ⟨o, ho, ho'⟩

example : ∀ out out',
    mapPipeline exTree { chunkSize := 2, nProc := 2 } exVote [7, 3, 9] [0, 1, 2] [1, 0] = .ok out →
    mapPipeline exTree { chunkSize := 1, nProc := 1 } exVote [9, 5] [2, 0] [0, 1] = .ok out' →
    ∃ o, out[2]? = some o ∧ out'[0]? = some o :=
  fun out out' h h' => company_independent exTree exTree exVote { chunkSize := 2, nProc := 2 }
    { chunkSize := 1, nProc := 1 } [7, 3, 9] [9, 5] [0, 1, 2] [2, 0] [1, 0] [0, 1] rfl rfl exTree_wf
    (exVote_ok _) rfl rfl (by decide +kernel) (by decide +kernel) (by decide +kernel) (by decide +kernel) (by decide +kernel) (by decide +kernel)
    (by decide +kernel) (by decide +kernel) out out' h h' 2 0 9 2 rfl rfl rfl rfl

/-- "... and by changing chunk size or worker count": the same query mapped
with any two chunk sizes >= 1, worker counts >= 1 and gathering orders gives
the same output list. -/
theorem chunking {κ} (t0 t : RawTree) (vote : Oracle κ)
    (cfg cfg' : Config) (ids : List CellId) (cells : List κ) (order order' : List Nat)
    (hrun : runTree t0 cfg = .ok t) (hrun' : runTree t0 cfg' = .ok t)
    (hwf : wfb t = true) (hv : VoteOK t vote)
    (hlen : ids.length = cells.length) (hnd : ids.Nodup)
    (hproc : 1 ≤ cfg.nProc) (hproc' : 1 ≤ cfg'.nProc)
    (hcs : 1 ≤ cfg.chunkSize) (hcs' : 1 ≤ cfg'.chunkSize)
    (horder : order.Perm (List.range
      (chunks cells.length (effChunk cells.length cfg.nProc cfg.chunkSize)).length))
    (horder' : order'.Perm (List.range
      (chunks cells.length (effChunk cells.length cfg'.nProc cfg'.chunkSize)).length)) :
    mapPipeline t0 cfg vote ids cells order = mapPipeline t0 cfg' vote ids cells order' := by
  rw [mapPipeline_spec t0 t cfg vote ids cells order hrun hwf hv hlen hnd hproc hcs horder,
    mapPipeline_spec t0 t cfg' vote ids cells order' hrun' hwf hv hlen hnd hproc' hcs' horder']

example : mapPipeline exTree { chunkSize := 2, nProc := 2 } exVote [7, 3, 9] [0, 1, 2] [1, 0] =
    mapPipeline exTree { chunkSize := 5, nProc := 1 } exVote [7, 3, 9] [0, 1, 2] [0] :=
  chunking exTree exTree exVote _ _ _ _ _ _ rfl rfl exTree_wf (exVote_ok _) rfl (by decide +kernel)
    (by decide +kernel) (by decide +kernel) (by decide +kernel) (by decide +kernel) (by decide +kernel) (by decide +kernel)

/-- "Cells with identical expression vectors therefore receive identical
results": two rows of a query with the same vector get the same per-level
dicts (everything but the cell id). -/
theorem identical_cells {κ} (t0 t : RawTree) (vote : Oracle κ) (cfg : Config)
    (ids : List CellId) (cells : List κ) (order : List Nat)
    (hrun : runTree t0 cfg = .ok t) (hwf : wfb t = true) (hv : VoteOK t vote)
    (hlen : ids.length = cells.length) (hnd : ids.Nodup)
    (hproc : 1 ≤ cfg.nProc) (hcs : 1 ≤ cfg.chunkSize)
    (horder : order.Perm (List.range
      (chunks cells.length (effChunk cells.length cfg.nProc cfg.chunkSize)).length))
    (out : List Record) (hout : mapPipeline t0 cfg vote ids cells order = .ok out)
    (i j : Nat) (idi idj : CellId) (c : κ)
    (hidi : ids[i]? = some idi) (hidj : ids[j]? = some idj)
    (hci : cells[i]? = some c) (hcj : cells[j]? = some c) :
    ∃ oi oj, out[i]? = some oi ∧ out[j]? = some oj ∧ oi.levels = oj.levels := by
  obtain ⟨oi, hoi, hri⟩ := mapPipeline_getElem hrun hwf hv hlen hnd hproc hcs horder hout hidi hci
  obtain ⟨oj, hoj, hrj⟩ := mapPipeline_getElem hrun hwf hv hlen hnd hproc hcs horder hout hidj hcj
  refine ⟨oi, oj, hoi, hoj, ?_⟩
  rw [cellResult_setId t0 t vote idi idj c, hrj] at hri
  cases hri
  rfl

example : ∀ out,
    mapPipeline exTree { chunkSize := 2, nProc := 2 } exVote [7, 3, 9] [5, 1, 5] [1, 0] = .ok out →
    ∃ oi oj, out[0]? = some oi ∧ out[2]? = some oj ∧ oi.levels = oj.levels :=
  fun out h => identical_cells exTree exTree exVote { chunkSize := 2, nProc := 2 } [7, 3, 9]
    [5, 1, 5] [1, 0] rfl exTree_wf (exVote_ok _) rfl
    (by decide +kernel) (by decide +kernel) (by decide +kernel) (by decide +kernel) out h 0 2 7 9 5 rfl rfl rfl rfl

/-! ### "when every bootstrap iteration uses all marker genes (bootstrap factor 1)"

The model of `tally_votes` (`Election.tallyVotes`) takes the
drawn subsets as a parameter; a drawn subset is accepted by `Numeric.subsetOk`
(sorted, duplicate-free because of `replace=False`, inside `[0, n)`, of the
bootstrap size).  The theorems below support the hypothesis the theorems above
put on the oracle (a function of parent, children and the cell's vector, no
RNG): at factor 1 the RNG cannot influence the tally.  No statement links
`tallyVotes` to an `Oracle`; that the real vote is such a function is what the
paired runs of the head comment check. -/

/-- with factor 1 every `rng.choice(marker_idx, n_bootstrap, replace=False)`
draws `n` of the `n` markers (the float product `1.0 * n` is `n` exactly) -/
theorem factor_one_draw_size (n : Nat) (hn : 0 < n) : Numeric.drawSize (n : Rat) n = .ok n :=
  drawSize_factor_one n hn

example : Numeric.drawSize ((7 : Nat) : Rat) 7 = .ok 7 := factor_one_draw_size 7 (by decide +kernel)

/-- "the subset is forced": the only sorted duplicate-free subset of size `n`
of the `n` marker indices is `0, 1, …, n-1` — all of them -/
theorem full_subset_unique (n : Nat) (s : List Nat) (h : Numeric.subsetOk n n s = true) :
    s = List.range n :=
  LevelLoop.full_subset_unique n s h

-- (test, not a theorem) the hypothesis of `full_subset_unique` can be met
example : Numeric.subsetOk 4 4 [0, 1, 2, 3] = true := by decide +kernel

/-- hence the tally of a cell (`tally_votes`: votes and correlation sums per
reference leaf) is the same for ANY two sequences of legitimately drawn
subsets with the same number of iterations: at factor 1 the vote under a
parent is a function of the reference profiles of that parent's leaves and the
cell's own vector only — the RNG drops out. -/
theorem factor_one_rng_free (refs : List (List Rat)) (x : List Rat) (corrOf : Nat → Nat → Rat)
    (n : Nat) (subsets subsets' : List (List Nat))
    (h : ∀ s ∈ subsets, Numeric.subsetOk n n s = true)
    (h' : ∀ s ∈ subsets', Numeric.subsetOk n n s = true)
    (hlen : subsets.length = subsets'.length) :
    Election.tallyVotes refs x subsets corrOf = Election.tallyVotes refs x subsets' corrOf := by
  have e1 : subsets = List.replicate subsets.length (List.range n) :=
    List.eq_replicate_iff.mpr ⟨rfl, fun s hs => LevelLoop.full_subset_unique n s (h s hs)⟩
  have e2 : subsets' = List.replicate subsets'.length (List.range n) :=
    List.eq_replicate_iff.mpr ⟨rfl, fun s hs => LevelLoop.full_subset_unique n s (h' s hs)⟩
  rw [e1, e2, hlen]

example : Election.tallyVotes [[1, 2, 3], [3, 1, 2]] [1, 5, 2] [[0, 1, 2], [0, 1, 2]] (fun _ _ => 1) =
    Election.tallyVotes [[1, 2, 3], [3, 1, 2]] [1, 5, 2] (List.replicate 2 (List.range 3)) (fun _ _ => 1) :=
  factor_one_rng_free _ _ _ 3 _ _ (by decide +kernel) (by decide +kernel) rfl

end CTM.C06
