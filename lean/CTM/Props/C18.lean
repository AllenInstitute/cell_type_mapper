/-
  C18 — the stages compose: cluster centroids map back to themselves.

  Theorems about the executable model for ALL inputs, one cell at one node
  (helper lemmas in CTM/Lemmas/Numeric.lean: `corrSsq`, the equality case of
  Cauchy–Schwarz, the signed square; and CTM/Lemmas/Election.lean).  The first
  clause of the property ("produced by the pipeline's own stages, accepted by
  the next stage, names consistent") is about files: it is proved on the model
  of the stage files in Props/C18/Names.lean and NamesPairs.lean
  (`names_consistent_*`) and checked on the real stages by harness/props/c18.py.
  The whole path and the whole pipeline: Props/C18/Compose.lean, Bridge2.lean,
  EndToEnd.lean; the vote counter's integer type: VoteCounter.lean.

  `hcorr : corrOf it l * |corrOf it l| = 1` is an assumption on numpy's float
  (that it is exactly 1.0); it is the only place where the score the model
  votes on (`corrSsq`) and the correlation value it sums (`corrOf`) are tied.
-/
import CTM.Lemmas.Election

namespace CTM.C18
open CTM.Numeric CTM.Election

/-- "perfectly correlated": Pearson(x|S, x|S) = 1 for a row that is not constant on S, and
    Pearson(x|S, y|S) ≤ 1 for every y (signed squared form on `Rat`). -/
theorem self_corr (x : List Rat) (hx : var x ≠ 0) :
    corrSsq x x = 1 ∧ ∀ y : List Rat, corrSsq x y ≤ 1 ∧ corrSsq y x ≤ 1 :=
  ⟨corrSsq_self x hx, fun y => ⟨corrSsq_le_one x y, corrSsq_le_one y x⟩⟩

example : var [1, 2, 4] ≠ 0 ∧ corrSsq [1, 2, 4] [1, 2, 4] = 1 := by decide +kernel

/-- "perfectly correlated with it on the genes used" means exactly that `y|S` is a positive
    affine image of `x|S` (equality case of Cauchy–Schwarz). -/
theorem perfect_iff_affine (x y : List Rat) (hlen : x.length = y.length) (hx : var x ≠ 0) :
    corrSsq x y = 1 ↔ ∃ a b : Rat, 0 < a ∧ y = x.map (fun v => a * v + b) := by
  constructor
  · exact affine_of_corrSsq_eq_one x y hlen
  · rintro ⟨a, b, ha, rfl⟩
    exact corrSsq_affine x a b ha hx

example : corrSsq [1, 2, 4] [5, 7, 11] = 1 ∧ [5, 7, 11] = [1, 2, 4].map (fun v => 2 * v + 3) := by
  decide +kernel

/-- one iteration: a query row equal to leaf `l`'s mean row votes for `l`, with
    signed squared correlation 1, on every subset on which the row is not
    constant and no other leaf below the node is perfectly correlated with it. -/
theorem centroid_iteration (refs : List (List Rat)) (s : List Nat) (l : Nat)
    (hl : l < refs.length)
    (hsr : ∀ m ∈ refs, ∀ i ∈ s, i < m.length)
    (hvar : var (pick s refs[l]) ≠ 0)
    (hother : ∀ (j : Nat) (hj : j < refs.length), j ≠ l →
      corrSsq (pick s refs[j]) (pick s refs[l]) ≠ 1) :
    tallyIter refs refs[l] s = .ok (l, 1) :=
  tallyIter_home refs refs[l] s l hl (hsr _ (List.getElem_mem hl)) hsr
    (corrSsq_self _ hvar) hother

example : tallyIter [[1, 2, 4], [3, 1, 2]] [1, 2, 4] [0, 2] = .ok (0, 1) := by decide +kernel

/-- a query row that is perfectly correlated, on every drawn subset, with leaf
    `l`'s mean row and with no other leaf's is assigned to `l`'s child with
    probability 1, average correlation 1 and no runners-up — by
    `perfect_iff_affine` e.g. any positive affine image `a·m + b` of the mean row
    (a differently scaled or shifted copy of the centroid).  For ANY list of
    subsets, any leaf -> child map, any number of runners-up requested and any
    tie order. -/
theorem perfectly_correlated_maps_home (refs : List (List Rat)) (x : List Rat) (types : List Nat)
    (subsets : List (List Nat)) (corrOf : Nat → Nat → Rat) (l : Nat)
    (hl : l < refs.length) (hlen : types.length = refs.length)
    (hsx : ∀ s ∈ subsets, ∀ i ∈ s, i < x.length)
    (hsr : ∀ s ∈ subsets, ∀ m ∈ refs, ∀ i ∈ s, i < m.length)
    (hguard : ∀ s ∈ subsets, corrSsq (pick s refs[l]) (pick s x) = 1 ∧
      ∀ (j : Nat) (hj : j < refs.length), j ≠ l → corrSsq (pick s refs[j]) (pick s x) ≠ 1)
    (hcorr : ∀ it, corrOf it l * |corrOf it l| = 1)
    (nAssign : Nat) (order : List Nat) (ch : Choice) (tally : List Nat × List Rat)
    (htally : tallyVotes refs x subsets corrOf = .ok tally)
    (hv : ValidOrder (columns types tally.1 tally.2).1 order)
    (hch : chooseCell types tally.1 tally.2 subsets.length nAssign order = .ok ch) :
    ch.winner = types.getD l 0 ∧ ch.prob = 1 ∧ ch.avgCorr = 1 ∧
      keepRunners ch.runners = ([], [], []) := by
  have hiter : ∀ s ∈ subsets, tallyIter refs x s = .ok (l, 1) := fun s hs =>
    tallyIter_home refs x s l hl (hsx s hs) (hsr s hs) (hguard s hs).1 (hguard s hs).2
  obtain ⟨rows, hrows, hlenr, hall⟩ := tallyVotes_unanimous refs x subsets corrOf l hiter
    (fun it => signed_root_one _ (hcorr it))
  rw [hrows] at htally
  cases htally
  rw [← hlenr, ← hlen] at hch
  rw [← hlen] at hv
  exact chooseCell_unanimous types rows l (hlen ▸ hl) hall nAssign order ch hv hch

example : tallyIter [[1, 2, 4], [3, 1, 2]] [5, 7, 11] [0, 1, 2] = .ok (0, 1) := by decide +kernel

/-- "A query cell whose ... profile equals the mean profile of a leaf cluster
    is assigned to that leaf['s child at this node] with bootstrapping probability
    1 and average correlation 1 ..., for any bootstrap factor, whenever no other
    leaf below the same node is perfectly correlated with it on the genes used":
    for ANY list of subsets (any factor, any random draws), any leaf -> child
    map, any number of runners-up requested and any tie order.  `corrOf it l` is
    the correlation value numpy reports for the winning leaf; all that is assumed
    about it is that its signed square is the exact one (1).  Applied at every
    node with a choice on the leaf's path this is the property's second
    sentence. -/
theorem centroid_maps_home (refs : List (List Rat)) (types : List Nat)
    (subsets : List (List Nat)) (corrOf : Nat → Nat → Rat) (l : Nat)
    (hl : l < refs.length) (hlen : types.length = refs.length)
    (hsr : ∀ s ∈ subsets, ∀ m ∈ refs, ∀ i ∈ s, i < m.length)
    (hguard : ∀ s ∈ subsets, var (pick s refs[l]) ≠ 0 ∧
      ∀ (j : Nat) (hj : j < refs.length), j ≠ l →
        corrSsq (pick s refs[j]) (pick s refs[l]) ≠ 1)
    (hcorr : ∀ it, corrOf it l * |corrOf it l| = 1)
    (nAssign : Nat) (order : List Nat) (ch : Choice) (tally : List Nat × List Rat)
    (htally : tallyVotes refs refs[l] subsets corrOf = .ok tally)
    (hv : ValidOrder (columns types tally.1 tally.2).1 order)
    (hch : chooseCell types tally.1 tally.2 subsets.length nAssign order = .ok ch) :
    ch.winner = types.getD l 0 ∧ ch.prob = 1 ∧ ch.avgCorr = 1 ∧
      keepRunners ch.runners = ([], [], []) :=
  perfectly_correlated_maps_home refs refs[l] types subsets corrOf l hl hlen
    (fun s hs => hsr s hs _ (List.getElem_mem hl)) hsr
    (fun s hs => ⟨corrSsq_self _ (hguard s hs).1, (hguard s hs).2⟩)
    hcorr nAssign order ch tally htally hv hch

/-- the guard is satisfiable: on the subset `[0, 1]` row 0 is not constant and
    neither other row is perfectly correlated with it -/
example : var (pick [0, 1] [1, 2, 4]) ≠ 0 ∧
    corrSsq (pick [0, 1] [3, 1, 2]) (pick [0, 1] [1, 2, 4]) ≠ 1 ∧
    corrSsq (pick [0, 1] [2, 2, 9]) (pick [0, 1] [1, 2, 4]) ≠ 1 ∧
    ValidOrder (columns [8, 8, 6] [3, 0, 0] [3, 0, 0]).1 [1, 0] := by decide +kernel

example : ∃ tally, tallyVotes [[1, 2, 4], [3, 1, 2], [2, 2, 9]] [1, 2, 4] [[0, 1], [0, 2], [0, 1, 2]]
      (fun _ _ => 1) = .ok tally ∧
    (chooseCell [8, 8, 6] tally.1 tally.2 3 2 [1, 0]).toOption.map
      (fun c => (c.winner, c.prob, c.avgCorr)) = some (8, 1, 1) ∧
    (chooseCell [8, 8, 6] tally.1 tally.2 3 2 [1, 0]).toOption.map
      (fun c => keepRunners c.runners) = some ([], [], []) := by
  refine ⟨([3, 0, 0], [3, 0, 0]), ?_, ?_, ?_⟩ <;> decide +kernel

end CTM.C18
