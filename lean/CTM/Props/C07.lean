/-
  Property C07 — "Mapping is invariant to count scale, declared normalisation,
  gene order" — stated about the model `CTM/Model/Normalize.lean` (with
  `nameToIdx` of `CTM/Model/Markers.lean`) for ALL matrices, scale factors,
  column permutations, extra genes, HDF5 chunk shapes.

  What reaches the mapper of a cell is `prepareChunk` (normalise on the full
  gene set if raw, then down-select to the markers by name) followed by a
  per-node `selectData` by name; every theorem below says that this is
  unchanged — exactly, on `Rat`, with `log2(1 + ·)` an arbitrary function `f` —
  under the relation the property names.  The float side of the relations
  that perturb floats (scale, declared) is compared on real runs only
  (harness/props/c07.py).

  Vocabulary (CTM/Lemmas/Normalize.lean; the normal forms of `prepareChunk` that the proofs of
  the third section rewrite with are in CTM/Lemmas/NormalizeForm.lean):
    `ColumnsRelabelled m m'`  row by row, the (gene, value) pairs of `m'` are a
                    permutation of those of `m` plus extra pairs
    `∀ p ∈ data.zip data', (genes'.zip p.2).Perm (genes.zip p.1)`  the same without extra
                    pairs: "columns permuted together with their names" (`hperm`)
    `IsMinOf v l`   `v ∈ l` and `v ≤` every element of `l`
-/
import CTM.Lemmas.Normalize

namespace CTM.C07
open CTM CTM.Normalize CTM.Markers

/-! ## count scale -/

/-- "multiplying a raw cell by any positive constant does not change its
mapping": counts per million of `k • x` are those of `x`, exactly (non-negative
counts, as the negative check guarantees; an all-zero cell included). -/
theorem cpm_scale (k : Rat) (hk : 0 < k) (x : List Rat) (hnn : ∀ v ∈ x, 0 ≤ v) :
    cpmRow (x.map (fun v => k * v)) = cpmRow x :=
  cpmRow_scale k hk x hnn

/-- ... for a whole matrix with its own positive factor per cell: the
normalised matrix (`to_log2CPM_in_place`, any `log2(1+·)`) is the same. -/
theorem log2cpm_scale (f : Rat → Rat) (m : CBG) (ks : List Rat) (hlen : ks.length = m.data.length)
    (hk : ∀ k ∈ ks, 0 < k) (hnn : ∀ row ∈ m.data, ∀ v ∈ row, 0 ≤ v) :
    CBG.toLog2CPM f { m with data := (m.data.zip ks).map (fun p => p.1.map (fun v => p.2 * v)) } =
      CBG.toLog2CPM f m := by
  unfold CBG.toLog2CPM
  simp only [convertToCpm_scale m.data ks hlen hk hnn]

/-- "multiplying a raw cell by any positive constant does not change its
mapping" — at the matrix the mapper receives: the prepared chunk of the scaled
raw matrix (own positive factor per cell) is the prepared chunk of the matrix. -/
theorem prepare_chunk_scale (f : Rat → Rat) (data : List (List Rat)) (width : Nat) (genes allM : List Gene)
    (ks : List Rat) (hlen : ks.length = data.length) (hk : ∀ k ∈ ks, 0 < k)
    (hnn : ∀ row ∈ data, ∀ v ∈ row, 0 ≤ v) :
    prepareChunk f ((data.zip ks).map (fun p => p.1.map (fun v => p.2 * v))) width genes .raw allM =
      prepareChunk f data width genes .raw allM := by
  rw [prepareChunk_raw_eq, prepareChunk_raw_eq, convertToCpm_scale data ks hlen hk hnn]

/-! ## gene order, extra genes: columns are addressed by name -/

/-- "Permuting the gene columns of the query file together with their names ...
leaves the result bitwise unchanged" — raw input: the chunk handed to the
mapper (normalised on the full gene set, down-selected to the markers) is the
same matrix. -/
theorem gene_perm_raw (f : Rat → Rat) (data data' : List (List Rat)) (width : Nat)
    (genes genes' allM : List Gene) (hw : genes.length = width) (hw' : genes'.length = width)
    (hn : genes.Nodup) (hn' : genes'.Nodup)
    (hrowlen : ∀ row ∈ data, row.length = width) (hrowlen' : ∀ row ∈ data', row.length = width)
    (hlen : data.length = data'.length)
    (hperm : ∀ p ∈ data.zip data', (genes'.zip p.2).Perm (genes.zip p.1))
    (hsub : ∀ g ∈ genes, g ∈ genes') (hsel : ∀ g ∈ allM, g ∈ genes) :
    prepareChunk f data' width genes' .raw allM = prepareChunk f data width genes .raw allM :=
  prepareChunk_raw_permuted f data data' width genes genes' allM hw hw' hn hn' hrowlen hrowlen' hlen
    hperm hsub hsel

/-- "... or (for normalised input) adding or removing genes that are not
markers or not in the reference, leaves the result bitwise unchanged" —
normalised input: permuting the columns with their names AND inserting columns
of genes that are not among the selected ones gives the same chunk. -/
theorem gene_perm_extra_normalised (f : Rat → Rat) (data data' : List (List Rat)) (width width' : Nat)
    (genes genes' allM : List Gene) (hw : genes.length = width) (hw' : genes'.length = width')
    (hn : genes.Nodup) (hn' : genes'.Nodup)
    (hrowlen : ∀ row ∈ data, genes.length ≤ row.length)
    (hrel : ColumnsRelabelled { data := data, genes := genes, norm := .log2CPM }
                              { data := data', genes := genes', norm := .log2CPM })
    (hsub : ∀ g ∈ genes, g ∈ genes') (hsel : ∀ g ∈ allM, g ∈ genes) :
    prepareChunk f data' width' genes' .log2CPM allM = prepareChunk f data width genes .log2CPM allM :=
  prepareChunk_log2CPM_relabelled f data data' width width' genes genes' allM hw hw' hn hn' hrowlen hrel
    hsub hsel

/-- the per-node selection (`downsample_genes(query_markers)`) of any matrix is
addressed by name as well: relabelled columns and extra columns are not seen. -/
theorem node_selection_by_name (m m' : CBG) (hn : m.genes.Nodup) (hn' : m'.genes.Nodup)
    (hrowlen : ∀ row ∈ m.data, m.genes.length ≤ row.length)
    (hrel : ColumnsRelabelled m m') (hsub : ∀ g ∈ m.genes, g ∈ m'.genes)
    (sel : List Gene) (hsel : ∀ g ∈ sel, g ∈ m.genes) :
    m'.selectData sel = m.selectData sel :=
  selectData_relabelled m m' hn hn' hrowlen hrel hsub sel hsel

/-- what a node sees (`downsample_genes(query_markers)` of the prepared chunk)
inherits both invariances: raw input with permuted columns ... -/
theorem node_data_gene_perm_raw (f : Rat → Rat) (data data' : List (List Rat)) (width : Nat)
    (genes genes' allM nodeM : List Gene) (hw : genes.length = width) (hw' : genes'.length = width)
    (hn : genes.Nodup) (hn' : genes'.Nodup)
    (hrowlen : ∀ row ∈ data, row.length = width) (hrowlen' : ∀ row ∈ data', row.length = width)
    (hlen : data.length = data'.length)
    (hperm : ∀ p ∈ data.zip data', (genes'.zip p.2).Perm (genes.zip p.1))
    (hsub : ∀ g ∈ genes, g ∈ genes') (hsel : ∀ g ∈ allM, g ∈ genes) :
    nodeData f data' width genes' .raw allM nodeM = nodeData f data width genes .raw allM nodeM := by
  unfold nodeData
  rw [gene_perm_raw f data data' width genes genes' allM hw hw' hn hn' hrowlen hrowlen' hlen hperm hsub hsel]

/-- ... and normalised input with permuted and extra columns -/
theorem node_data_gene_perm_extra_normalised (f : Rat → Rat) (data data' : List (List Rat))
    (width width' : Nat) (genes genes' allM nodeM : List Gene) (hw : genes.length = width)
    (hw' : genes'.length = width') (hn : genes.Nodup) (hn' : genes'.Nodup)
    (hrowlen : ∀ row ∈ data, genes.length ≤ row.length)
    (hrel : ColumnsRelabelled { data := data, genes := genes, norm := .log2CPM }
                              { data := data', genes := genes', norm := .log2CPM })
    (hsub : ∀ g ∈ genes, g ∈ genes') (hsel : ∀ g ∈ allM, g ∈ genes) :
    nodeData f data' width' genes' .log2CPM allM nodeM =
      nodeData f data width genes .log2CPM allM nodeM := by
  unfold nodeData
  rw [gene_perm_extra_normalised f data data' width width' genes genes' allM hw hw' hn hn' hrowlen hrel
    hsub hsel]

/-! ## declared normalisation; normalise before down-selecting -/

/-- "Declaring raw counts and letting the mapper normalise them gives the same
result as supplying the log2(CPM+1) values and declaring them normalised": the
prepared chunk of (raw, X) is the prepared chunk of (log2CPM, normalise X). -/
theorem declared (f : Rat → Rat) (data : List (List Rat)) (width : Nat) (genes allM : List Gene) :
    (prepareChunk f data width genes .raw allM).map (fun c => (c.data, c.genes, c.norm)) =
      (prepareChunk f ((convertToCpm data).map (fun r => r.map f)) width genes .log2CPM allM).map
        (fun c => (c.data, c.genes, c.norm)) := by
  rw [prepareChunk_raw_eq]

/-- "refuse to normalise a matrix already down-selected by gene": after any
down-selection `to_log2CPM_in_place` raises, so CPM can never be computed on a
marker subset. -/
theorem no_renorm_after_downsample (f : Rat → Rat) (m m' : CBG) (sel : List Gene)
    (h : m.downsampleGenes sel = .ok m') (hraw : m'.norm = .raw) :
    m'.toLog2CPM f = .error .genesDownsampled := by
  unfold CBG.downsampleGenes at h
  cases hs : m.selectData sel with
  | error e => simp [hs] at h
  | ok d =>
    simp only [hs, Except.ok.injEq] at h
    subst h
    simp only at hraw
    have h1 : (Norm.raw != Norm.raw) = false := by decide
    simp [CBG.toLog2CPM, hraw, h1]

/-- "normalise on the full gene set before down-selecting to markers": each
value of a raw chunk handed to the mapper is `f (10⁶ · x_g / Σ_all genes x)` —
the denominator is the sum over ALL query genes, not over the markers. -/
theorem normalised_on_full_gene_set (f : Rat → Rat) (data : List (List Rat)) (width : Nat)
    (genes allM : List Gene) (c : CBG) (h : prepareChunk f data width genes .raw allM = .ok c) :
    ∃ idx, colsOf genes allM = .ok idx ∧
      c.data = data.map (fun row => takeCols ((cpmRow row).map f) idx) ∧
      c.genes = allM ∧ c.norm = .log2CPM ∧ c.genesDownsampled = true := by
  rw [prepareChunk_eq] at h
  simp only [ListAux.error_ite_eq_ok_iff, ListAux.ite_eq_ok_iff] at h
  obtain ⟨-, -, -, hs, rfl⟩ := h
  exact ⟨_, by rw [colsOf_eq, if_pos hs], rfl, rfl, rfl, rfl⟩

/-! ## negative raw values are rejected -/

/-- "minimum of X checked before taking logarithms" — sparse encodings: for
EVERY chunk size of the `data` dataset (and for an unchunked one) the minimum
found chunk by chunk is the least stored value. -/
theorem chunked_min_sparse (stored : List Rat) (hne : stored ≠ []) (chunk : Option Nat)
    (hc : ∀ c, chunk = some c → 1 ≤ c) :
    ∃ v, minSparse stored chunk = .ok v ∧ IsMinOf v stored :=
  minSparse_spec stored hne chunk hc

/-- ... dense encoding: for EVERY HDF5 chunk shape (tiles of rows × columns,
doubled while small) the minimum found tile by tile is the least element of
the matrix. -/
theorem chunked_min_dense (X : List (List Rat)) (width : Nat) (hrows : ∀ r ∈ X, r.length ≤ width)
    (hne : X.flatten ≠ []) (chunk : Option (Nat × Nat))
    (hc : ∀ h w, chunk = some (h, w) → 1 ≤ h ∧ 1 ≤ w) :
    ∃ v, minDense X width chunk = .ok v ∧ IsMinOf v X.flatten :=
  minDense_spec X width hrows hne chunk hc

/-- "Raw input containing a negative value is rejected rather than mapped":
whenever the minimum found is the true minimum (previous two theorems) and some
value is negative, the run raises; and it does not raise when all values are
non-negative.  (Signed or float dtype; an unsigned integer dtype cannot hold a
negative value and is accepted without looking.) -/
theorem negative_rejected (vals : List Rat) (v : Rat) (hmin : IsMinOf v vals) :
    ((∃ x ∈ vals, x < 0) → negativeCheck .raw false (.ok v) = .error .negativeRaw) ∧
    ((∀ x ∈ vals, 0 ≤ x) → negativeCheck .raw false (.ok v) = .ok ()) := by
  constructor
  · rintro ⟨x, hx, hneg⟩
    have : v < 0 := lt_of_le_of_lt (hmin.2 x hx) hneg
    simp [negativeCheck, isGeZero, this]
  · intro h
    have : ¬ v < 0 := not_lt.2 (h v hmin.1)
    simp [negativeCheck, isGeZero, this]

/-- end to end for the sparse encodings: a stored negative value, any chunking ⇒
`negativeRaw`; none ⇒ accepted -/
theorem negative_rejected_sparse (stored : List Rat) (hne : stored ≠ []) (chunk : Option Nat)
    (hc : ∀ c, chunk = some c → 1 ≤ c) :
    ((∃ x ∈ stored, x < 0) → negativeCheck .raw false (minSparse stored chunk) = .error .negativeRaw) ∧
    ((∀ x ∈ stored, 0 ≤ x) → negativeCheck .raw false (minSparse stored chunk) = .ok ()) := by
  obtain ⟨v, hv, hmin⟩ := minSparse_spec stored hne chunk hc
  rw [hv]
  exact negative_rejected stored v hmin

/-- end to end for the dense encoding -/
theorem negative_rejected_dense (X : List (List Rat)) (width : Nat) (hrows : ∀ r ∈ X, r.length ≤ width)
    (hne : X.flatten ≠ []) (chunk : Option (Nat × Nat))
    (hc : ∀ h w, chunk = some (h, w) → 1 ≤ h ∧ 1 ≤ w) :
    ((∃ x ∈ X.flatten, x < 0) →
        negativeCheck .raw false (minDense X width chunk) = .error .negativeRaw) ∧
    ((∀ x ∈ X.flatten, 0 ≤ x) → negativeCheck .raw false (minDense X width chunk) = .ok ()) := by
  obtain ⟨v, hv, hmin⟩ := minDense_spec X width hrows hne chunk hc
  rw [hv]
  exact negative_rejected X.flatten v hmin

/-! ## non-vacuity -/

example : cpmRow ([1, 3].map (fun v => (5 : Rat) * v)) = cpmRow [1, 3] :=
  cpm_scale 5 (by decide +kernel) [1, 3] (by decide +kernel)
example : cpmRow [1, 3] = [250000, 750000] := by decide +kernel
/-- a column swap with names, raw input: hypotheses of `gene_perm_raw` are met -/
example : prepareChunk id [[4, 3, 1]] 3 [9, 7, 8] .raw [9, 7] =
    prepareChunk id [[3, 1, 4]] 3 [7, 8, 9] .raw [9, 7] :=
  gene_perm_raw id [[3, 1, 4]] [[4, 3, 1]] 3 [7, 8, 9] [9, 7, 8] [9, 7] rfl rfl (by decide +kernel)
    (by decide +kernel) (by decide +kernel) (by decide +kernel) rfl
    (by intro p hp; simp at hp; subst hp; decide +kernel) (by decide +kernel) (by decide +kernel)
example : ([9, 7, 8].zip [(4 : Rat), 3, 1]).Perm ([7, 8, 9].zip [3, 1, 4]) := by decide +kernel
/-- an extra gene 5 inserted, normalised input -/
example : ColumnsRelabelled { data := [[3, 1]], genes := [7, 8], norm := .log2CPM }
    { data := [[1, 6, 3]], genes := [8, 5, 7], norm := .log2CPM } :=
  ⟨rfl, by intro p hp; simp at hp; subst hp; exact ⟨[(5, 6)], by decide +kernel⟩⟩
example : (minSparse [2, -1, 5, 0] (some 1)) = .ok (-1) := by decide +kernel
example : negativeCheck .raw false (minSparse [2, -1, 5, 0] (some 3)) = .error .negativeRaw := by decide +kernel
example : negativeCheck .raw false (minDense [[2, 0], [5, -3]] 2 (some (1, 1))) = .error .negativeRaw := by
  decide +kernel
/-- the hypothesis `h` of `no_renorm_after_downsample` is met (with `m'.norm = .raw`) -/
example : (CBG.downsampleGenes { data := [[3, 1]], genes := [7, 8], norm := .raw } [8]).toBool = true := by
  decide +kernel

end CTM.C07
