/-
  C19 -- runs leave inputs untouched, scratch space empty, and do not interfere.

  Model: `CTM/Model/Scratch.lean` (file system = finite map, runs = lists of the operations
  `strace` shows; resource skeletons of the stage functions regenerated from the source into
  `CTM/Generated/Resources.lean`).  Lemmas: `CTM/Lemmas/Scratch.lean`.

  What ties this to /repo: `harness/props/c19.py` -- every traced stage run is checked
  against `footprintOk` (the hypothesis of `frame`, `commute`, `only_outputs_change`,
  `inputs_ro`) and replayed in the model; `translate_res.py` regenerates the skeletons.
-/
import CTM.Lemmas.Scratch
import CTM.Generated.Resources

namespace CTM.C19
open CTM.Scratch CTM.Skeleton

/-! ## runs on the file system: frame, commutation, footprint -/

/-- "Its result does not depend on files left in the scratch or output directories by
earlier runs": for every run inside its footprint and every set of `stale` entries that
are neither under a temporary the run creates (its fresh names) nor a declared output or
input, running on top of the stale entries gives the same final state plus the untouched
stale entries, and every operation of the run sees exactly what it sees without them. -/
theorem frame (d : Decl) (run : List Op) (fs stale : FS)
    (hfoot : footprintOk d run = true)
    (hstale : ∀ q, stale q ≠ none →
      under (freshOf run) q = false ∧ q ∉ d.outputs ∧ q ∉ d.inputs) :
    exec (overlay stale fs) run = overlay stale (exec fs run) ∧
    reads (overlay stale fs) run = reads fs run := by
  apply exec_overlay
  intro o ho q ht
  cases hs : stale q with
  | none => rfl
  | some k =>
    rw [not_touches_of_apart hfoot ho (hstale q (by simp [hs]))] at ht
    cases ht

example :
    let tmp : Path := ["scratch"]
    let d : Decl := { scratch := [tmp], outputs := [["out", "r.json"]], inputs := [["in", "q.h5ad"]] }
    let run : List Op := [.mkdtemp ["scratch", "buf_a1"], .openRO ["in", "q.h5ad"],
      .write ["scratch", "buf_a1", "chunk"] 1, .openRO ["scratch", "buf_a1", "chunk"],
      .write ["out", "r.json"] 2, .listdir ["scratch", "buf_a1"],
      .unlink ["scratch", "buf_a1", "chunk"], .rmdir ["scratch", "buf_a1"]]
    footprintOk d run = true ∧ under (freshOf run) ["scratch", "buf_stale"] = false := by
  decide +kernel

/-- "... nor on other runs using the same directories at the same time": two runs inside
their footprints whose temporaries and outputs are apart from everything the other run may
touch.  Every interleaving `l` of the two ends in the same state as running one after the
other, and each run sees, operation by operation, what it sees running alone. -/
theorem commute (d1 d2 : Decl) (l : List (Bool × Op)) (fs : FS)
    (h1 : footprintOk d1 (proj true l) = true) (h2 : footprintOk d2 (proj false l) = true)
    (sep12 : ∀ q, under (freshOf (proj true l)) q = true ∨ q ∈ d1.outputs →
      under (freshOf (proj false l)) q = false ∧ q ∉ d2.outputs ∧ q ∉ d2.inputs)
    (sep21 : ∀ q, under (freshOf (proj false l)) q = true ∨ q ∈ d2.outputs →
      under (freshOf (proj true l)) q = false ∧ q ∉ d1.outputs ∧ q ∉ d1.inputs) :
    exec fs (untag l) = exec (exec fs (proj true l)) (proj false l) ∧
    readsOf true fs l = reads fs (proj true l) ∧
    readsOf false fs l = reads fs (proj false l) := by
  have hind : IndepRuns l := fun a b ha hb q =>
    ⟨not_touches_of_writes h1 h2 sep12 (mem_proj.mpr ha) (mem_proj.mpr hb),
     not_touches_of_writes h2 h1 sep21 (mem_proj.mpr hb) (mem_proj.mpr ha)⟩
  exact ⟨commute_state l fs hind, readsOf_eq true l fs hind, readsOf_eq false l fs hind⟩

example :
    let d1 : Decl := { scratch := [["s"]], outputs := [["o", "a.json"]], inputs := [["i", "q"]] }
    let d2 : Decl := { scratch := [["s"]], outputs := [["o", "b.json"]], inputs := [["i", "q"]] }
    let l : List (Bool × Op) := [(true, .mkdtemp ["s", "t_1"]), (false, .mkdtemp ["s", "t_2"]),
      (false, .openRO ["i", "q"]), (true, .write ["s", "t_1", "x"] 1), (true, .openRO ["i", "q"]),
      (false, .write ["o", "b.json"] 2), (true, .write ["o", "a.json"] 3),
      (true, .unlink ["s", "t_1", "x"]), (false, .rmdir ["s", "t_2"]), (true, .rmdir ["s", "t_1"])]
    footprintOk d1 (proj true l) = true ∧ footprintOk d2 (proj false l) = true ∧
      freshOf (proj true l) = [["s", "t_1"]] ∧ freshOf (proj false l) = [["s", "t_2"]] := by
  decide +kernel

/-- "creates files only at the requested output locations": a run inside its footprint
changes no entry outside its own temporaries and its declared outputs. -/
theorem only_outputs_change (d : Decl) (run : List Op) (fs : FS) (q : Path)
    (hfoot : footprintOk d run = true)
    (hq : under (freshOf run) q = false) (hout : q ∉ d.outputs) :
    exec fs run q = fs q := by
  apply exec_untouched
  intro o ho
  cases hw : o.writes q with
  | false => rfl
  | true =>
    rcases writes_of_footprint d run hfoot o ho q hw with h | h
    · rw [hq] at h; cases h
    · exact absurd h hout

/-- "A pipeline stage reads its input files without modifying them (the query file is
written to only when storing results in it is requested)": an input that is not also a
declared output keeps its entry (kind and content).  An instance of `only_outputs_change`:
`_hin` only names the case. -/
theorem inputs_ro (d : Decl) (run : List Op) (fs : FS) (q : Path)
    (hfoot : footprintOk d run = true) (_hin : q ∈ d.inputs) (hout : q ∉ d.outputs)
    (hq : under (freshOf run) q = false) :
    exec fs run q = fs q :=
  only_outputs_change d run fs q hfoot hq hout

example :
    let d : Decl := { scratch := [["s"]], outputs := [["o", "a.json"]], inputs := [["i", "q"]] }
    let run : List Op := [.mkstemp ["s", "copy_1.h5ad"], .openRO ["i", "q"],
      .write ["s", "copy_1.h5ad"] 1, .write ["o", "a.json"] 2, .unlink ["s", "copy_1.h5ad"]]
    footprintOk d run = true ∧ (["i", "q"] : Path) ∈ d.inputs ∧ (["i", "q"] : Path) ∉ d.outputs ∧
      under (freshOf run) ["i", "q"] = false := by
  decide +kernel

/-- a run that writes its input is *outside* the footprint unless the input is a declared
output (sanity of the discipline: `footprintOk` is not vacuous) -/
example :
    footprintOk { scratch := [["s"]], outputs := [], inputs := [["i", "q"]] }
      [.write ["i", "q"] 1] = false := by
  decide +kernel

/-- "leaves nothing behind in the scratch directory": at the level of the file system -- if
an in-footprint run has removed, by the time it ends, everything under the temporaries it
created (their names were fresh: nothing was there before), then every entry that is not a
declared output is exactly as it was before the run: the scratch directory, and everything
else, is restored. -/
theorem scratch_listing_restored (d : Decl) (run : List Op) (fs : FS)
    (hfoot : footprintOk d run = true)
    (hfresh : ∀ q, under (freshOf run) q = true → fs q = none)
    (hgone : ∀ q, under (freshOf run) q = true → exec fs run q = none)
    (q : Path) (hout : q ∉ d.outputs) :
    exec fs run q = fs q := by
  cases hu : under (freshOf run) q with
  | true => rw [hgone q hu, hfresh q hu]
  | false => exact only_outputs_change d run fs q hfoot hu hout

example :
    let d : Decl := { scratch := [["s"]], outputs := [["o", "a.json"]], inputs := [["i", "q"]] }
    let run : List Op := [.mkdtemp ["s", "t_1"], .mkstemp ["s", "t_1", "c_1.h5"], .openRO ["i", "q"],
      .write ["s", "t_1", "c_1.h5"] 1, .write ["o", "a.json"] 2, .listdir ["s", "t_1"],
      .unlink ["s", "t_1", "c_1.h5"], .rmdir ["s", "t_1"]]
    let fs : FS := fun q => if q = ["s"] ∨ q = ["o"] ∨ q = ["i"] then some .dir
      else if q = ["i", "q"] then some (.file 7) else none
    footprintOk d run = true ∧ firstNotOk fs run 0 = none ∧
      exec fs run ["s", "t_1"] = none ∧ exec fs run ["s", "t_1", "c_1.h5"] = none ∧
      exec fs run ["o", "a.json"] = some (.file 2) := by
  decide +kernel

/-! ## resource skeletons: the may-be-live analysis -/

/-- "leaves nothing behind in the scratch directory it was given once it has returned; a
mapping run also leaves nothing behind when it ends with an error" -- generic over the
resource-skeleton IR: whatever is live (a temporary created directly under a directory the
caller handed in and not yet cleaned up) after *any* execution of a skeleton -- any branch,
any number of loop rounds, a raise at any call or creation site -- is in the set the
analysis `postL` computes for that kind of exit. -/
theorem may_leak_sound (body : List Stmt) {e : Exit} {σ' : Live}
    (hx : ExecL body [] e σ') : ∀ x ∈ σ', x ∈ (postL body []).get e :=
  postL_sound hx [] (by simp)

/-- ... hence if the analysis says "nothing" for the exits in `exits`, every such execution
restores the scratch directory: nothing is live when the function is left that way. -/
theorem scratch_restored (exits : List Exit) (body : List Stmt)
    (h : restoresOn exits body = true) {e : Exit} {σ' : Live} (he : e ∈ exits)
    (hx : ExecL body [] e σ') : σ' = [] := by
  have hempty : (postL body []).get e = [] := by
    simpa [restoresOn, List.all_eq_true] using (List.all_eq_true.mp h) e he
  apply List.eq_nil_iff_forall_not_mem.mpr
  intro x hx'
  have := may_leak_sound body hx x hx'
  rw [hempty] at this
  cases this

/-- the translator marks a `_clean_up(P)` that may hit the CALLER's directory -- `P` is a
scratch parameter re-bound by `P = mkdtemp(dir=P)` somewhere that does not dominate the
clean-up, e.g. inside the `try` whose `finally` cleans `P` -- by creating the reserved slot
`harmSlot`, which nothing ever cleans.  So the same obligation also says: on no path is
something of the caller's removed. -/
def harmSlot : Nat := 1000

/-- with nothing live the reserved slot is not live either; what this says of the source rests
on the translator's convention above -/
theorem caller_dir_never_removed (exits : List Exit) (body : List Stmt)
    (h : restoresOn exits body = true) {e : Exit} {σ' : Live} (he : e ∈ exits)
    (hx : ExecL body [] e σ') : harmSlot ∉ σ' := by
  rw [scratch_restored exits body h he hx]
  simp

/-- a skeleton with the `mkdtemp` inside the `try` fails the obligation -/
example : restoresOn [.exc] [.tryFinally [.mk 2 0, .call] [.mk harmSlot 0, .clean 2]] = false := by
  decide +kernel

/-- non-vacuity: an execution that raises inside the protected region, and the analysis of
a skeleton with the clean-up outside the `finally` (which does leak) -/
example : ExecL [.mk 2 0, .tryFinally [.call] [.clean 2]] [] .exc [] :=
  .consNext (.mkOk 2 0 []) (.consExit (.tryFinally (e := .exc) (e' := .norm)
    (.consExit (.callRaise _) (by decide)) (.consNext (.clean 2 _) (.nil _))) (by decide))
example : restoresOn [.exc] [.mk 2 0, .call, .clean 2] = false := by decide +kernel

/-! ## per-function obligations on the skeletons regenerated from the current source

Closed terms, decided by the kernel at build time. -/

/-- `validate_h5ad`: scratch restored at every exit, raising or not -/
theorem validateH5ad_restores_always :
    restoresOn [.norm, .ret, .exc] CTM.Generated.validateH5ad = true := by decide +kernel

/-- `precompute_summary_stats_from_h5ad_and_lookup`: scratch restored once it has returned -/
theorem precompute_restores_on_return :
    restoresOn [.norm, .ret] CTM.Generated.precompute = true := by decide +kernel

/-- `find_markers_for_all_taxonomy_pairs`: scratch restored once it has returned -/
theorem findMarkers_restores_on_return :
    restoresOn [.norm, .ret] CTM.Generated.findMarkers = true := by decide +kernel

/-- `run_type_assignment_on_h5ad_cpu`: its `results_buffer_` directory is removed once it
has returned (on an error it is left to the caller, `run_mapping`, which removes the
enclosing `result_buffer_` directory in its `finally`) -/
theorem typeAssignment_restores_on_return :
    restoresOn [.norm, .ret] CTM.Generated.typeAssignment = true := by decide +kernel

/-- `run_mapping`: "a mapping run also leaves nothing behind when it ends with an error" --
nothing is live at any exit, raising or not: both the `cell_type_mapper_<timestamp>_`
directory (slot 2) and the `result_buffer_` directory (slot 3) are created inside or
immediately before the `try` whose `finally` cleans them up. -/
theorem runMapping_restores_always :
    restoresOn [.norm, .ret, .exc] CTM.Generated.runMapping = true := by decide +kernel

/-- with `scratch_restored`: every execution of the `run_mapping` skeleton, however it ends,
ends with nothing live -/
theorem runMapping_every_path_clean {e : Exit} {σ' : Live}
    (hx : ExecL CTM.Generated.runMapping [] e σ') : σ' = [] := by
  apply scratch_restored [.norm, .ret, .exc] _ runMapping_restores_always _ hx
  cases e <;> simp

/-! ## helpers called inside the stages that own a scratch sub-directory

More of the code inside the model; the property itself speaks of the stages. -/

/-- `find_markers_for_all_taxonomy_pairs_from_p_mask`, `create_p_value_mask_file`,
`amalgamate_h5ad`, `pivot_csr_h5ad`, `transpose_by_way_of_disk`,
`transpose_sparse_matrix_on_disk_v2`: `mkdtemp` directly followed by `try … finally:
_clean_up` -- restored at every exit -/
theorem helpers_restore_always :
    restoresOn [.norm, .ret, .exc] CTM.Generated.findMarkersFromPMask = true ∧
    restoresOn [.norm, .ret, .exc] CTM.Generated.createPValueMask = true ∧
    restoresOn [.norm, .ret, .exc] CTM.Generated.amalgamateH5ad = true ∧
    restoresOn [.norm, .ret, .exc] CTM.Generated.pivotCsrH5ad = true ∧
    restoresOn [.norm, .ret, .exc] CTM.Generated.transposeByWayOfDisk = true ∧
    restoresOn [.norm, .ret, .exc] CTM.Generated.transposeOnDiskV2 = true := by decide +kernel

/-- `add_sparse_by_gene_markers_to_file`, `round_x_to_integers`: restored on return -/
theorem helpers_restore_on_return :
    restoresOn [.norm, .ret] CTM.Generated.addSparseByGene = true ∧
    restoresOn [.norm, .ret] CTM.Generated.roundXToIntegers = true := by decide +kernel

end CTM.C19
