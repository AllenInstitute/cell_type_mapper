/-
  C20 -- cloud-safe outputs reveal no absolute path of the host.

  Model: `CTM/Model/Sanitize.lean` (`sanitize_paths`, `is_exposed`, `_word_to_path`, the use
  `run_mapping` / `write_log` make of them); the host (`Host`: which paths exist, `resolve`,
  the package location) is a parameter every theorem quantifies over.  Lemmas:
  `CTM/Lemmas/Sanitize.lean`, `CTM/Lemmas/SanitizeWords.lean`.

  The sanitiser works on whitespace-delimited words, so the property in its substring sense
  is NOT a theorem about it (`leading_punct_leaks`, `top_level_trailing_punct_leaks`,
  `infix_key_leaks` below are kernel-checked counterexamples on the model, confirmed on the
  real function by the unit suite).  What is proved is the word-level guarantee; whether a
  reachable run produces a message outside it is decided on the implementation
  (`harness/props/c20.py`, substring scan of real outputs).
-/
import CTM.Lemmas.SanitizeWords
import CTM.Lemmas.ListAux

namespace CTM.C20
open CTM.Sanitize

/-- a host for the examples: `/abs`, `/abs/existing`, `/tmp`, `/home`, `/home/u` exist -/
def demoHost : Host :=
  { ex := fun p => ["/abs".toList, "/abs/existing".toList, "/tmp".toList, "/home".toList,
                    "/home/u".toList].contains p.toStr,
    resolve := fun p => p.toStr,
    mapperRoot := "/opt/pkg/src".toList }

/- The closed facts about `demoHost` below are evaluated by the kernel, after every `"…".toList`
has been rewritten to its characters: a literal unfolds to `String.ofList` of them, so
`String.toList_ofList` applies (`-index`: simp's index does not look inside a literal), whereas
the kernel on its own would decode the literal from its UTF-8 bytes at many times the price of
the sanitiser's work. -/

/-- "paths appear by file name only, or relative to the package": whatever replaces an
exposed word never starts with '/' -- replacements cannot introduce a leading slash.
(`p = wordToPath w` for every word the sanitiser looks at, hence well-formed.) -/
theorem replacement_not_absolute (h : Host) (w v : Str)
    (hv : safeName h (wordToPath w) = .ok v) : v.head? ≠ some '/' :=
  safeName_head?_ne_slash h (wordToPath w) (parsePath_wf _) v hv

/-- ... and when the word is outside the package the replacement is the bare file name:
no '/' anywhere in it -/
theorem replacement_is_file_name (h : Host) (w v : Str)
    (hout : h.mapperRoot.isPrefixOf (h.resolve (wordToPath w)) = false)
    (hv : safeName h (wordToPath w) = .ok v) : '/' ∉ v := by
  rcases safeName_cases hv with ⟨_, rfl⟩ | ⟨hin, _⟩
  · exact name_no_slash _ (parsePath_wf _)
  · rw [hout] at hin; cases hin

example : safeName demoHost (wordToPath "'/abs/existing/q.h5ad',".toList) = .ok "q.h5ad,".toList := by
  simp -index only [demoHost, String.toList_ofList]
  decide +kernel

/-- the word-level guarantee for a message that is one word: if the word (a non-empty
string without whitespace) is exposed -- it or any ancestor exists on the host --
`sanitize_paths` returns exactly its replacement, which does not start with '/'. -/
theorem exposed_word_replaced (h : Host) (w v : Str) (hne : w ≠ [])
    (hws : ∀ c ∈ w, isWs c = false)
    (hex : isExposed h.ex (wordToPath w) = true)
    (hv : safeName h (wordToPath w) = .ok v) :
    sanitizeStr h w = .ok v ∧ v.head? ≠ some '/' := by
  refine ⟨?_, replacement_not_absolute h w v hv⟩
  unfold sanitizeStr
  rw [splitWs_word w hne hws]
  simp only [buildSubs, hex, if_true, hv, assocSet]
  simp [substituteAll, replace_self w v hne]

example : sanitizeStr demoHost "/abs/existing/sub/q.h5ad".toList = .ok "q.h5ad".toList := by
  simp -index only [demoHost, String.toList_ofList]
  decide +kernel

/-- a word that is not exposed is returned unchanged (nothing is lost from a message that
mentions no host path) -/
theorem unexposed_word_unchanged (h : Host) (w : Str) (hne : w ≠ [])
    (hws : ∀ c ∈ w, isWs c = false)
    (hex : isExposed h.ex (wordToPath w) = false) :
    sanitizeStr h w = .ok w := by
  unfold sanitizeStr
  rw [splitWs_word w hne hws]
  simp [buildSubs, hex]

example : sanitizeStr demoHost "/nonexistent/q.h5ad".toList = .ok "/nonexistent/q.h5ad".toList := by
  simp -index only [demoHost, String.toList_ofList]
  decide +kernel

/-- a path followed by `,` `:` `)` `'` is still caught when it begins the word: the parent
walk of `is_exposed` finds the existing directory whatever trails the last component --
provided the existing ancestor is not the root itself (`dir ≠ []`). -/
theorem trailing_punct_ok (ex : Path → Bool) (root : Nat) (dir : List Str) (last : Str)
    (hdir : dir ≠ []) (hex : ex ⟨root, dir⟩ = true) :
    isExposed ex ⟨root, dir ++ [last]⟩ = true :=
  isExposed_of_ancestor ex root dir (dir ++ [last]) hdir (List.prefix_append _ _) hex

example : sanitizeStr demoHost "/abs/existing,".toList = .ok "existing,".toList ∧
    sanitizeStr demoHost "/abs/existing:".toList = .ok "existing:".toList ∧
    sanitizeStr demoHost "/abs/existing)".toList = .ok "existing)".toList ∧
    sanitizeStr demoHost "'/abs/existing',".toList = .ok "existing,".toList ∧
    sanitizeStr demoHost "\"/abs/existing/q.h5\"".toList = .ok "q.h5".toList := by
  simp -index only [demoHost, String.toList_ofList]
  decide +kernel

/-- WITNESS (not a guarantee): a top-level directory followed by punctuation is returned
unchanged -- its only ancestor is `/`, which `is_exposed` never reports. -/
theorem top_level_trailing_punct_leaks :
    sanitizeStr demoHost "/tmp,".toList = .ok "/tmp,".toList := by
  simp -index only [demoHost, String.toList_ofList]
  decide +kernel

/-- WITNESS: a path preceded by `(`, `['` or `key=` inside the same word is returned
unchanged, so the property in the substring sense is not a theorem of the sanitiser. -/
theorem leading_punct_leaks :
    sanitizeStr demoHost "(/abs/existing)".toList = .ok "(/abs/existing)".toList ∧
    sanitizeStr demoHost "['/abs/existing',".toList = .ok "['/abs/existing',".toList ∧
    sanitizeStr demoHost "key=/abs/existing".toList = .ok "key=/abs/existing".toList := by
  simp -index only [demoHost, String.toList_ofList]
  decide +kernel

/-- WITNESS: substitution is a global substring replacement, so an exposed word that occurs
*inside* another word damages it before its own turn comes: `/home/u/tmp/q` keeps its
existing prefix `/home` (it becomes `/home/utmp/q`). -/
theorem infix_key_leaks :
    sanitizeStr demoHost "/tmp /home/u/tmp/q".toList = .ok "tmp /home/utmp/q".toList := by
  simp -index only [demoHost, String.toList_ofList]
  decide +kernel

/-- what the sanitiser is meant to turn a word into: an exposed word becomes its file name /
package-relative path, any other word stays -/
def wordImage (h : Host) (w : Str) : Str :=
  if isExposed h.ex (wordToPath w) = true then
    match safeName h (wordToPath w) with
    | .ok v => v
    | .error _ => w
  else w

/-- the hypothesis under which substring replacement is safe: no exposed word of the message
occurs inside a *different* word of it, nor inside what a different word is replaced by
(`infix_key_leaks` shows what happens otherwise); stated with `wordImage`, so that it can be
read off the message and the host without running `buildSubs` -/
def Independent (h : Host) (ws : List Str) : Prop :=
  ∀ k ∈ ws, isExposed h.ex (wordToPath k) = true → ∀ w ∈ ws, k ≠ w →
    ¬ k <:+: w ∧ ¬ k <:+: wordImage h w

/-- the general word-level statement, for messages of any number of words and any
whitespace: under `Independent`, the words of the sanitised message are exactly the words
of the message with every exposed one replaced by its file name / package-relative path
(a replacement that is empty -- the word `//` -- vanishes). -/
theorem words_spec (h : Host) (s out : Str) (hres : ∀ p, WsFree (h.resolve p))
    (hind : Independent h (splitWs s)) (hout : sanitizeStr h s = .ok out) :
    splitWs out = ((splitWs s).map (wordImage h)).filter nonEmpty ∧
    ∀ w ∈ splitWs s, isExposed h.ex (wordToPath w) = true →
      safeName h (wordToPath w) = .ok (wordImage h w) := by
  unfold sanitizeStr at hout
  cases hb : buildSubs h (splitWs s) [] with
  | error e => rw [hb] at hout; cases hout
  | ok subs =>
    rw [hb] at hout
    obtain rfl : out = substituteAll subs s := by
      cases subs <;> exact (Except.ok.inj hout).symm
    obtain ⟨inv, hkeys, _, hfrom⟩ :=
      buildSubs_spec h (splitWs s) [] subs ⟨List.nodup_nil, fun _ h => nomatch h⟩ hb
    have hkw : ∀ kv ∈ subs, kv.1 ∈ splitWs s := fun kv hkv =>
      (hfrom kv.1 (List.mem_map.mpr ⟨kv, hkv, rfl⟩)).resolve_left (by simp [keysOf])
    have himg : ∀ kv ∈ subs, wordImage h kv.1 = kv.2 := fun kv hkv => by
      simp [wordImage, (inv.2 kv hkv).1, (inv.2 kv hkv).2]
    refine ⟨splitWs_substituteAll_table subs (wordImage h) s inv.1 ?_ ?_ ?_, ?_⟩
    · exact fun kv hkv => ⟨hkw kv hkv, safeName_wsFree h hres kv.1 kv.2
        (splitWs_words s _ (hkw kv hkv)).2 (inv.2 kv hkv).2, himg kv hkv⟩
    · intro w hw hk
      have : ¬ isExposed h.ex (wordToPath w) = true := fun hex => hk (hkeys w hw hex)
      simp [wordImage, this]
    · exact fun kv hkv w hw hne => hind kv.1 (hkw kv hkv) (inv.2 kv hkv).1 w hw hne
    · intro w hw hex
      obtain ⟨kv, hkv, rfl⟩ := List.mem_map.mp (hkeys w hw hex)
      rw [himg kv hkv]
      exact (inv.2 kv hkv).2

/-- after sanitising, no whitespace-delimited word whose quote-stripped form starts with '/'
is exposed: under `Independent` (and resolved paths free of whitespace and quote characters)
every word of a sanitised message is either a word of the original message that is not
exposed, or the replacement of an exposed one -- and a replacement, quotes stripped or not,
does not start with '/'. -/
theorem words_clean (h : Host) (s out : Str) (hres : ∀ p, WsFree (h.resolve p))
    (hresq : ∀ p, QuoteFree (h.resolve p))
    (hind : Independent h (splitWs s)) (hout : sanitizeStr h s = .ok out) :
    ∀ w' ∈ splitWs out, (stripQuotes w').head? = some '/' →
      w' ∈ splitWs s ∧ isExposed h.ex (wordToPath w') = false := by
  intro w' hw' hhead
  obtain ⟨hspec, hsafe⟩ := words_spec h s out hres hind hout
  rw [hspec] at hw'
  obtain ⟨w, hw, hi⟩ := List.mem_map.mp (List.mem_filter.mp hw').1
  by_cases hex : isExposed h.ex (wordToPath w) = true
  · exfalso
    have hs := hsafe w hw hex
    rw [hi] at hs
    have hq := safeName_quoteFree h hresq w w' hs
    rw [stripQuotes_of_quoteFree w' hq] at hhead
    exact replacement_not_absolute h w w' hs hhead
  · have : wordImage h w = w := by simp [wordImage, hex]
    rw [this] at hi
    subst hi
    exact ⟨hw, by simpa using hex⟩

/-- non-vacuity: a three-word message with two exposed words (one nested under the other's
directory, which `Independent` allows only if neither occurs inside the other -- here they
are apart), separated by a newline and a tab -/
example : sanitizeStr demoHost "copied /abs/existing/q.h5ad\n\tto '/tmp/x',".toList
    = .ok "copied q.h5ad\n\tto x,".toList := by
  simp -index only [demoHost, String.toList_ofList]
  decide +kernel

/-- whatever whitespace characters separate them -- blank, tab, newline, carriage return,
non-breaking space, ... (`isWs` = Python's `str.isspace`) -- three words are three words -/
theorem splitWs_three (u w v : Str) (c1 c2 : Char) (hc1 : isWs c1 = true) (hc2 : isWs c2 = true)
    (hu : u ≠ [] ∧ WsFree u) (hw : w ≠ [] ∧ WsFree w) (hv : v ≠ [] ∧ WsFree v) :
    splitWs (u ++ c1 :: (w ++ c2 :: v)) = [u, w, v] := by
  unfold splitWs
  rw [splitWsGo_append_word u [] _ hu.2, splitWsGo_ws hc1, splitWsGo_append_word w [] _ hw.2,
    splitWsGo_ws hc2, splitWsGo_of_wsFree v [] hv.2]
  simp only [List.nil_append, filter_nonEmpty_singleton hu.1, filter_nonEmpty_singleton hw.1,
    filter_nonEmpty_singleton hv.1]
  rfl

/-- `words_clean` does not care which whitespace separates the words: a path that stands
between two NEWLINES (the package's own "The file\n{path}\ncontains ..." messages), tabs,
carriage returns or any other `str.isspace` character is a word of its own and is treated
exactly as between blanks -- the words of the sanitised message are the images of the three
words, and if the middle word is exposed it is replaced by something not starting with '/'. -/
theorem words_clean_any_whitespace (h : Host) (u w v out : Str) (c1 c2 : Char)
    (hc1 : isWs c1 = true) (hc2 : isWs c2 = true)
    (hu : u ≠ [] ∧ WsFree u) (hw : w ≠ [] ∧ WsFree w) (hv : v ≠ [] ∧ WsFree v)
    (hres : ∀ p, WsFree (h.resolve p)) (hind : Independent h [u, w, v])
    (hout : sanitizeStr h (u ++ c1 :: (w ++ c2 :: v)) = .ok out) :
    splitWs out = ([u, w, v].map (wordImage h)).filter nonEmpty ∧
    (isExposed h.ex (wordToPath w) = true → (wordImage h w).head? ≠ some '/') := by
  have hs := splitWs_three u w v c1 c2 hc1 hc2 hu hw hv
  have hspec := words_spec h _ out hres (by rw [hs]; exact hind) hout
  rw [hs] at hspec
  refine ⟨hspec.1, fun hex => ?_⟩
  exact replacement_not_absolute h w _ (hspec.2 w (by simp) hex)

example : sanitizeStr demoHost "must be in file. The file\n/abs/existing/stats_x.h5\ncontains keys".toList
    = .ok "must be in file. The file\nstats_x.h5\ncontains keys".toList ∧
    sanitizeStr demoHost "file\t/abs/existing/q.h5\r\nis not a file".toList
    = .ok "file\tq.h5\r\nis not a file".toList := by
  simp -index only [demoHost, String.toList_ofList]
  decide +kernel

/-- nested keys (`/a` and `/a/b/c`) cannot leave an absolute remainder: when an exposed
word `k` is a *prefix* of another word (the case `Independent` excludes), replacing `k`
rewrites the beginning of that word to `k`'s replacement, so what is left of it no longer
starts with '/' (replacements never do, `replacement_not_absolute`; an empty replacement --
only the word `//` has one -- is excluded). -/
theorem nested_key_remainder (k v rest : Str) (hk : k ≠ []) (hv : v ≠ [])
    (hvh : v.head? ≠ some '/') : (replace k v (k ++ rest)).head? ≠ some '/' := by
  rw [replace_append_self k v rest hk]
  cases v with
  | nil => exact absurd rfl hv
  | cons a as => exact hvh

example : sanitizeStr demoHost "/abs /abs/existing/q.h5".toList = .ok "abs abs/existing/q.h5".toList := by
  simp -index only [demoHost, String.toList_ofList]
  decide +kernel

/-- "configuration sanitised up front and scratch/output directory keys removed": in a
cloud-safe run the recorded configuration has neither `extended_result_dir` nor `tmp_dir`,
every remaining entry is an entry of the given configuration whose value went through
`sanitize_paths`, and nothing else was dropped. -/
theorem config_keys (h : Host) (config safe : List (Str × Val))
    (hs : safeConfig h true config = .ok safe) :
    (∀ kv ∈ safe, kv.1 ≠ keyExtDir ∧ kv.1 ≠ keyTmpDir) ∧
    (∀ kv ∈ safe, ∃ v0, (kv.1, v0) ∈ config ∧ sanitizeVal h v0 = .ok kv.2) ∧
    (∀ kv ∈ config, kv.1 ≠ keyExtDir → kv.1 ≠ keyTmpDir → kv.1 ∈ safe.map (·.1)) := by
  unfold safeConfig at hs
  simp only [if_true] at hs
  split at hs
  · cases hs
  · rename_i c hc
    split at hs
    · cases hs
    · rename_i c1 hc1
      obtain ⟨a1, b1⟩ := popKey_spec keyExtDir c c1 hc1
      obtain ⟨a2, b2⟩ := popKey_spec keyTmpDir c1 safe hs
      obtain ⟨hkeys, hvals⟩ := sanitizeKvs_spec h config c hc
      refine ⟨?_, ?_, ?_⟩
      · intro kv hkv
        exact ⟨(a1 kv (a2 kv hkv).1).2, (a2 kv hkv).2⟩
      · intro kv hkv
        exact hvals kv (a1 kv (a2 kv hkv).1).1
      · intro kv hkv h1 h2
        have hk : kv.1 ∈ c.map (·.1) := by
          rw [hkeys]
          exact List.mem_map.mpr ⟨kv, hkv, rfl⟩
        obtain ⟨kv', hkv', he⟩ := List.mem_map.mp hk
        have m1 := b1 kv' hkv' (by rw [he]; exact h1)
        have m2 := b2 kv' m1 (by rw [he]; exact h2)
        exact List.mem_map.mpr ⟨kv', m2, he⟩

example : (match safeConfig demoHost true
    [("query_path".toList, .str "/abs/existing/q.h5ad".toList),
     ("tmp_dir".toList, .str "/tmp".toList),
     ("extended_result_dir".toList, .str "/abs".toList),
     ("precomputed_stats".toList, .dict [("path".toList, .str "/abs/existing".toList)]),
     ("max_gb".toList, .other 0)] with
    | .ok safe => safe.map (·.1) == ["query_path".toList, "precomputed_stats".toList, "max_gb".toList]
    | .error _ => false) = true := by
  simp -index only [demoHost, String.toList_ofList]
  decide +kernel

/-- a configuration without the two directory keys makes `run_mapping` fail (KeyError)
rather than record them -/
example : ∃ e, safeConfig demoHost true [("query_path".toList, .str "q".toList)] = .error e :=
  safeConfig_missing_key _ _ (by decide +kernel)

/-- "log sanitised before it is embedded or written": in a cloud-safe run every recorded
log line is `sanitize_paths` of the line that was logged -/
theorem log_lines_sanitised (h : Host) (log out : List Str)
    (ho : outputLog h true log = .ok out) :
    out.length = log.length ∧
    ∀ i (hi : i < out.length) (hi' : i < log.length), sanitizeStr h log[i] = .ok out[i] := by
  rw [outputLog, if_pos rfl] at ho
  refine ⟨ListAux.mapM_ok_length ho, fun i hi hi' => ?_⟩
  simpa [List.getElem?_eq_getElem hi, List.getElem?_eq_getElem hi'] using
    ListAux.mapM_ok_getElem? ho i

example : outputLog demoHost true ["copied /abs/existing/q.h5ad to /tmp/x".toList] =
    .ok ["copied q.h5ad to x".toList] := by
  simp -index only [demoHost, String.toList_ofList]
  decide +kernel

end CTM.C20
