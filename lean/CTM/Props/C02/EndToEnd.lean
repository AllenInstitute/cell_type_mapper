/-
  C02, files in — records out.  The composed model (`mapPipeline` with the
  interpreted oracle) instantiated at FILE level: the node's gene columns come
  from the marker cache (`Markers.createCache`, theorem `C08.spec`), the
  reference rows from the statistics model's reading of the statistics file
  (`StageFiles.leafMeanRow`, `meanByName`).  Plain configuration only (no `drop_level`, no
  `flatten`).  See design_notes/end_to_end.md.
-/
import CTM.Lemmas.EndToEnd
import CTM.Props.C02.Compose

namespace CTM.C02
open CTM CTM.LevelLoop CTM.OutBridge CTM.Election CTM.Numeric CTM.Compose
open CTM.Markers CTM.StageFiles CTM.EndToEnd

/-- `NoRaiseAll` discharged at file level: for a validated taxonomy stored in the
statistics file, neither `tally_votes` nor `choose_node` raises on any question
of the level loop, provided only that at least one iteration is drawn, the drawn
subsets index into the node's gene list (`SubsetsOK`, the checked predicate
`subset_ok`) and `n_assignments ≥ 1`.  That every consulted parent HAS a
non-empty gene list of equal length on both sides whenever the marker stage
succeeds is `node_genes_of_stage`. -/
theorem no_raise_end_to_end (f : StatsFile) (lk : Lookup) (Q : List Gene) (rp : RunParams)
    (hv : f.tree.validate = .ok ()) (hN : f.tree.hierarchy.Nodup)
    (hsub : SubsetsOK f lk Q rp) (hA : 1 ≤ rp.nAssign) :
    NoRaiseAll (fileParams f lk Q rp) f.tree :=
  noRaiseAll_fileParams f lk Q rp hv hsub hA

/-- "the n marker genes usable at that node", by NAME: when the marker stage of
the run succeeds (`Markers.stage = .ok`), every consulted parent has a gene list
`names` — non-empty, without repetition, as a set `specGenes` of the ORIGINAL
marker table (C08) — such that query column `j` and reference column `j` of the
file-level parameters are both the gene `names[j]`, the reference columns in
increasing `col_names` order. -/
theorem node_genes_of_stage (f : StatsFile) (lk : Lookup) (Q : List Gene) (rp : RunParams)
    (hT : TreeWF f.tree) (out : StageOut)
    (hstage : Markers.stage f.tree lk f.colNames Q rp.minMarkers none false = .ok out)
    (p : PKey) (hp : p ∈ f.tree.allParents) (hc : Consulted f.tree p) :
    ∃ names, NodeGenes f lk Q rp p names := by
  obtain ⟨c, hcache⟩ := cache_of_stage f lk Q rp.minMarkers out hstage
  exact nodeGenes_of_cache f lk Q rp hT c hcache p hp hc

/-- **"Recomputing these quantities directly from the input files and the
subsets that were drawn reproduces the output"** — with the FILES as inputs.

Inputs: the statistics file `f` (its stored taxonomy validated, dict keys distinct —
the statement also takes distinct level names and a node at the top, which follow
from validation and which the proof does not use; `col_names` distinct; every
leaf has a row — `FileOK`), the marker table `lk` accepted by the marker stage
(`Markers.stage … = .ok`), the query (gene names `Q`, distinct; `cells` = its
rows), a plain configuration (any chunk size, worker count, gather order), any
drawn subsets indexing into the node gene lists, any valid tie orders.  Then for
every record `o` of `mapPipeline f.tree cfg (electionVote (fileParams f lk Q rp))`:

 * (`pipeline_recompute`) `o` belongs to the cell `ids[i]` / `cells[i]`; along
   the cell's walk every directly assigned level is the single-child constants
   or the node-level recompute `NodeRecompute` at the parent reached so far, and
   the record holds exactly those fields;
 * the election at a consulted parent `p` runs over exactly the genes
   `names` of `node_genes_of_stage` — `specGenes(p)`, in reference order;
 * its reference rows are leaves of the stored taxonomy, and entry `j` of the row
   of leaf `ℓ` is the mean the statistics file holds for (leaf NAME `ℓ`, gene
   NAME `names[j]`): `meanByName f ℓ names[j]` (row `cluster_to_row[ℓ]`, column
   `col_names.index(names[j])`, `sum / max(1, n_cells)`);
 * entry `j` of the cell's row is the cell's value in the query column NAMED
   `names[j]`. -/
theorem end_to_end_recompute (f : StatsFile) (lk : Lookup) (Q : List Gene) (rp : RunParams)
    (cfg : Config) (ids : List CellId) (cells : List (List Rat)) (order : List Nat)
    (hv : f.tree.validate = .ok ()) (hN : f.tree.hierarchy.Nodup) (d : RawTree.DictOK f.tree)
    (hnode : Bridge.HasNode f.tree)
    (hfile : FileOK f) (hcn : f.colNames.Nodup) (hqn : Q.Nodup)
    (hcells : ∀ x ∈ cells, x.length = Q.length)
    (out0 : StageOut)
    (hstage : Markers.stage f.tree lk f.colNames Q rp.minMarkers none false = .ok out0)
    (hdrop : cfg.dropLevel = none) (hflat : cfg.flatten = false)
    (htie : ∀ p x V, ValidOrder V (rp.tie p x V))
    (hsub : SubsetsOK f lk Q rp) (hA : 1 ≤ rp.nAssign)
    (hlen : ids.length = cells.length) (hnd : ids.Nodup)
    (hproc : 1 ≤ cfg.nProc) (hcs : 1 ≤ cfg.chunkSize)
    (horder : order.Perm (List.range
      (chunks cells.length (effChunk cells.length cfg.nProc cfg.chunkSize)).length))
    (out : List Record)
    (hout : mapPipeline f.tree cfg (electionVote (fileParams f lk Q rp)) ids cells order
      = .ok out) :
    (∀ o ∈ out, ∃ (i : Nat) (id : CellId) (c : List Rat) (raw : List (Level × Entry)),
      ids[i]? = some id ∧ cells[i]? = some c ∧ o.cellId = id ∧
      walkFrom f.tree (electionVote (fileParams f lk Q rp)) c f.tree.hierarchy none = .ok raw ∧
      raw.map (·.1) = f.tree.hierarchy ∧
      Linked (StepOK (fileParams f lk Q rp) f.tree c) none raw ∧
      ∀ (k : Nat) (hk : k < raw.length), ∃ e, o.levels.lookup raw[k].1 = some e ∧
        e.assignment = raw[k].2.assignment ∧ e.prob = raw[k].2.prob ∧
        (raw[k].2.ru.isSome = true → e.ru = raw[k].2.ru) ∧
        (∀ q, raw[k].2.corr = some q → e.corr = some q) ∧
        e.agg.getD 0 = ((raw.map (fun le => le.2.prob)).take (k + 1)).prod ∧
        e.direct.getD false = true) ∧
    (∀ (p : Parent) (l : Level) (kids : List Node), Asked f.tree p l kids → 2 ≤ kids.length →
      ∃ names, NodeGenes f lk Q rp p names ∧
        (∀ leaf ∈ (nodeRows (kidsOf f.tree l kids)).1, leaf ∈ leavesOf f.tree ∧
          ∀ (j : Nat) (g : Gene), names[j]? = some g →
            (refRow (fileParams f lk Q rp) p leaf)[j]? = meanByName f leaf g ∧
            (meanByName f leaf g).isSome = true) ∧
        (∀ x ∈ cells, ∀ (j : Nat) (g : Gene), names[j]? = some g →
          ∃ q, nameToIdx Q g = some q ∧
            (nodeQuery (fileParams f lk Q rp) p x)[j]? = x[q]? ∧ q < x.length)) := by
  have hwf := Bridge.wfb_of_validate hv d
  have hT := Bridge.treeWF_of_WF (RawTree.WF.of_validate hv d)
  have hrun : runTree f.tree cfg = .ok f.tree := by simp [runTree, hdrop, hflat]
  have hnr := noRaiseAll_fileParams f lk Q rp hv hsub hA
  refine ⟨pipeline_recompute f.tree f.tree cfg (fileParams f lk Q rp) ids cells order hwf hrun
    (fun p x V => htie p x V) hnr hlen hnd hproc hcs horder out hout, ?_⟩
  intro p l kids hask h2
  obtain ⟨hp, hc⟩ := asked_consulted hask h2
  obtain ⟨names, hng⟩ := node_genes_of_stage f lk Q rp hT out0 hstage p hp hc
  refine ⟨names, hng, ?_, ?_⟩
  · intro leaf hl
    have hleaf := rows_are_leaves hv hask leaf hl
    exact ⟨hleaf, fun j g hj => refRow_by_name f lk Q rp hfile hcn p names hng leaf hleaf j g hj⟩
  · intro x hx j g hj
    exact nodeQuery_by_name f lk Q rp hqn p names hng x (hcells x hx) j g hj

/-! ## non-vacuity: the statistics model's example file `Ex.f0` (taxonomy
10 → {30, 31}, 11 → {33}; `col_names` 7, 5, 9), a marker table, a query whose
gene columns are 9, 7, 5 -/

namespace ExE2E

def lk : Lookup := [(none, [7, 5, 9]), (some (0, 10), [5, 9])]

def rp : RunParams :=
  { subsets := fun p _ => if p = none then [[0, 1, 2], [0, 2]] else [[0, 1]],
    corrOf := fun _ _ _ _ => 1 / 2, tie := fun _ _ V => stableTie V,
    nAssign := 2, minMarkers := 1 }

def Q : List Gene := [9, 7, 5]

theorem subsetsOK : SubsetsOK Ex.f0 lk Q rp := by
  have key : ∀ p ∈ Ex.f0.tree.allParents,
      (match childrenOf Ex.f0.tree p with
       | .ok ch => decide (ch.length > 1)
       | .error _ => false) = true →
      (!(rp.subsets p []).isEmpty &&
        (rp.subsets p []).all (fun s => s.all (fun i =>
          decide (i < (groupRows (cacheOf Ex.f0 lk Q rp.minMarkers) p).length)))) = true := by
    decide +kernel
  intro p hp ⟨ch, hch, hlen⟩ x
  have := key p hp (by rw [hch]; simpa using hlen)
  simp only [Bool.and_eq_true, Bool.not_eq_true', List.all_eq_true, decide_eq_true_eq] at this
  refine ⟨?_, ?_⟩
  · intro e
    have h0 : rp.subsets p x = rp.subsets p [] := rfl
    rw [h0] at e
    rw [e] at this
    simp at this
  · intro s hs i hi
    exact this.2 s hs i hi

end ExE2E

/-- every hypothesis of `end_to_end_recompute` holds for the example: validated
taxonomy, `FileOK`, the marker stage succeeds, two cells on two workers gathered
in reverse order -/
example : ∃ out0, Markers.stage Ex.f0.tree ExE2E.lk Ex.f0.colNames ExE2E.Q 1 none false
    = .ok out0 :=
  ListAux.exists_ok_of_toBool (by decide +kernel)

example (out0 : StageOut)
    (hstage : Markers.stage Ex.f0.tree ExE2E.lk Ex.f0.colNames ExE2E.Q 1 none false = .ok out0) :=
  end_to_end_recompute Ex.f0 ExE2E.lk ExE2E.Q ExE2E.rp { chunkSize := 1, nProc := 2 } [7, 3]
    [[3, 1, 2], [1, 3, 4]] [1, 0] (by decide +kernel) (by decide) (RawTree.dictOK_of_b (by decide))
    (by intro l0 h; cases h; decide) (fileOK_of_check _ (by decide +kernel)) (by decide)
    (by decide) (by decide) out0 hstage rfl rfl (fun _ _ V => stableTie_valid V)
    ExE2E.subsetsOK (by decide) rfl (by decide) (by decide) (by decide) (by decide) _
    (mapPipeline_plain_ok Ex.f0.tree _ _ _ _ _ rfl rfl (by decide +kernel)
      (electionVote_ok _ _ (fun _ _ V => stableTie_valid V)).1 rfl (by decide) (by decide)
      (by decide) (by decide))

/-- ... and the composed model, fed with the files, computes: the two query rows
are the centroids of leaves 30 and 31 written in the query's gene order (9, 7, 5
instead of 7, 5, 9); they are assigned 10/30 and 10/31 with probability 1 -/
example : ((mapPipeline Ex.f0.tree { chunkSize := 1, nProc := 2 }
      (electionVote (fileParams Ex.f0 ExE2E.lk ExE2E.Q ExE2E.rp)) [7, 3]
      [[3, 1, 2], [1, 3, 4]] [1, 0]).toOption.getD []).flatMap
    (fun r => r.levels.map (fun le =>
      ((r.cellId : Nat), (le.1 : Nat), (le.2.assignment : Nat), le.2.prob))) =
    [(7, 0, 10, 1), (7, 1, 30, 1), (3, 0, 10, 1), (3, 1, 31, 1)] := by decide +kernel

end CTM.C02
