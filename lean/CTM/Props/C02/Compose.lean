/-
  C02 × C01 — the election model composed with the level loop.

  The level-loop model's `mapPipeline` (chunking, workers, gather, `re_order_blob`,
  `backfill_assignments`) keeps the vote as an oracle; `Lemmas/Compose.lean`
  defines the INTERPRETED oracle `electionVote` (assemble the reference rows of
  the parent with `assembleRows`, restrict query and reference to the node's
  genes, tally over the drawn subsets, aggregate, `chooseCell` with the given tie
  order, write back).  Here: C02's last sentence for the composed model.
-/
import CTM.Lemmas.Compose
import CTM.Lemmas.ComposeWF

namespace CTM.C02
open CTM CTM.LevelLoop CTM.OutBridge CTM.Election CTM.Numeric CTM.Compose

/-- the interpreted oracle answers with a child of the parent and a well-formed
payload on ANY tree ("types ⊆ kids": the reference types `assemble_query_data`
records are children of the parent asked about) — the hypotheses `VoteOK`,
`PayloadOK` of every pipeline theorem of C01 / C06 / C15 / C17 hold for it -/
theorem interpreted_oracle (t : RawTree) (P : ElectionParams) (htie : TieOK P) :
    VoteOK t (electionVote P) ∧ PayloadOK (P.nAssign - 1) t (electionVote P) ∧
    ∀ kl : List (Node × List Node), ∀ a ∈ (nodeRows kl).2, a ∈ kl.map (·.1) :=
  ⟨(electionVote_ok t P htie).1, (electionVote_ok t P htie).2, nodeRows_types_sub⟩

/-- "Recomputing these quantities directly from the input files and the
subsets that were drawn reproduces the output" — for the WHOLE pipeline.
Stored tree `t0` well-formed, `t` the tree of the run (any `drop_level` /
`flatten`), any chunk size, worker count and gather order, any drawn subsets
and tie orders (`P`), no Python `raise` on the questions asked (`NoRaiseAll`).
Every record `o` of the output belongs to one cell (the `i`-th id with the
`i`-th expression vector `c`) and has a raw walk `raw` down the run's tree such
that
 * each step of the walk (`StepOK`), under the parent reached so far — the root
   or (previous level, previous assignment) — with the tree's children `kids`
   of that parent, is either the single-child constants or, for ≥ 2 children,
   exactly the node-level statement `NodeRecompute` (= `C02.recompute` and the
   model equations every node-level theorem of C02/C03 takes as hypotheses)
   instantiated at that cell and that parent: the assignment owns the largest
   number of arg-max iterations, the probability is that number over the
   iteration count, correlation and runners-up are `choose_node`'s;
 * at every directly assigned level `raw[k].1` the record holds exactly that
   assignment, probability and runner-up lists, the same correlation wherever
   the walk had one, `aggregate_probability` = the product of the probabilities
   down to that level, `directly_assigned = True`. -/
theorem pipeline_recompute (t0 t : RawTree) (cfg : Config) (P : ElectionParams)
    (ids : List CellId) (cells : List (List Rat)) (order : List Nat)
    (hwf0 : wfb t0 = true) (hrun : runTree t0 cfg = .ok t)
    (htie : TieOK P) (hnr : NoRaiseAll P t)
    (hlen : ids.length = cells.length) (hnd : ids.Nodup)
    (hproc : 1 ≤ cfg.nProc) (hcs : 1 ≤ cfg.chunkSize)
    (horder : order.Perm (List.range
      (chunks cells.length (effChunk cells.length cfg.nProc cfg.chunkSize)).length))
    (out : List Record)
    (hout : mapPipeline t0 cfg (electionVote P) ids cells order = .ok out) :
    ∀ o ∈ out, ∃ (i : Nat) (id : CellId) (c : List Rat) (raw : List (Level × Entry)),
      ids[i]? = some id ∧ cells[i]? = some c ∧ o.cellId = id ∧
      walkFrom t (electionVote P) c t.hierarchy none = .ok raw ∧
      raw.map (·.1) = t.hierarchy ∧
      Linked (StepOK P t c) none raw ∧
      ∀ (k : Nat) (hk : k < raw.length), ∃ e, o.levels.lookup raw[k].1 = some e ∧
        e.assignment = raw[k].2.assignment ∧ e.prob = raw[k].2.prob ∧
        (raw[k].2.ru.isSome = true → e.ru = raw[k].2.ru) ∧
        (∀ q, raw[k].2.corr = some q → e.corr = some q) ∧
        e.agg.getD 0 = ((raw.map (fun le => le.2.prob)).take (k + 1)).prod ∧
        e.direct.getD false = true := by
  have rt := runTree_reduces hwf0 hrun
  have hv := (electionVote_ok t P htie).1
  intro o ho
  obtain ⟨i, id, c, hi1, hi2, hc⟩ :=
    (mapPipeline_mem hrun rt.wf hv hlen hnd hproc hcs horder hout).2 o ho
  obtain ⟨raw, hid, h1, h2, hlev, _⟩ := cellResult_raw rt hv hc
  refine ⟨i, id, c, raw, hi1, hi2, hid, h1, h2, walk_stepOK P htie rt.wf hnr c raw h1,
    fun k hk => ?_⟩
  obtain ⟨e, he, ha, hp, hr, hc, hg, hd⟩ := hlev k hk
  exact ⟨e, he, ha, hp, fun _ => hr, fun q hq => by rw [hc, hq]; rfl, by rw [hg]; rfl,
    by rw [hd]; rfl⟩

example : exTree.validate = .ok () ∧ exTree.hierarchy.Nodup :=
  ⟨Bridge.exTree_accepted.1, by decide⟩

/-- non-vacuity: all hypotheses hold for the example taxonomy with the
parameters `exP` (three genes, query columns permuted w.r.t. the reference, two
iterations), two cells, two workers, chunks gathered in reverse order -/
example := pipeline_recompute exTree exTree { chunkSize := 1, nProc := 2 } exP [7, 3]
  [[2, 4, 1], [2, 9, 2]] [1, 0] exTree_wf rfl exP_tie exP_noRaise rfl (by decide) (by decide)
  (by decide) (by decide) _
  (exRun_ok exP exP_tie)

/-- ... and the composed model computes something non-trivial: cell 7 (the
centroid of leaf 30, written in the query's gene order) goes home with
probability 1; cell 3 splits its two votes between the children of node 10, the
tie order decides, the other child is the runner-up with probability 1/2 -/
example : ((mapPipeline exTree { chunkSize := 1, nProc := 2 } (electionVote exP) [7, 3]
      [[2, 4, 1], [2, 9, 2]] [1, 0]).toOption.getD []).flatMap
    (fun r => r.levels.map (fun le =>
      ((r.cellId : Nat), (le.1 : Nat), (le.2.assignment : Nat), le.2.prob,
        ((le.2.ru.map (·.1)).getD [] : List Nat)))) =
    [(7, 0, 10, 1, []), (7, 1, 20, 1, []), (7, 2, 30, 1, []),
     (3, 0, 10, 1, []), (3, 1, 20, 1 / 2, [21]), (3, 2, 30, 1, [])] := by decide +kernel

end CTM.C02
