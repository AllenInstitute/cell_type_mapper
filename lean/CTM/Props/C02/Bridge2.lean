/-
  C02 × C01 × C10 — the composed model (`Props/C02/Compose.lean`) with the tree
  validator's acceptance as the only hypothesis on the taxonomy.

  `pipeline_recompute` takes `wfb t0` (level loop's well-formedness of the
  stored tree) and `NoRaiseAll P t` for the tree `t` of the run.  Both follow
  from `t0.validate = .ok ()` (+ the modelling convention `DictOK t0`): `wfb t0`
  by `Bridge.wfb_of_validate`; the run tree (any `drop_level` / `flatten`) is
  accepted again (`Bridge.WF_runTree`), so `NoRaiseAll` reduces to the three
  conditions on the parameters (`Compose.noRaiseAll_of_validate`).
-/
import CTM.Props.C02.Compose

namespace CTM.C02
open CTM CTM.LevelLoop CTM.OutBridge CTM.Election CTM.Numeric CTM.Compose CTM.Bridge

example : NoRaiseAll exP exTree :=
  noRaiseAll_of_validate exP exTree_accepted.1 exP_iters exP_range (Nat.le_succ 1)

/-- "Recomputing these quantities directly from the input files and the subsets
that were drawn reproduces the output" — for the WHOLE pipeline, with the
validator's acceptance of the STORED taxonomy as the only tree hypothesis: any
`drop_level` / `flatten` whose run tree `t` exists, any chunk size, worker count
and gather order, any drawn subsets (non-empty list of iterations, indices into
the node's gene list) and tie orders. -/
theorem pipeline_recompute_of_validate (t0 t : RawTree) (cfg : Config) (P : ElectionParams)
    (ids : List CellId) (cells : List (List Rat)) (order : List Nat)
    (hval : t0.validate = .ok ()) (hd : RawTree.DictOK t0) (hrun : runTree t0 cfg = .ok t)
    (htie : TieOK P)
    (hiters : ∀ p x, P.subsets p x ≠ [])
    (hrange : ∀ p x, ∀ s ∈ P.subsets p x, ∀ i ∈ s,
      i < (P.qcols p).length ∧ i < (P.rcols p).length)
    (hA : 1 ≤ P.nAssign)
    (hlen : ids.length = cells.length) (hnd : ids.Nodup)
    (hproc : 1 ≤ cfg.nProc) (hcs : 1 ≤ cfg.chunkSize)
    (horder : order.Perm (List.range
      (chunks cells.length (effChunk cells.length cfg.nProc cfg.chunkSize)).length))
    (out : List Record)
    (hout : mapPipeline t0 cfg (electionVote P) ids cells order = .ok out) :
    ∀ o ∈ out, ∃ (i : Nat) (id : CellId) (c : List Rat) (raw : List (Level × Entry)),
      ids[i]? = some id ∧ cells[i]? = some c ∧ o.cellId = id ∧
      walkFrom t (electionVote P) c t.hierarchy none = .ok raw ∧
      raw.map (·.1) = t.hierarchy ∧
      Linked (StepOK P t c) none raw ∧
      ∀ (k : Nat) (hk : k < raw.length), ∃ e, o.levels.lookup raw[k].1 = some e ∧
        e.assignment = raw[k].2.assignment ∧ e.prob = raw[k].2.prob ∧
        (raw[k].2.ru.isSome = true → e.ru = raw[k].2.ru) ∧
        (∀ q, raw[k].2.corr = some q → e.corr = some q) ∧
        e.agg.getD 0 = ((raw.map (fun le => le.2.prob)).take (k + 1)).prod ∧
        e.direct.getD false = true :=
  pipeline_recompute t0 t cfg P ids cells order (wfb_of_validate hval hd) hrun htie
    (noRaiseAll_of_validate P (WF_runTree (RawTree.WF.of_validate hval hd) hrun).valid hiters hrange hA)
    hlen hnd hproc hcs horder out hout

/-- non-vacuity: the example taxonomy (accepted by the validator), the
parameters `exP`, two cells, two workers, chunks gathered in reverse order -/
example := pipeline_recompute_of_validate exTree exTree { chunkSize := 1, nProc := 2 } exP [7, 3]
  [[2, 4, 1], [2, 9, 2]] [1, 0] exTree_accepted.1 exTree_accepted.2 rfl exP_tie exP_iters
  exP_range (Nat.le_succ 1) rfl (by decide) (by decide) (by decide) (by decide) _
  (exRun_ok exP exP_tie)

end CTM.C02
