/-
  C11, composed clauses:

  (a) "the pair-major and gene-major tables are exact transposes"
  (b) "neither route's output depends on worker count or memory budget"

  proved here by composing the reference-marker model with the sparse
  model (`C13.transpose_correct`, `transposeV2_eq`: the on-disk transposition, serial
  or parallel, any budget, with or without a value array, is the transpose) and
  the process model (`C04.sorted_keys_exact`: per-chunk files keyed by
  their first index and merged in sorted key order give the dispatch-order
  sequence for every completion order).  Definitions and adapter lemmas:
  `CTM/Lemmas/RefMarkersCompose.lean`.

  Reading guide: a pair-major table is `lookupToSparse rows` (`rows[i]` = the
  gene indices recorded for pair `i`, as `np.where` lists them); `toMat` views it
  as the sparse model's `Mat Unit` (`data_tag = None`); `byGeneTable nProc nGenes B` is
  `add_sparse_by_gene_markers_to_file` for one direction; `geneRow out g` is row
  `g` of the gene-major table; `pairsOfGene rows g` = the pairs whose row
  contains `g`, ascending.  `tableJobs` / `maskJobs` = the worker files in
  dispatch order, keyed by `col0` / `min_row`; `done` = the same files in the
  order the workers completed.
-/
import CTM.Props.C11
import CTM.Lemmas.RefMarkersCompose

namespace CTM.C11
open CTM.Holm CTM.RefMarkers CTM.Sparse CTM.Chunking CTM.Procs

/-! ### (a) the gene-major table is the exact transpose -/

/-- "the pair-major and gene-major tables are exact transposes": for a pair-major
table whose rows are strictly increasing gene lists below `nGenes` (what
`np.where` produces), for **every worker count** `nProc ≥ 1` (serial code path for
1, `transpose_sparse_matrix_on_disk_v2` otherwise) and **every budget** with
chunk sizes `≥ 1`, the gene-major table is written without error and
* its pointer array has `nGenes + 1` entries, starts at 0, is non-decreasing and
  ends at the number of recorded (pair, gene) incidences (`WFptr`), which is also
  the length of its index array;
* row `g` lists exactly the pairs `i` with `g ∈ rows[i]` — the same incidences —
* in strictly increasing order (sorted and unique). -/
theorem by_gene_is_transpose (rows : List (List Nat)) (nGenes nProc : Nat) (B : Budget)
    (hg : 1 ≤ nGenes) (hp : 1 ≤ nProc) (hlo : 1 ≤ B.lo) (hc : 1 ≤ B.loCount)
    (hr : ∀ r ∈ rows, ∀ g ∈ r, g < nGenes) (hn : ∀ r ∈ rows, r.Pairwise (· < ·)) :
    ∃ out, byGeneTable nProc nGenes B (lookupToSparse rows) = .ok out ∧
      WFptr out.indptr nGenes rows.flatten.length ∧
      out.indices.length = rows.flatten.length ∧
      (∀ g, g < nGenes →
        (∀ i, i ∈ geneRow out g ↔ ∃ h : i < rows.length, g ∈ rows[i]) ∧
        (geneRow out g).Pairwise (· < ·)) := by
  obtain ⟨out, e, w, l, hrow⟩ := byGeneTable_lookupToSparse rows nGenes nProc B hg hp hlo hc hr hn
  refine ⟨out, e, w, l, ?_⟩
  intro g hg'
  rw [hrow g hg']
  exact ⟨fun i => mem_pairsOfGene, pairsOfGene_sorted rows g⟩

/-- non-vacuity (test on a sample): 3 pairs × 3 genes, serial and with 2 workers -/
example : byGeneTable 1 3 ⟨1, 1, 1⟩ (lookupToSparse [[0, 2], [1], [0, 2]])
      = .ok ⟨[0, 2, 3, 5], [0, 2, 1, 0, 2], [(), (), (), (), ()]⟩ ∧
    byGeneTable 2 3 ⟨2, 3, 1⟩ (lookupToSparse [[0, 2], [1], [0, 2]])
      = .ok ⟨[0, 2, 3, 5], [0, 2, 1, 0, 2], [(), (), (), (), ()]⟩ ∧
    pairsOfGene [[0, 2], [1], [0, 2]] 2 = [0, 2] := by decide +kernel

/-- the budget: whatever `max_gb` (the three floats `0.8*max_gb`, a third of
it, the rest) and whatever the dtypes of the arrays, the chunk sizes the
transposition derives are `≥ 100`, so the theorem above applies: the gene-major
table does not depend on `max_gb`, nor on the worker count. -/
theorem by_gene_any_max_gb (rows : List (List Nat)) (nGenes : Nat)
    (hg : 1 ≤ nGenes)
    (hr : ∀ r ∈ rows, ∀ g ∈ r, g < nGenes) (hn : ∀ r ∈ rows, r.Pairwise (· < ·))
    (nProc nProc' : Nat) (hp : 1 ≤ nProc) (hp' : 1 ≤ nProc')
    (countGb loadGb elGb countGb' loadGb' elGb' : Rat) (db ib xb db' ib' xb' : Nat) :
    byGeneTable nProc nGenes (Budget.of countGb loadGb elGb db ib xb) (lookupToSparse rows)
      = byGeneTable nProc' nGenes (Budget.of countGb' loadGb' elGb' db' ib' xb')
          (lookupToSparse rows) ∧
    ∃ out, byGeneTable nProc nGenes (Budget.of countGb loadGb elGb db ib xb) (lookupToSparse rows)
      = .ok out ∧ ∀ g, g < nGenes → geneRow out g = pairsOfGene rows g := by
  -- the chunk sizes are at least 100, whatever `max_gb`
  obtain ⟨f1, f2, _⟩ := CTM.C13.budget_floor countGb loadGb elGb db ib xb
  obtain ⟨f1', f2', _⟩ := CTM.C13.budget_floor countGb' loadGb' elGb' db' ib' xb'
  have h100 : 1 ≤ 100 := by decide
  have c := h100.trans f1
  have l := h100.trans f2
  have hM := lookupToSparse_indices_lt hr
  constructor
  · -- both sides are the serial transposition under the first budget
    rw [byGeneTable_eq_serial _ nGenes nProc _ (Budget.of countGb loadGb elGb db ib xb) hg hp
        l c l c hM,
      byGeneTable_eq_serial _ nGenes nProc' _ (Budget.of countGb loadGb elGb db ib xb) hg hp'
        (h100.trans f2') (h100.trans f1') l c hM]
  · obtain ⟨out, e, _, _, hrow⟩ := byGeneTable_lookupToSparse rows nGenes nProc
      (Budget.of countGb loadGb elGb db ib xb) hg hp l c hr hn
    exact ⟨out, e, hrow⟩

example : (Budget.of 0 0 0 1 8 8).lo = 100 := by decide +kernel

/-- `by_gene_is_transpose` for the up and the down table of a whole taxonomy: `outs[i]` is the
validity / direction of pair `i` (`score_differential_genes` or the mask route);
both gene-major tables are written, their rows list exactly the pairs for which
the gene is recorded up (down), and "no gene both up and down for a pair"
transfers to the gene-major tables. -/
theorem by_gene_no_both (outs : List Out) (nGenes nProc : Nat) (B : Budget)
    (hg : 1 ≤ nGenes) (hp : 1 ≤ nProc) (hlo : 1 ≤ B.lo) (hc : 1 ≤ B.loCount)
    (hlen : ∀ o ∈ outs, o.valid.length ≤ nGenes) :
    ∃ gU gD,
      byGeneTable nProc nGenes B (lookupToSparse (outs.map (fun o => (upDown o).1))) = .ok gU ∧
      byGeneTable nProc nGenes B (lookupToSparse (outs.map (fun o => (upDown o).2))) = .ok gD ∧
      ∀ g, g < nGenes → ∀ i,
        (i ∈ geneRow gU g ↔ ∃ h : i < outs.length, g ∈ (upDown outs[i]).1) ∧
        (i ∈ geneRow gD g ↔ ∃ h : i < outs.length, g ∈ (upDown outs[i]).2) ∧
        ¬ (i ∈ geneRow gU g ∧ i ∈ geneRow gD g) := by
  -- the lists `np.where` produces are strictly increasing and hold valid genes only
  have hlt : ∀ o ∈ outs, ∀ g, g ∈ (upDown o).1 ∨ g ∈ (upDown o).2 → g < nGenes := fun o ho g hg =>
    Nat.lt_of_lt_of_le (List.getElem?_eq_some_iff.mp (upDown_valid o g hg)).1 (hlen o ho)
  obtain ⟨gU, eU, _, _, rU⟩ := by_gene_is_transpose (outs.map fun o => (upDown o).1) nGenes nProc B
    hg hp hlo hc
    (by intro r hr g hgr; obtain ⟨o, ho, rfl⟩ := List.mem_map.mp hr; exact hlt o ho g (.inl hgr))
    (by intro r hr; obtain ⟨o, _, rfl⟩ := List.mem_map.mp hr; exact whereTrue_sorted _)
  obtain ⟨gD, eD, _, _, rD⟩ := by_gene_is_transpose (outs.map fun o => (upDown o).2) nGenes nProc B
    hg hp hlo hc
    (by intro r hr g hgr; obtain ⟨o, ho, rfl⟩ := List.mem_map.mp hr; exact hlt o ho g (.inr hgr))
    (by intro r hr; obtain ⟨o, _, rfl⟩ := List.mem_map.mp hr; exact whereTrue_sorted _)
  refine ⟨gU, gD, eU, eD, ?_⟩
  intro g hg' i
  have a := (rU g hg').1 i
  have b := (rD g hg').1 i
  simp only [List.length_map, List.getElem_map] at a b
  refine ⟨a, b, ?_⟩
  rintro ⟨h1, h2⟩
  obtain ⟨hi, m1⟩ := a.mp h1
  obtain ⟨_, m2⟩ := b.mp h2
  exact (no_both outs[i] g).1 ⟨m1, m2⟩

/-- "its direction is the sign of the difference of means" transfers to the
gene-major tables: if pair `i` was scored by `score_differential_genes` and
gene `g` is valid for it, pair `i` is listed in row `g` of the *up* gene-major
table iff `mean2 > mean1`, and in row `g` of the *down* table otherwise. -/
theorem by_gene_direction (outs : List Out) (nGenes nProc : Nat) (B : Budget)
    (hg : 1 ≤ nGenes) (hp : 1 ≤ nProc) (hlo : 1 ≤ B.lo) (hc : 1 ≤ B.loCount)
    (hlen : ∀ o ∈ outs, o.valid.length ≤ nGenes) (gU gD : Mat Unit)
    (eU : byGeneTable nProc nGenes B (lookupToSparse (outs.map (fun o => (upDown o).1))) = .ok gU)
    (eD : byGeneTable nProc nGenes B (lookupToSparse (outs.map (fun o => (upDown o).2))) = .ok gD)
    (i : Nat) (hi : i < outs.length)
    (pOrder : List Nat) (c : Config) (n1 n2 : Nat) (praw : List Rat) (gs : List GeneScore)
    (mean1 mean2 : List Rat)
    (hscore : scoreCoreWith pOrder c n1 n2 praw gs mean1 mean2 = .ok outs[i])
    (g : Nat) (hgn : g < nGenes) (a b : Rat) (ha : mean1[g]? = some a) (hb : mean2[g]? = some b)
    (hv : outs[i].valid[g]? = some true) :
    (i ∈ geneRow gU g ↔ a < b) ∧ (i ∈ geneRow gD g ↔ ¬ a < b) := by
  obtain ⟨gU', gD', eU', eD', h⟩ := by_gene_no_both outs nGenes nProc B hg hp hlo hc hlen
  rw [eU] at eU'; rw [eD] at eD'
  cases eU'; cases eD'
  obtain ⟨hu, hd, _⟩ := h g hgn i
  obtain ⟨d1, d2⟩ := direction pOrder c n1 n2 praw gs mean1 mean2 outs[i] hscore g a b ha hb hv
  constructor
  · rw [hu, ← d1]
    exact ⟨fun ⟨_, m⟩ => m, fun m => ⟨hi, m⟩⟩
  · rw [hd, ← d2]
    exact ⟨fun ⟨_, m⟩ => m, fun m => ⟨hi, m⟩⟩

/-! ### (b) worker count, chunk size, completion order -/

/-- "neither route's output depends on worker count or memory budget", pair-major
tables of **both routes** (they share `_write_to_tmp_file`, the dict
`tmp_path_dict[col0]` and `_merge_sparse_by_pair_files`): the workers' files are
keyed by the first pair index of their chunk, the dict is filled in completion
order, the merge visits `sorted(keys)` (integers).  For every chunk size
`n_per ≥ 1` — whatever `n_processors`, `max_gb`, the number of genes made of it —
and **every completion order** `done` of the worker files, the merged table is the
table of all pairs built in one piece; so any two settings and any two completion
orders give the same table. -/
theorem route_worker_indep {α} (row : α → List Nat) (pairs : List α) (nPer nPer' : Nat)
    (h : 1 ≤ nPer) (h' : 1 ≤ nPer')
    (done done' : List (Nat × (List Nat × List Nat)))
    (hd : done.Perm (tableJobs row nPer pairs)) (hd' : done'.Perm (tableJobs row nPer' pairs)) :
    mergeTables done = some (lookupToSparse (pairs.map row)) ∧
    mergeTables done = mergeTables done' := by
  have e := mergeTables_exact row nPer h pairs done hd
  have e' := mergeTables_exact row nPer' h' pairs done' hd'
  exact ⟨e, e.trans e'.symm⟩

/-- … in particular for the chunk size of `create_sparse_by_pair_marker_file`,
for any two worker counts. -/
theorem route_worker_indep_main {α} (row : α → List Nat) (pairs : List α) (nProc nProc' : Nat)
    (done done' : List (Nat × (List Nat × List Nat)))
    (hd : done.Perm (tableJobs row (nPerMain pairs.length nProc) pairs))
    (hd' : done'.Perm (tableJobs row (nPerMain pairs.length nProc') pairs)) :
    mergeTables done = mergeTables done' :=
  (route_worker_indep row pairs _ _
    (by have := (nPer_multiple_of_8 pairs.length nProc).2; omega)
    (by have := (nPer_multiple_of_8 pairs.length nProc').2; omega) done done' hd hd').2

/-- non-vacuity (test on a sample): 5 pairs, chunks of 2, files completed in the
order 4, 0, 2 -/
example : tableJobs id 2 [[1, 2], [], [3], [4, 5, 6], [7]]
      = [(0, ([0, 2, 2], [1, 2])), (2, ([0, 1, 4], [3, 4, 5, 6])), (4, ([0, 1], [7]))] ∧
    mergeTables [(4, ([0, 1], [7])), (0, ([0, 2, 2], [1, 2])), (2, ([0, 1, 4], [3, 4, 5, 6]))]
      = some ([0, 2, 2, 3, 6, 7], [1, 2, 3, 4, 5, 6, 7]) := by decide +kernel

/-- the whole main / mask route for one direction, end to end: chunk size,
completion order of the marker workers, worker count and budget of the
transposition — none of them changes the gene-major table, which is the exact
transpose of the table of all pairs. -/
theorem route_end_to_end {α} (row : α → List Nat) (pairs : List α) (nGenes : Nat)
    (hg : 1 ≤ nGenes)
    (hr : ∀ p ∈ pairs, ∀ g ∈ row p, g < nGenes) (hn : ∀ p ∈ pairs, (row p).Pairwise (· < ·))
    (nPer nProc : Nat) (B : Budget) (h : 1 ≤ nPer) (hp : 1 ≤ nProc) (hlo : 1 ≤ B.lo)
    (hc : 1 ≤ B.loCount)
    (done : List (Nat × (List Nat × List Nat))) (hd : done.Perm (tableJobs row nPer pairs)) :
    ∃ out, (mergeTables done).map (byGeneTable nProc nGenes B) = some (.ok out) ∧
      ∀ g, g < nGenes → geneRow out g = pairsOfGene (pairs.map row) g := by
  rw [mergeTables_exact row nPer h pairs done hd]
  obtain ⟨out, e, _, _, hrow⟩ := byGeneTable_lookupToSparse (pairs.map row) nGenes nProc B hg hp
    hlo hc
    (by intro r hr' g hgr; obtain ⟨p, hp', rfl⟩ := List.mem_map.mp hr'; exact hr p hp' g hgr)
    (by intro r hr'; obtain ⟨p, hp', rfl⟩ := List.mem_map.mp hr'; exact hn p hp')
  exact ⟨out, by rw [Option.map_some, e], hrow⟩

/-- the **p-value mask file** likewise: every `_p_values_worker` writes the CSR
arrays of its block of rows, `_merge_masks` files them under
`idx_to_path[min_row]` and visits `sorted(keys)` — the **numeric** first row.
For every chunk size `n_per ≥ 1` and every completion order the merged file is
the canonical CSR matrix of all rows (pointer array = prefix sums of the row
lengths, indices and distances concatenated in pair order). -/
theorem mask_file_worker_indep {β} (rows : List (List (Nat × β))) (nPer nPer' : Nat)
    (h : 1 ≤ nPer) (h' : 1 ≤ nPer') (done done' : List (Nat × Mat β))
    (hd : done.Perm (maskJobs nPer rows)) (hd' : done'.Perm (maskJobs nPer' rows)) :
    mergeMasks done = some (ofSegs (rows.map maskSeg)) ∧ mergeMasks done = mergeMasks done' := by
  have e := mergeMasks_exact nPer h rows done hd
  have e' := mergeMasks_exact nPer' h' rows done' hd'
  exact ⟨e, e.trans e'.symm⟩

example : maskJobs 2 [[(1, 5), (2, 6)], [], [(0, 7)]]
      = [(0, ⟨[0, 2, 2], [1, 2], [5, 6]⟩), (2, ⟨[0, 1], [0], [7]⟩)] ∧
    mergeMasks [(2, (⟨[0, 1], [0], [7]⟩ : Mat Nat)), (0, ⟨[0, 2, 2], [1, 2], [5, 6]⟩)]
      = some ⟨[0, 2, 2, 3], [1, 2, 0], [5, 6, 7]⟩ := by decide +kernel

/-- the order of the keys matters: the merge in key order `keyOrder` is the join of the files in
that order.  Sorting the keys
*as strings* (what sorting the scratch file names `columns_8_16_…`,
`columns_16_24_…`, `columns_104_112_…` does) puts 104 before 16 before 8: -/
example : lexSortKeys [8, 16, 104] = [104, 16, 8] ∧ sortKeys [8, 16, 104] = [8, 16, 104] := by
  decide +kernel

/-- … and the file merged in that order is a different (wrong) file: the three
one-row worker files with first rows 8, 16, 104 (test on a sample). -/
example :
    let done : List (Nat × Mat Nat) :=
      [(8, ⟨[0, 1], [3], [30]⟩), (16, ⟨[0, 2], [1, 4], [10, 40]⟩), (104, ⟨[0, 1], [2], [20]⟩)]
    mergeMasks done = some ⟨[0, 1, 3, 4], [3, 1, 4, 2], [30, 10, 40, 20]⟩ ∧
    mergeMasksBy lexSortKeys done = some ⟨[0, 1, 3, 4], [2, 1, 4, 3], [20, 10, 40, 30]⟩ ∧
    mergeMasksBy lexSortKeys done ≠ mergeMasks done ∧
    mergeTablesBy lexSortKeys [(8, ([0, 1], [3])), (16, ([0, 2], [1, 4])), (104, ([0, 1], [2]))]
      ≠ mergeTables [(8, ([0, 1], [3])), (16, ([0, 2], [1, 4])), (104, ([0, 1], [2]))] := by
  decide +kernel

/-- stated as a theorem: under the string order of the keys 8, 16, 104 the conclusion of
`mask_file_worker_indep` fails. -/
theorem lexicographic_key_order_breaks_merge :
    ∃ (rows : List (List (Nat × Nat))) (done : List (Nat × Mat Nat)),
      (done.map (·.1)).Pairwise (· < ·) ∧
      mergeMasks done = some (ofSegs (rows.map maskSeg)) ∧
      mergeMasksBy lexSortKeys done ≠ some (ofSegs (rows.map maskSeg)) :=
  ⟨[[(3, 30)], [(1, 10), (4, 40)], [(2, 20)]],
   [(8, ⟨[0, 1], [3], [30]⟩), (16, ⟨[0, 2], [1, 4], [10, 40]⟩), (104, ⟨[0, 1], [2], [20]⟩)],
   by decide +kernel, by decide +kernel, by decide +kernel⟩

end CTM.C11
