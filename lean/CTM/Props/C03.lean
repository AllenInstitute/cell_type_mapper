/-
  C03 — confidence fields obey the documented arithmetic contract.

  Theorems about the executable model (CTM/Model/Election.lean) for ALL
  inputs, one cell; helper lemmas in CTM/Lemmas/Election.lean (`choose_node`,
  `backfill_assignments`), CTM/Lemmas/PostLoops.lean (the two post-loops) and
  CTM/Lemmas/Numeric.lean (`corrSsq`); the tie to /repo is harness/props/c03.py.
  For every record of the composed pipeline: Props/C03/Compose.lean
  (`pipeline_contract`), Bridge.lean and Bridge2.lean.

  Shared hypotheses, and where they come from:
   * `ValidOrder (columns types votes corr).1 order` — `order` is SOME result
     numpy's argsort (reversed) may return for the vote column `choose_node`
     works on: the theorems hold for every tie order;
   * `votes.length = types.length` — one vote-array column per reference row;
   * `votes.sum = iters` — every iteration casts exactly one vote
     (`C02.tally_counts`, third clause; for votes that come from `tallyVotes`,
     `Election.tallyVotes_sum`).
-/
import CTM.Lemmas.Election
import CTM.Lemmas.PostLoops

namespace CTM.C03
open CTM.Numeric CTM.Election

/-- "the bootstrapping probability is a whole number of votes out of the
    iteration count and lies in (0,1]" -/
theorem prob_whole (types votes : List Nat) (corr : List Rat) (iters nAssign : Nat)
    (order : List Nat) (ch : Choice)
    (hlen : votes.length = types.length) (hsum : votes.sum = iters)
    (hv : ValidOrder (columns types votes corr).1 order)
    (h : chooseCell types votes corr iters nAssign order = .ok ch) :
    ∃ k : Nat, ch.prob * (iters : Rat) = (k : Rat) ∧ 1 ≤ k ∧ k ≤ iters ∧
      0 < ch.prob ∧ ch.prob ≤ 1 :=
  chooseCols_prob_whole hv h (by rw [columns_sum types votes corr hlen, hsum])

example : (chooseCell [7, 5, 7] [2, 0, 1] [3 / 2, 0, 1 / 4] 3 3 [1, 0]).toOption.map (·.prob) =
    some 1 := by decide +kernel

/-- "the runner-up lists have equal length not exceeding the requested number,
    name distinct siblings of the winner under the same parent, carry strictly
    positive probabilities in non-increasing order none larger than the
    winner's" (`types` lists the children of the parent, one entry per leaf
    below it; the requested number is `nAssign - 1`) -/
theorem runners (types votes : List Nat) (corr : List Rat) (iters nAssign : Nat)
    (order : List Nat) (ch : Choice)
    (hlen : votes.length = types.length)
    (hv : ValidOrder (columns types votes corr).1 order)
    (h : chooseCell types votes corr iters nAssign order = .ok ch) :
    (keepRunners ch.runners).1.length = (keepRunners ch.runners).2.1.length ∧
    (keepRunners ch.runners).2.1.length = (keepRunners ch.runners).2.2.length ∧
    (keepRunners ch.runners).1.length ≤ nAssign - 1 ∧
    (keepRunners ch.runners).1.Nodup ∧ ch.winner ∉ (keepRunners ch.runners).1 ∧
    (∀ a ∈ (keepRunners ch.runners).1, a ∈ types) ∧
    (∀ p ∈ (keepRunners ch.runners).2.2, 0 < p ∧ p ≤ ch.prob) ∧
    (keepRunners ch.runners).2.2.Pairwise (· ≥ ·) := by
  obtain ⟨h1, h2, h3, h4, h5, h6, h7, h8⟩ := chooseCols_runners hv h
    (columns_types_nodup types votes corr) (columns_length types votes corr hlen)
  exact ⟨h1, h2, h3, h4, h5, fun a ha => (columns_types_mem types votes corr a).1 (h6 a ha),
    h7, h8⟩

/-- the shared hypotheses are satisfiable together -/
example : ValidOrder (columns [7, 5, 9] [2, 3, 1] [1, 2, 1 / 2]).1 [1, 0, 2] ∧
    [2, 3, 1].length = [7, 5, 9].length ∧ [2, 3, 1].sum = 6 := by decide +kernel

example : (chooseCell [7, 5, 9] [2, 3, 1] [1, 2, 1 / 2] 6 3 [1, 0, 2]).toOption.map
    (fun c => keepRunners c.runners) = some ([7, 9], [1 / 2, 1 / 2], [1 / 3, 1 / 6]) := by decide +kernel

/-- "winner plus runners-up sum to at most 1 (exactly 1 when all siblings could
    be listed)" — a statement about vote counts over the iteration count, not
    about float addition. -/
theorem sum_le_one (types votes : List Nat) (corr : List Rat) (iters nAssign : Nat)
    (order : List Nat) (ch : Choice)
    (hlen : votes.length = types.length) (hsum : votes.sum = iters)
    (hv : ValidOrder (columns types votes corr).1 order)
    (h : chooseCell types votes corr iters nAssign order = .ok ch) :
    ch.prob + (keepRunners ch.runners).2.2.sum ≤ 1 ∧
    ((columns types votes corr).2.2.length ≤ nAssign →
      ch.prob + (keepRunners ch.runners).2.2.sum = 1) := by
  have := chooseCols_prob_sum hv h (by rw [columns_sum types votes corr hlen, hsum])
  rw [columns_length types votes corr hlen]
  exact this

example : (chooseCell [7, 5, 9] [2, 3, 1] [1, 2, 1 / 2] 6 3 [1, 0, 2]).toOption.map
    (fun c => c.prob + (keepRunners c.runners).2.2.sum) = some 1 := by decide +kernel

/-- "Correlations lie in [-1,1]", part 1: the Pearson correlation of any two
    rows.  `corrSsq` is its signed square `sign(r) r^2` (Cauchy–Schwarz on
    `Rat`); any `r` whose signed square it is — the correlation itself — lies in
    [-1, 1]. -/
theorem corr_range (m x : List Rat) :
    -1 ≤ corrSsq m x ∧ corrSsq m x ≤ 1 ∧
    ∀ r : Rat, r * |r| = corrSsq m x → -1 ≤ r ∧ r ≤ 1 :=
  ⟨neg_one_le_corrSsq m x, corrSsq_le_one m x,
   fun r hr => signed_root_range r _ hr (neg_one_le_corrSsq m x) (corrSsq_le_one m x)⟩

example : corrSsq [1, 2, 4] [1, 2, 5] = 361 / 364 := by decide +kernel

/-- "Correlations lie in [-1,1]", part 2: the reported average correlations.
    If every per-iteration winning correlation lies in [-1,1], so does the
    average correlation of the winner and of every runner-up, for the tally of
    any rows, any leaf -> child map and any tie order. -/
theorem avg_corr_range (types : List Nat) (n : Nat) (rows : List (Nat × Rat))
    (hrows : ∀ r ∈ rows, |r.2| ≤ 1) (iters nAssign : Nat) (order : List Nat) (ch : Choice)
    (h : chooseCell types (tallyCell n rows).1 (tallyCell n rows).2 iters nAssign order = .ok ch) :
    |ch.avgCorr| ≤ 1 ∧ (∀ r ∈ ch.runners, |r.avgCorr| ≤ 1) ∧
    ∀ c ∈ (keepRunners ch.runners).2.1, |c| ≤ 1 := by
  have hb := columns_corr_bound types _ _ (tallyCell_corr_bound n rows hrows)
  obtain ⟨h1, h2⟩ := chooseCols_corr_range h hb
  refine ⟨h1, h2, fun c hc => ?_⟩
  obtain ⟨r, hr, rfl⟩ := mem_keepRunners_corr hc
  exact h2 r hr

example : (chooseCell [7, 5] (tallyCell 2 [(0, 1), (1, -1), (0, 1 / 2)]).1
    (tallyCell 2 [(0, 1), (1, -1), (0, 1 / 2)]).2 3 2 [0, 1]).toOption.map (·.avgCorr) =
    some (3 / 4) := by decide +kernel

/-- "the aggregate probability is the running product of the bootstrapping
    probabilities of the directly assigned levels from the top"; the other
    fields of a level are what the level loop recorded, and the correlation is
    the level's own if a choice was made there, else that of the nearest level
    above where one was made, else that of the nearest level below, else null
    (a chain with no choice anywhere). -/
theorem finished_level (recs : List LevelRec) (k : Nat) (hk : k < recs.length) :
    (finishCell recs).length = recs.length ∧
    (finishCell recs)[k]? = some
      { assignment := recs[k].assignment, prob := recs[k].prob,
        avgCorr := ((recs[k].avgCorr.or (corrAbove recs k)).or (corrBelow recs k)),
        aggregate := ((recs.map (·.prob)).take (k + 1)).prod,
        runners := some (recs[k].runnerAssignment, recs[k].runnerCorrelation,
          recs[k].runnerProbability),
        directlyAssigned := true } :=
  ⟨finishCell_length recs, finishCell_getElem? recs k hk⟩

/-- the aggregate probability alone, as a list -/
theorem aggregate (recs : List LevelRec) :
    (finishCell recs).map (·.aggregate) = runningProduct 1 (recs.map (·.prob)) := by
  rw [finishCell, fillUp_prob, fillDown_prob, List.map_map]
  exact List.map_snd_zip
    (by rw [fillUp_length, fillDown_length, runningProduct_length, List.length_map])

example : (finishCell [⟨1, 1 / 2, some (1 / 3), [], [], []⟩, ⟨2, 1, none, [], [], []⟩,
    ⟨3, 1 / 4, some (1 / 5), [4], [1 / 6], [1 / 4]⟩]).map (fun r => (r.aggregate, r.avgCorr)) =
    [(1 / 2, some (1 / 3)), (1 / 2, some (1 / 3)), (1 / 8, some (1 / 5))] := by decide +kernel

/-- "a parent with a single child yields probability 1 with no runners-up and
    the correlation of the nearest level where a real choice was made": the
    level loop records (prob 1, correlation null, no runners-up) at such a level;
    after the post-loops the level still has probability 1 and no runners-up, and
    its correlation is that of the nearest voted level above, or — when no level
    above voted (single-node top levels) — of the nearest voted level below. -/
theorem single_child (recs : List LevelRec) (k : Nat) (hk : k < recs.length)
    (hp : recs[k].prob = 1) (hc : recs[k].avgCorr = none)
    (hr : recs[k].runnerAssignment = [] ∧ recs[k].runnerCorrelation = [] ∧
      recs[k].runnerProbability = []) :
    ∃ o, (finishCell recs)[k]? = some o ∧ o.prob = 1 ∧ o.runners = some ([], [], []) ∧
      o.avgCorr = (corrAbove recs k).or (corrBelow recs k) ∧
      (∀ c, corrAbove recs k = some c → o.avgCorr = some c) ∧
      (corrAbove recs k = none → o.avgCorr = corrBelow recs k) := by
  refine ⟨_, finishCell_getElem? recs k hk, hp, ?_, ?_, ?_, ?_⟩
  · simp only [hr.1, hr.2.1, hr.2.2]
  · simp only [hc, Option.none_or]
  · intro c h; simp only [hc, Option.none_or, h, Option.some_or]
  · intro h; simp only [hc, Option.none_or, h]

example : (finishCell [⟨1, 1, none, [], [], []⟩, ⟨2, 1, none, [], [], []⟩,
    ⟨3, 1 / 4, some (1 / 5), [], [], []⟩, ⟨4, 1, none, [], [], []⟩]).map (·.avgCorr) =
    [some (1 / 5), some (1 / 5), some (1 / 5), some (1 / 5)] := by decide +kernel

/-- a taxonomy with no choice anywhere legitimately has a null correlation at
    every level -/
theorem pure_chain (recs : List LevelRec) (h : ∀ r ∈ recs, r.avgCorr = none) :
    ∀ o ∈ finishCell recs, o.avgCorr = none := by
  intro o ho
  obtain ⟨k, hk, rfl⟩ := List.mem_iff_getElem.1 ho
  have hk' : k < recs.length := finishCell_length recs ▸ hk
  have hget := finishCell_getElem? recs k hk'
  rw [List.getElem?_eq_getElem hk] at hget
  rw [Option.some.inj hget]
  simp only [h _ (List.getElem_mem hk'), corrAbove_eq_none h, corrBelow_eq_none h, Option.or_none]

example : (finishCell [⟨1, 1, none, [], [], []⟩, ⟨2, 1, none, [], [], []⟩]).map (·.avgCorr) =
    [none, none] := by decide +kernel

/-- "inferred levels repeat the numbers of the voted descendant without
    runner-up fields": after `backfill_assignments`, every level that was present
    keeps its record, and every level that was added carries the record of the
    level directly below it (`(cl, l)` is a (child level, parent level) pair of
    the hierarchy) with the parent's name, `runner_up_*` removed and
    `directly_assigned = False`.  This is one step; repeated down the hierarchy it
    gives the numbers of the nearest voted descendant (not stated here). -/
theorem inferred (parentOf : Nat → Nat → Option Nat) (hier : List Nat) (cell cell' : Cell)
    (h : inferLevels parentOf hier cell = .ok cell') :
    (∀ l r, cell.lookup l = some r → cell'.lookup l = some r) ∧
    (∀ e ∈ cell', e ∈ cell ∨ ∃ cl c p, (cl, e.1) ∈ bottomUpPairs hier ∧
      cell'.lookup cl = some c ∧ parentOf cl c.assignment = some p ∧
      e.2 = { c with assignment := p, runners := none, directlyAssigned := false }) :=
  foldlM_inferStep_spec parentOf (bottomUpPairs hier) cell cell' h

example : (inferLevels (fun _ c => some (c + 10)) [0, 1, 2]
    [(2, ⟨5, 1 / 2, some (1 / 3), 1 / 4, some ([6], [1], [1 / 2]), true⟩)]).toOption =
    some [(2, ⟨5, 1 / 2, some (1 / 3), 1 / 4, some ([6], [1], [1 / 2]), true⟩),
          (1, ⟨15, 1 / 2, some (1 / 3), 1 / 4, none, false⟩),
          (0, ⟨25, 1 / 2, some (1 / 3), 1 / 4, none, false⟩)] := by decide +kernel

end CTM.C03
