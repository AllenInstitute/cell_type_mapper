/-
  C17 — flattening or dropping a level equals mapping on the reduced taxonomy.

  Model statements about `mapPipeline` (the data flow of `_run_mapping`).  The
  oracle (`vote`) is any function of (parent, what the run's tree says about
  the parent's children and their leaves, cell): marker lists are keyed by the
  parent, so "marker groups of removed parents are never consulted" is the
  statement that the oracle is only ever asked about parents of the REDUCED
  tree — which is how `walk` / `runLevelLoop` are written (they only query
  `t.children` of the run's tree).  Both runs of a pair use the same oracle:
  on the implementation that is the common seed (`harness/props/c17.py`
  compares the paired real runs byte-wise).
-/
import CTM.Lemmas.LevelLoopTrees
import CTM.Lemmas.MarkersCache
import CTM.Lemmas.Tree

namespace CTM.C17
open CTM CTM.LevelLoop

/-- "Dropping a level that the taxonomy does not contain changes nothing." -/
theorem absent_level_noop {κ} (t0 : RawTree) (cfg : Config) (vote : Oracle κ) (l : Level)
    (ids : List CellId) (cells : List κ) (order : List Nat) (hl : l ∉ t0.hierarchy) :
    mapPipeline t0 { cfg with dropLevel := some l } vote ids cells order =
      mapPipeline t0 { cfg with dropLevel := none } vote ids cells order := by
  unfold mapPipeline
  rw [runTree_absent rfl hl, runTree_none rfl]

example : mapPipeline exTree { dropLevel := some 7, chunkSize := 2 } exVote [7, 3] [0, 1] [0] =
    mapPipeline exTree { dropLevel := none, chunkSize := 2 } exVote [7, 3] [0, 1] [0] :=
  absent_level_noop exTree { chunkSize := 2 } exVote 7 _ _ _ (by decide +kernel)

/-- the statement of this property for ANY tree `t` that reduces the stored tree `t0` (`Reduces`).
Run A: stored tree `t0`, options that make `t` the tree of the run.  Run B:
`t` stored, nothing dropped or flattened.  Both succeed and return the same cells in the same order;
the levels of `t` (and whatever is not a level of `t0`) carry the identical dict; run B has the
levels of `t` and no other; in run A every other level of `t0` is the inferred copy of the level
below it.  `drop_runs` and `flatten_runs` are its instances for `drop_level` and for `flatten`; both
options together go through `flatten_ignores_drop` instead. -/
theorem reduced_runs {κ} {t0 t : RawTree} {cfgA cfgB : Config} {vote : Oracle κ}
    {ids : List CellId} {cells : List κ} {orderA orderB : List Nat}
    (hrunA : runTree t0 cfgA = .ok t) (hrunB : runTree t cfgB = .ok t)
    (r : Reduces t0 t) (hv : VoteOK t vote)
    (hlen : ids.length = cells.length) (hnd : ids.Nodup)
    (hprocA : 1 ≤ cfgA.nProc) (hcsA : 1 ≤ cfgA.chunkSize)
    (hprocB : 1 ≤ cfgB.nProc) (hcsB : 1 ≤ cfgB.chunkSize)
    (horderA : orderA.Perm (List.range
      (chunks cells.length (effChunk cells.length cfgA.nProc cfgA.chunkSize)).length))
    (horderB : orderB.Perm (List.range
      (chunks cells.length (effChunk cells.length cfgB.nProc cfgB.chunkSize)).length)) :
    ∃ outA outB, mapPipeline t0 cfgA vote ids cells orderA = .ok outA ∧
      mapPipeline t cfgB vote ids cells orderB = .ok outB ∧
      ∀ (i : Nat) (id : CellId) (c : κ), ids[i]? = some id → cells[i]? = some c →
        ∃ a b, outA[i]? = some a ∧ outB[i]? = some b ∧ a.cellId = b.cellId ∧
          (∀ l, l ∈ t.hierarchy ∨ l ∉ t0.hierarchy → a.levels.lookup l = b.levels.lookup l) ∧
          b.levels.map (·.1) = t.hierarchy ∧
          ∀ cp ∈ pairsOf t0.hierarchy.reverse, cp.2 ∉ t.hierarchy →
            ∃ ec pn, a.levels.lookup cp.1 = some ec ∧
              t0.childToParent cp.1 ec.assignment = some pn ∧
              a.levels.lookup cp.2 = some (inferred ec pn) := by
  -- run A keeps the voted levels and infers the others; run B has nothing to backfill
  obtain ⟨outA, hA, _⟩ := mapPipeline_forall hrunA r.wf hv hlen hnd hprocA hcsA horderA
    (P := fun _ => True) fun id c => (cellResult_path r hv id c).imp fun _ h => ⟨h.1, trivial⟩
  obtain ⟨outB, hB, _⟩ := mapPipeline_forall hrunB r.wf hv hlen hnd hprocB hcsB horderB
    (P := fun _ => True) fun id c => ⟨_, cellResult_self r.wf hv id c, trivial⟩
  refine ⟨outA, outB, hA, hB, fun i id c hid hc => ?_⟩
  obtain ⟨a, ha, hra⟩ := mapPipeline_getElem hrunA r.wf hv hlen hnd hprocA hcsA horderA hA hid hc
  obtain ⟨b, hb, hrb⟩ := mapPipeline_getElem hrunB r.wf hv hlen hnd hprocB hcsB horderB hB hid hc
  cases (cellResult_self r.wf hv id c).symm.trans hrb
  obtain ⟨hida, _, hsame, hinf⟩ := cellResult_spec r hv id c a hra
  exact ⟨a, _, ha, hb, hida, hsame, markDirect_mkRecord_keys r.wf hv id c, hinf⟩

/-- `reduced_runs` for `drop_level = l`.  Run A: stored tree `t0` (well-formed), `drop_level = l`.
Run B: stored tree `t'` (the taxonomy without `l`), nothing dropped.  `drop_eq` and
`drop_both_succeed` are its two halves. -/
theorem drop_runs {κ} (t0 t' : RawTree) (cfg : Config) (vote : Oracle κ) (l : Level)
    (ids : List CellId) (cells : List κ) (order : List Nat)
    (hdrop : t0.dropLevel l = .ok t') (hwf0 : wfb t0 = true) (hv : VoteOK t' vote)
    (hlen : ids.length = cells.length) (hnd : ids.Nodup)
    (hproc : 1 ≤ cfg.nProc) (hcs : 1 ≤ cfg.chunkSize)
    (horder : order.Perm (List.range
      (chunks cells.length (effChunk cells.length cfg.nProc cfg.chunkSize)).length)) :
    ∃ outA outB,
      mapPipeline t0 { cfg with dropLevel := some l, flatten := false } vote ids cells order
        = .ok outA ∧
      mapPipeline t' { cfg with dropLevel := none, flatten := false } vote ids cells order
        = .ok outB ∧
      ∀ (i : Nat) (id : CellId) (c : κ), ids[i]? = some id → cells[i]? = some c →
        ∃ a b, outA[i]? = some a ∧ outB[i]? = some b ∧ a.cellId = b.cellId ∧
          (∀ l', l' ≠ l → a.levels.lookup l' = b.levels.lookup l') ∧
          b.levels.lookup l = none ∧
          ∀ cl pre post, t0.hierarchy = pre ++ l :: cl :: post →
            ∃ ec pn, b.levels.lookup cl = some ec ∧
              t0.childToParent cl ec.assignment = some pn ∧
              a.levels.lookup l = some (inferred ec pn) := by
  have hnd0 := wfb_nodup_hierarchy hwf0
  obtain ⟨hmem, hh'⟩ := dropLevel_hierarchy hdrop
  obtain ⟨outA, outB, hA, hB, h⟩ := reduced_runs (t := t')
    (cfgA := { cfg with dropLevel := some l, flatten := false })
    (cfgB := { cfg with dropLevel := none, flatten := false }) (runTree_drop rfl hmem hdrop)
    (runTree_none rfl) (Reduces.dropLevel hwf0 hdrop) hv hlen hnd hproc hcs hproc hcs horder horder
  have hl_not : l ∉ t'.hierarchy := by rw [hh']; exact hnd0.not_mem_erase
  refine ⟨outA, outB, hA, hB, fun i id c hid hc => ?_⟩
  obtain ⟨a, b, ha, hb, hida, hsame, hkeys, hinf⟩ := h i id c hid hc
  refine ⟨a, b, ha, hb, hida, fun l' hne => hsame l' ?_,
    ListAux.lookup_eq_none_iff_keys.mpr (hkeys ▸ hl_not), fun cl pre post hs => ?_⟩
  · by_cases hm : l' ∈ t0.hierarchy
    · exact Or.inl (by rw [hh']; exact hnd0.mem_erase_iff.mpr ⟨hne, hm⟩)
    · exact Or.inr hm
  · obtain ⟨ec, pn, h1, h2, h3⟩ :=
      hinf (cl, l) ((mem_pairsOf_reverse_iff cl l t0.hierarchy).mpr ⟨pre, post, hs⟩) hl_not
    have hcl : cl ∈ t'.hierarchy := by rw [dropLevel_hierarchy_split hnd0 hdrop hs]; simp
    exact ⟨ec, pn, by rw [← hsame cl (Or.inl hcl)]; exact h1, h2, h3⟩

/-- "Mapping with a level dropped gives, at all other levels, exactly the
result of mapping against a reference whose taxonomy never had that level, and
the dropped level is the ancestor of the finer assignment."

Run A: stored tree `t0` (well-formed), `drop_level = l`.  Run B: stored tree
`t'` (the taxonomy without `l`; well-formed by `wfb_dropLevel`), nothing
dropped.  `l` is any non-leaf level, `cl` the level right below it
(`t0.hierarchy = pre ++ l :: cl :: post`).
Whenever both runs succeed they return the same cells in the same order;
every level other than `l` carries the identical dict (assignment,
probabilities, correlation, runner-ups, `directly_assigned = True`); run B has
no level `l`; in run A level `l` is the copy of level `cl` whose assignment is
the parent (`child_to_parent` of the stored tree) of the assignment at
`cl`, without runner-ups and with `directly_assigned = False`. -/
theorem drop_eq {κ} (t0 t' : RawTree) (cfg : Config) (vote : Oracle κ) (l cl : Level)
    (pre post : List Level) (ids : List CellId) (cells : List κ) (order : List Nat)
    (hdrop : t0.dropLevel l = .ok t') (hs : t0.hierarchy = pre ++ l :: cl :: post)
    (hwf0 : wfb t0 = true) (hv : VoteOK t' vote)
    (hlen : ids.length = cells.length) (hnd : ids.Nodup)
    (hproc : 1 ≤ cfg.nProc) (hcs : 1 ≤ cfg.chunkSize)
    (horder : order.Perm (List.range
      (chunks cells.length (effChunk cells.length cfg.nProc cfg.chunkSize)).length))
    (outA outB : List Record)
    (hA : mapPipeline t0 { cfg with dropLevel := some l, flatten := false } vote ids cells order
      = .ok outA)
    (hB : mapPipeline t' { cfg with dropLevel := none, flatten := false } vote ids cells order
      = .ok outB)
    (i : Nat) (id : CellId) (c : κ) (hid : ids[i]? = some id) (hc : cells[i]? = some c) :
    ∃ a b, outA[i]? = some a ∧ outB[i]? = some b ∧ a.cellId = b.cellId ∧
      (∀ l', l' ≠ l → a.levels.lookup l' = b.levels.lookup l') ∧
      b.levels.lookup l = none ∧
      ∃ ec pn, b.levels.lookup cl = some ec ∧
        t0.childToParent cl ec.assignment = some pn ∧
        a.levels.lookup l = some (inferred ec pn) := by
  obtain ⟨_, _, hA', hB', h⟩ := drop_runs t0 t' cfg vote l ids cells order hdrop hwf0 hv hlen hnd
    hproc hcs horder
  cases hA.symm.trans hA'
  cases hB.symm.trans hB'
  obtain ⟨a, b, ha, hb, hida, hsame, hnone, hinf⟩ := h i id c hid hc
  exact ⟨a, b, ha, hb, hida, hsame, hnone, hinf cl pre post hs⟩

/-- the example taxonomy without its middle level -/
def exDropped : RawTree :=
  { hierarchy := [0, 2],
    levels := [(0, [(10, [31, 32, 30])]), (2, [(30, [5]), (31, [6]), (32, [])])] }

theorem exIds_nodup : [7, 3, 9].Nodup := by decide +kernel

/-- the gather order of the examples: three cells in chunks of 2 make two chunks, delivered as
chunk 1, chunk 0 -/
theorem exOrder_perm : [1, 0].Perm (List.range (chunks 3 (effChunk 3 2 2)).length) := by
  decide +kernel

example : ∀ outA outB,
    mapPipeline exTree { dropLevel := some 1, flatten := false, chunkSize := 2, nProc := 2 } exVote
      [7, 3, 9] [0, 1, 2] [1, 0] = .ok outA →
    mapPipeline exDropped { dropLevel := none, flatten := false, chunkSize := 2, nProc := 2 } exVote
      [7, 3, 9] [0, 1, 2] [1, 0] = .ok outB →
    ∃ a b, outA[1]? = some a ∧ outB[1]? = some b ∧ a.cellId = b.cellId ∧
      (∀ l', l' ≠ 1 → a.levels.lookup l' = b.levels.lookup l') ∧
      b.levels.lookup 1 = none ∧
      ∃ ec pn, b.levels.lookup 2 = some ec ∧
        exTree.childToParent 2 ec.assignment = some pn ∧
        a.levels.lookup 1 = some (inferred ec pn) :=
  fun outA outB hA hB =>
    drop_eq exTree exDropped { chunkSize := 2, nProc := 2 } exVote 1 2 [0] [] [7, 3, 9] [0, 1, 2]
      [1, 0] exTree_dropLevel rfl exTree_wf (exVote_ok _) rfl exIds_nodup (by decide +kernel)
      (by decide +kernel) exOrder_perm outA outB hA hB 1 3 1 rfl rfl

/-- (test, not a theorem) the value of run A in the example: level 1 is inferred -/
example : (mapPipeline exTree { dropLevel := some 1, chunkSize := 2, nProc := 2 } exVote [7, 3, 9]
    [0, 1, 2] [1, 0]).toOption.map (fun o => o.map (fun r =>
      (r.cellId, r.levels.map (fun le => (le.1, le.2.assignment, le.2.direct))))) =
    some [(7, [(0, 10, some true), (2, 31, some true), (1, 21, some false)]),
          (3, [(0, 10, some true), (2, 32, some true), (1, 21, some false)]),
          (9, [(0, 10, some true), (2, 30, some true), (1, 20, some false)])] := by rfl

/-- both runs of `drop_eq` succeed (so `drop_eq` is not vacuous): stored tree
and reduced tree well-formed, `l` a non-leaf level with `cl` right below it -/
theorem drop_both_succeed {κ} (t0 t' : RawTree) (cfg : Config) (vote : Oracle κ)
    (l cl : Level) (pre post : List Level)
    (ids : List CellId) (cells : List κ) (order : List Nat)
    (hdrop : t0.dropLevel l = .ok t') (hs : t0.hierarchy = pre ++ l :: cl :: post)
    (hwf0 : wfb t0 = true) (hv : VoteOK t' vote)
    (hlen : ids.length = cells.length) (hnd : ids.Nodup)
    (hproc : 1 ≤ cfg.nProc) (hcs : 1 ≤ cfg.chunkSize)
    (horder : order.Perm (List.range
      (chunks cells.length (effChunk cells.length cfg.nProc cfg.chunkSize)).length)) :
    (∃ outA, mapPipeline t0 { cfg with dropLevel := some l, flatten := false } vote ids cells order
      = .ok outA) ∧
    (∃ outB, mapPipeline t' { cfg with dropLevel := none, flatten := false } vote ids cells order
      = .ok outB) :=
  let ⟨outA, outB, hA, hB, _⟩ := drop_runs t0 t' cfg vote l ids cells order hdrop hwf0 hv hlen hnd
    hproc hcs horder
  ⟨⟨outA, hA⟩, ⟨outB, hB⟩⟩

example : (∃ outA, mapPipeline exTree { dropLevel := some 1, flatten := false, chunkSize := 2, nProc := 2 }
      exVote [7, 3, 9] [0, 1, 2] [1, 0] = .ok outA) ∧
    (∃ outB, mapPipeline exDropped { dropLevel := none, flatten := false, chunkSize := 2, nProc := 2 }
      exVote [7, 3, 9] [0, 1, 2] [1, 0] = .ok outB) :=
  drop_both_succeed exTree exDropped { chunkSize := 2, nProc := 2 } exVote 1 2 [0] [] [7, 3, 9]
    [0, 1, 2] [1, 0] exTree_dropLevel rfl exTree_wf (exVote_ok _) rfl exIds_nodup (by decide +kernel)
    (by decide +kernel) exOrder_perm

/-- `reduced_runs` for `flatten = True`.  Run A: stored tree `t0`, `flatten = True`.  Run B: stored
tree `t0.flatten`, no flattening.  `flatten_eq` and `flatten_both_succeed` are its two halves. -/
theorem flatten_runs {κ} (t0 : RawTree) (cfg : Config) (vote : Oracle κ) (ll : Level)
    (ids : List CellId) (cells : List κ) (order : List Nat)
    (hleaf : t0.leafLevel = some ll) (hwf0 : wfb t0 = true) (hv : VoteOK t0.flatten vote)
    (hlen : ids.length = cells.length) (hnd : ids.Nodup)
    (hproc : 1 ≤ cfg.nProc) (hcs : 1 ≤ cfg.chunkSize)
    (horder : order.Perm (List.range
      (chunks cells.length (effChunk cells.length cfg.nProc cfg.chunkSize)).length)) :
    ∃ outA outB,
      mapPipeline t0 { cfg with dropLevel := none, flatten := true } vote ids cells order
        = .ok outA ∧
      mapPipeline t0.flatten { cfg with dropLevel := none, flatten := false } vote ids cells order
        = .ok outB ∧
      ∀ (i : Nat) (id : CellId) (c : κ), ids[i]? = some id → cells[i]? = some c →
        ∃ a b, outA[i]? = some a ∧ outB[i]? = some b ∧ a.cellId = b.cellId ∧
          a.levels.lookup ll = b.levels.lookup ll ∧ (b.levels.lookup ll).isSome ∧
          ∀ cp ∈ pairsOf t0.hierarchy.reverse,
            ∃ ec pn, a.levels.lookup cp.1 = some ec ∧
              t0.childToParent cp.1 ec.assignment = some pn ∧
              a.levels.lookup cp.2 = some (inferred ec pn) := by
  have hnd0 := wfb_nodup_hierarchy hwf0
  have hfh : t0.flatten.hierarchy = [ll] := by
    simp only [RawTree.flatten, hleaf]
  have hll : ll ∈ t0.flatten.hierarchy := by rw [hfh]; exact List.mem_singleton_self ll
  obtain ⟨outA, outB, hA, hB, h⟩ := reduced_runs (t := t0.flatten)
    (cfgA := { cfg with dropLevel := none, flatten := true })
    (cfgB := { cfg with dropLevel := none, flatten := false }) (runTree_none rfl) (runTree_none rfl)
    (Reduces.refl hwf0).flatten hv hlen hnd hproc hcs hproc hcs horder horder
  refine ⟨outA, outB, hA, hB, fun i id c hid hc => ?_⟩
  obtain ⟨a, b, ha, hb, hida, hsame, hkeys, hinf⟩ := h i id c hid hc
  refine ⟨a, b, ha, hb, hida, hsame ll (Or.inl hll),
    ListAux.lookup_isSome_iff_keys.mpr (hkeys ▸ hll), fun cp hm => ?_⟩
  refine hinf cp hm (fun hn => snd_ne_leaf_of_mem_pairsOf hnd0 hleaf hm ?_)
  rw [hfh] at hn
  exact List.mem_singleton.mp hn

/-- "Mapping with flattening gives at the leaf level exactly the result of
mapping against a one-level taxonomy of the leaves ..., and every coarser level
is the leaf's ancestor."

Run A: stored tree `t0`, `flatten = True`.  Run B: stored tree `t0.flatten`
(hierarchy = the leaf level only), no flattening.  Whenever both succeed, the
leaf-level dicts are identical, and in run A every coarser level `p` (with `c`
the level right below it) is the copy of level `c` whose assignment is the
`child_to_parent` of the assignment at `c`, flagged `directly_assigned = False`. -/
theorem flatten_eq {κ} (t0 : RawTree) (cfg : Config) (vote : Oracle κ) (ll : Level)
    (ids : List CellId) (cells : List κ) (order : List Nat)
    (hleaf : t0.leafLevel = some ll) (hwf0 : wfb t0 = true) (hv : VoteOK t0.flatten vote)
    (hlen : ids.length = cells.length) (hnd : ids.Nodup)
    (hproc : 1 ≤ cfg.nProc) (hcs : 1 ≤ cfg.chunkSize)
    (horder : order.Perm (List.range
      (chunks cells.length (effChunk cells.length cfg.nProc cfg.chunkSize)).length))
    (outA outB : List Record)
    (hA : mapPipeline t0 { cfg with dropLevel := none, flatten := true } vote ids cells order
      = .ok outA)
    (hB : mapPipeline t0.flatten { cfg with dropLevel := none, flatten := false } vote ids cells order
      = .ok outB)
    (i : Nat) (id : CellId) (c : κ) (hid : ids[i]? = some id) (hc : cells[i]? = some c) :
    ∃ a b, outA[i]? = some a ∧ outB[i]? = some b ∧ a.cellId = b.cellId ∧
      a.levels.lookup ll = b.levels.lookup ll ∧ (b.levels.lookup ll).isSome ∧
      ∀ cp ∈ pairsOf t0.hierarchy.reverse,
        ∃ ec pn, a.levels.lookup cp.1 = some ec ∧
          t0.childToParent cp.1 ec.assignment = some pn ∧
          a.levels.lookup cp.2 = some (inferred ec pn) := by
  obtain ⟨_, _, hA', hB', h⟩ := flatten_runs t0 cfg vote ll ids cells order hleaf hwf0 hv hlen hnd
    hproc hcs horder
  cases hA.symm.trans hA'
  cases hB.symm.trans hB'
  exact h i id c hid hc

example : ∀ outA outB,
    mapPipeline exTree { dropLevel := none, flatten := true, chunkSize := 2, nProc := 2 } exVote
      [7, 3, 9] [0, 1, 2] [1, 0] = .ok outA →
    mapPipeline exTree.flatten { dropLevel := none, flatten := false, chunkSize := 2, nProc := 2 } exVote
      [7, 3, 9] [0, 1, 2] [1, 0] = .ok outB →
    ∃ a b, outA[2]? = some a ∧ outB[2]? = some b ∧ a.cellId = b.cellId ∧
      a.levels.lookup 2 = b.levels.lookup 2 ∧ (b.levels.lookup 2).isSome ∧
      ∀ cp ∈ pairsOf exTree.hierarchy.reverse,
        ∃ ec pn, a.levels.lookup cp.1 = some ec ∧
          exTree.childToParent cp.1 ec.assignment = some pn ∧
          a.levels.lookup cp.2 = some (inferred ec pn) :=
  fun outA outB hA hB =>
    flatten_eq exTree { chunkSize := 2, nProc := 2 } exVote 2 [7, 3, 9] [0, 1, 2] [1, 0]
      (by decide +kernel) exTree_wf (exVote_ok _) rfl exIds_nodup (by decide +kernel)
      (by decide +kernel) exOrder_perm outA outB hA hB 2 9 2 rfl rfl

/-- both runs of `flatten_eq` succeed -/
theorem flatten_both_succeed {κ} (t0 : RawTree) (cfg : Config) (vote : Oracle κ) (ll : Level)
    (ids : List CellId) (cells : List κ) (order : List Nat)
    (hleaf : t0.leafLevel = some ll)
    (hwf0 : wfb t0 = true) (hv : VoteOK t0.flatten vote)
    (hlen : ids.length = cells.length) (hnd : ids.Nodup)
    (hproc : 1 ≤ cfg.nProc) (hcs : 1 ≤ cfg.chunkSize)
    (horder : order.Perm (List.range
      (chunks cells.length (effChunk cells.length cfg.nProc cfg.chunkSize)).length)) :
    (∃ outA, mapPipeline t0 { cfg with dropLevel := none, flatten := true } vote ids cells order
      = .ok outA) ∧
    (∃ outB, mapPipeline t0.flatten { cfg with dropLevel := none, flatten := false } vote ids cells
      order = .ok outB) :=
  let ⟨outA, outB, hA, hB, _⟩ := flatten_runs t0 cfg vote ll ids cells order hleaf hwf0 hv hlen hnd
    hproc hcs horder
  ⟨⟨outA, hA⟩, ⟨outB, hB⟩⟩

/-- flatten TOGETHER with drop_level (the combination `_run_mapping` allows):
the level is dropped first, then the tree is flattened — the run tree is the
one-level tree of the same leaves either way, so the whole output equals that of
the run with flatten alone. -/
theorem flatten_ignores_drop {κ} (t0 t' : RawTree) (cfg : Config) (vote : Oracle κ)
    (l cl : Level) (pre post : List Level)
    (ids : List CellId) (cells : List κ) (order : List Nat)
    (hdrop : t0.dropLevel l = .ok t') (hs : t0.hierarchy = pre ++ l :: cl :: post)
    (hwf0 : wfb t0 = true) (hv : VoteOK t0.flatten vote)
    (hlen : ids.length = cells.length) (hnd : ids.Nodup)
    (hproc : 1 ≤ cfg.nProc) (hcs : 1 ≤ cfg.chunkSize)
    (horder : order.Perm (List.range
      (chunks cells.length (effChunk cells.length cfg.nProc cfg.chunkSize)).length)) :
    mapPipeline t0 { cfg with dropLevel := some l, flatten := true } vote ids cells order =
      mapPipeline t0 { cfg with dropLevel := none, flatten := true } vote ids cells order := by
  have r := Reduces.dropLevel hwf0 hdrop
  obtain ⟨ll, hleaf, _⟩ := dropLevel_leafLevel (wfb_nodup_hierarchy hwf0) hdrop hs
  have h0 : t0.flatten.hierarchy = [ll] := by simp only [RawTree.flatten, hleaf]
  have hv' : VoteOK t'.flatten vote :=
    voteOK_onelevel h0 (by simp only [RawTree.flatten, r.leaf.trans hleaf]) hv
  have hrunA : runTree t0 { cfg with dropLevel := some l, flatten := true } = .ok t'.flatten :=
    runTree_drop rfl (dropLevel_hierarchy hdrop).1 hdrop
  have hrunB : runTree t0 { cfg with dropLevel := none, flatten := true } = .ok t0.flatten :=
    runTree_none rfl
  rw [mapPipeline_cells hrunA r.flatten.wf hv' hlen hnd hproc hcs horder,
    mapPipeline_cells hrunB (Reduces.refl hwf0).flatten.wf hv hlen hnd hproc hcs horder,
    cellResult_flatten_congr vote r (Reduces.refl hwf0) hleaf]

example : mapPipeline exTree { dropLevel := some 1, flatten := true, chunkSize := 2, nProc := 2 } exVote
      [7, 3, 9] [0, 1, 2] [1, 0] =
    mapPipeline exTree { dropLevel := none, flatten := true, chunkSize := 2, nProc := 2 } exVote
      [7, 3, 9] [0, 1, 2] [1, 0] :=
  flatten_ignores_drop exTree exDropped { chunkSize := 2, nProc := 2 } exVote 1 2 [0] [] [7, 3, 9]
    [0, 1, 2] [1, 0] exTree_dropLevel rfl exTree_wf (exVote_ok _) rfl exIds_nodup (by decide +kernel) (by decide +kernel)
    exOrder_perm

/-- the C17 statement for flatten AND drop_level: the leaf level equals the run
on the one-level reference (`t0.flatten`), every coarser level of the stored
hierarchy — the dropped one included — is the copy of the level below with the
stored tree's parent as assignment, flagged inferred. -/
theorem flatten_drop_eq {κ} (t0 t' : RawTree) (cfg : Config) (vote : Oracle κ)
    (l cl ll : Level) (pre post : List Level)
    (ids : List CellId) (cells : List κ) (order : List Nat)
    (hdrop : t0.dropLevel l = .ok t') (hs : t0.hierarchy = pre ++ l :: cl :: post)
    (hleaf : t0.leafLevel = some ll) (hwf0 : wfb t0 = true) (hv : VoteOK t0.flatten vote)
    (hlen : ids.length = cells.length) (hnd : ids.Nodup)
    (hproc : 1 ≤ cfg.nProc) (hcs : 1 ≤ cfg.chunkSize)
    (horder : order.Perm (List.range
      (chunks cells.length (effChunk cells.length cfg.nProc cfg.chunkSize)).length))
    (outA outB : List Record)
    (hA : mapPipeline t0 { cfg with dropLevel := some l, flatten := true } vote ids cells order
      = .ok outA)
    (hB : mapPipeline t0.flatten { cfg with dropLevel := none, flatten := false } vote ids cells order
      = .ok outB)
    (i : Nat) (id : CellId) (c : κ) (hid : ids[i]? = some id) (hc : cells[i]? = some c) :
    ∃ a b, outA[i]? = some a ∧ outB[i]? = some b ∧ a.cellId = b.cellId ∧
      a.levels.lookup ll = b.levels.lookup ll ∧ (b.levels.lookup ll).isSome ∧
      ∀ cp ∈ pairsOf t0.hierarchy.reverse,
        ∃ ec pn, a.levels.lookup cp.1 = some ec ∧
          t0.childToParent cp.1 ec.assignment = some pn ∧
          a.levels.lookup cp.2 = some (inferred ec pn) := by
  rw [flatten_ignores_drop t0 t' cfg vote l cl pre post ids cells order hdrop hs hwf0 hv hlen hnd
    hproc hcs horder] at hA
  exact flatten_eq t0 cfg vote ll ids cells order hleaf hwf0 hv hlen hnd hproc hcs horder outA outB
    hA hB i id c hid hc

/-- both runs of `flatten_drop_eq` succeed -/
theorem flatten_drop_both_succeed {κ} (t0 t' : RawTree) (cfg : Config) (vote : Oracle κ)
    (l cl ll : Level) (pre post : List Level)
    (ids : List CellId) (cells : List κ) (order : List Nat)
    (hdrop : t0.dropLevel l = .ok t') (hs : t0.hierarchy = pre ++ l :: cl :: post)
    (hleaf : t0.leafLevel = some ll) (hwf0 : wfb t0 = true) (hv : VoteOK t0.flatten vote)
    (hlen : ids.length = cells.length) (hnd : ids.Nodup)
    (hproc : 1 ≤ cfg.nProc) (hcs : 1 ≤ cfg.chunkSize)
    (horder : order.Perm (List.range
      (chunks cells.length (effChunk cells.length cfg.nProc cfg.chunkSize)).length)) :
    (∃ outA, mapPipeline t0 { cfg with dropLevel := some l, flatten := true } vote ids cells order
      = .ok outA) ∧
    (∃ outB, mapPipeline t0.flatten { cfg with dropLevel := none, flatten := false } vote ids cells
      order = .ok outB) := by
  rw [flatten_ignores_drop t0 t' cfg vote l cl pre post ids cells order hdrop hs hwf0 hv hlen hnd
    hproc hcs horder]
  exact flatten_both_succeed t0 cfg vote ll ids cells order hleaf hwf0 hv hlen hnd hproc hcs horder

example : (∃ outA, mapPipeline exTree { dropLevel := some 1, flatten := true, chunkSize := 2, nProc := 2 }
      exVote [7, 3, 9] [0, 1, 2] [1, 0] = .ok outA) ∧
    (∃ outB, mapPipeline exTree.flatten { dropLevel := none, flatten := false, chunkSize := 2, nProc := 2 }
      exVote [7, 3, 9] [0, 1, 2] [1, 0] = .ok outB) :=
  flatten_drop_both_succeed exTree exDropped { chunkSize := 2, nProc := 2 } exVote 1 2 2 [0] []
    [7, 3, 9] [0, 1, 2] [1, 0] exTree_dropLevel rfl (by decide +kernel) exTree_wf (exVote_ok _) rfl exIds_nodup
    (by decide +kernel) (by decide +kernel) exOrder_perm

/-! ### "with the union of all marker lists" — the marker table under flatten -/

/-- the table a flattened run maps with is the flattened table, whatever its tree -/
theorem mapSetup_flatten_lookup {t0 t : RawTree} {cfg : Config} {lk lk' : Markers.Lookup}
    (hf : cfg.flatten = true) (h : mapSetup t0 cfg lk = .ok (t, lk')) :
    lk' = Markers.flattenLookup lk := by
  unfold mapSetup at h
  split at h
  · cases h
  · cases h; rw [if_pos hf]

/-- **the marker table of a flattened run does not depend on `drop_level`**
(a union taken over the parents of the reduced tree would lose the lists of
the dropped level): whatever level is dropped (present, absent, none), the
table after the flatten block is the single root list made of EVERY
list of the table — strictly increasing (sorted, no duplicate) and containing
exactly the genes that occur in some list. -/
theorem flatten_markers_indep_of_drop (t0 : RawTree) (cfg : Config) (lk : Markers.Lookup)
    (d d' : Option Level) (t t' : RawTree) (lk1 lk2 : Markers.Lookup)
    (h1 : mapSetup t0 { cfg with flatten := true, dropLevel := d } lk = .ok (t, lk1))
    (h2 : mapSetup t0 { cfg with flatten := true, dropLevel := d' } lk = .ok (t', lk2)) :
    lk1 = lk2 ∧ ∃ genes, lk1 = [(none, genes)] ∧ genes.Pairwise (· < ·) ∧
      ∀ g, g ∈ genes ↔ ∃ e ∈ lk, g ∈ e.2 := by
  have e1 := mapSetup_flatten_lookup rfl h1
  refine ⟨e1.trans (mapSetup_flatten_lookup rfl h2).symm, ?_⟩
  rw [e1]
  exact Markers.flattenLookup_spec lk

/-- a table in which the middle level's parents and a key outside the taxonomy
own genes nobody else lists -/
def exTable : Markers.Lookup :=
  [(none, [4, 1]), (some (0, 10), [1, 2]), (some (1, 21), [7, 2]), (some (1, 20), [8]),
   (some (5, 99), [9, 4])]

example : ∃ t t', mapSetup exTree { flatten := true, dropLevel := some 1 } exTable
      = .ok (t, [(none, [1, 2, 4, 7, 8, 9])]) ∧
    mapSetup exTree { flatten := true, dropLevel := none } exTable
      = .ok (t', [(none, [1, 2, 4, 7, 8, 9])]) :=
  ⟨_, _, by rfl, by rfl⟩

/-- the same statement on the full model of the marker stage
(`Markers.stage`: cache creation, reconciliation, the gene list every consulted
parent votes on, the reported table), which the C08 suite compares with the
hook trace: for a validated stored tree, a flattened run with `drop_level = l`
(`l` any non-leaf level) has exactly the marker stage of the flattened run
without `drop_level`.  (Stated with `RawTree.WF` and the index of the level, the
vocabulary of the marker model and of `RawTree.flatten_drop_eq`; `Bridge.WF_iff_wfb`
in `Lemmas/BridgeWF.lean` relates `WF` to the `wfb` of the theorems above.) -/
theorem flatten_stage_indep_of_drop (t0 t' : RawTree) (w : RawTree.WF t0) (lk : Markers.Lookup)
    (R Q : List Markers.Gene) (m : Nat) (i : Nat) (hi : i + 1 < t0.hierarchy.length)
    (hdrop : t0.dropLevel (t0.hierarchy[i]'(by omega)) = .ok t') :
    Markers.stage t0 lk R Q m (some (t0.hierarchy[i]'(by omega))) true =
      Markers.stage t0 lk R Q m none true := by
  have hfl := RawTree.flatten_drop_eq w hi hdrop
  have hc : t0.hierarchy.contains (t0.hierarchy[i]'(by omega)) = true := by
    simp
  simp only [Markers.stage, hc, if_true, hdrop, hfl]

theorem exTree_WF : RawTree.WF exTree :=
  { valid := by rfl, hNodup := by decide, hNe := by decide,
    dict := RawTree.dictOK_of_b (by decide +kernel) }

example : Markers.stage exTree exTable [9, 8, 7, 4, 2, 1] [1, 2, 4, 7, 8, 9, 11] 1 (some 1) true =
    Markers.stage exTree exTable [9, 8, 7, 4, 2, 1] [1, 2, 4, 7, 8, 9, 11] 1 none true :=
  flatten_stage_indep_of_drop exTree exDropped exTree_WF exTable _ _ 1 1 (by decide +kernel) exTree_dropLevel

end CTM.C17
