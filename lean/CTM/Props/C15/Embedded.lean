/-
  C15, last sentence — *"The taxonomy embedded in the output reconstructs the
  input taxonomy without its cell lists and the embedded marker table lists
  what was used."*

  `Props/C15.lean` proves `tree_embedded` about the output model's own `Output.Tree`.
  Here the sentence is stated against the models of the two objects
  themselves:

  * the taxonomy: the tree model's `RawTree` (`validate`, `dropCells`, the
    `TaxonomyTree` queries; C10 `drop_cells_preserves`), through
    `OutBridge.toTree` / `toTree_dropCells` and `OutCompose.ofTree` (the dict
    read back with `TaxonomyTree.from_str`);
  * the marker table: the marker model's `Markers.stage` (`reported` =
    `serialize_markers`, `used` = the gene lists `assemble_query_data` hands to
    the election; C08 `spec`, `reported_is_cache`), on the tree of the RUN
    (`LevelLoop.runTree`: after `drop_level` / `flatten`), carried in the
    output as `OutCompose.RunOutput.markerGenes`.

  Hypotheses: the stored taxonomy is accepted by the model of
  `validate_taxonomy_tree` (`t0.validate = .ok ()`), with distinct dict keys
  (`DictOK`, a Python dict); for the markers also `runTree t0 cfg = .ok t`.  (The
  statements also take `t0.hierarchy.Nodup`; it follows from acceptance and the
  proofs do not use it.)
-/
import CTM.Lemmas.OutputCompose
import CTM.Props.C08.Bridge
import CTM.Props.C10
import CTM.Props.C15

namespace CTM.C15
open CTM CTM.RawTree CTM.OutBridge CTM.OutCompose CTM.Markers CTM.Bridge

/-- *"The taxonomy embedded in the output reconstructs the input taxonomy
without its cell lists"* — against the tree model, for a run with ANY
`drop_level` / `flatten`: the `taxonomy_tree` block of the output is (the dict
of) `dropCells` of the STORED tree — not of the reduced tree the run voted on
— with the name tables copied; read back (`from_str`) it is accepted by the
validator again, is well formed, and answers like the input taxonomy: same
hierarchy, same nodes at every level (in the same order), same children at
every level above the leaves, same parents / ancestors of every node, same
leaves under every node; only the cell lists under the leaves are empty. -/
theorem embedded_tree_is_input_tree (t0 : RawTree) (cfg : LevelLoop.Config)
    (nm : NameMapper) (hm : HierarchyMapper) (nR : Nat) (out : List LevelLoop.Record)
    (hval : t0.validate = .ok ()) (hN : t0.hierarchy.Nodup) (hd : DictOK t0) :
    (toBlob t0 cfg nm hm nR out).tree = toTree t0.dropCells nm hm ∧
    (toBlob t0 cfg nm hm nR out).tree.nameMapper = nm ∧
    (toBlob t0 cfg nm hm nR out).tree.hierarchyMapper = hm ∧
    ofTree (toBlob t0 cfg nm hm nR out).tree = t0.dropCells ∧
    t0.dropCells.validate = .ok () ∧ WF t0.dropCells ∧
    t0.dropCells.hierarchy = t0.hierarchy ∧
    (∀ l, t0.dropCells.nodesAt l = t0.nodesAt l) ∧
    (∀ l, t0.leafLevel ≠ some l → t0.dropCells.level l = t0.level l) ∧
    (∀ l n, t0.leafLevel = some l → t0.dropCells.entry l n = []) ∧
    (∀ l n, t0.dropCells.parents l n = t0.parents l n) ∧
    (∀ l n al, t0.dropCells.ancestorAt l n al = t0.ancestorAt l n al) ∧
    (∀ l n, t0.dropCells.asLeaves l n = t0.asLeaves l n) := by
  have w := RawTree.WF.of_validate hval hd
  obtain ⟨w', h1, h2, h3, h4, h5, h6, h7⟩ := C10.drop_cells_preserves t0 w
  have hs := strict_of_validate w'.valid
  have he : (toBlob t0 cfg nm hm nR out).tree = toTree t0.dropCells nm hm :=
    (toTree_dropCells t0 nm hm hd.levelKeys).symm
  refine ⟨he, by rw [he]; rfl, by rw [he]; rfl, ?_, w'.valid, w', h1, h2, h3, ?_, h5, h6, h7⟩
  · rw [he]
    exact ofTree_toTree _ nm hm hs.hasH hs.str
  · intro l n hl
    have : l = t0.hierarchy.getLast w.hNe := by
      have h := hl
      simp only [RawTree.leafLevel, List.getLast?_eq_some_getLast w.hNe, Option.some.injEq] at h
      exact h.symm
    rw [this]
    exact h4 n

example : LevelLoop.exTree.validate = .ok () ∧ LevelLoop.exTree.hierarchy.Nodup ∧
    DictOK LevelLoop.exTree := ⟨exTree_accepted.1, by decide +kernel, exTree_accepted.2⟩
example : (toBlob LevelLoop.exTree { dropLevel := some 1, flatten := true } none none 1 []).tree.levels
    = [(0, [(10, [21, 20])]), (1, [(21, [31, 32]), (20, [30])]), (2, [(30, []), (31, []), (32, [])])] := by
  decide +kernel

/-- *"… and the embedded marker table lists what was used"* — against
the marker model, for a run with ANY `drop_level` / `flatten` whose run tree is
`t`: the `marker_genes` block of the output is the marker model's serialised table of the
cache written for `t`; it has exactly one entry per parent of the RUN tree;
for every parent with at least two children the entry is exactly the gene list
`assemble_query_data` handed to the election at that node — by name, in
reference order (`RowsFor`: the i-th gene is the name of the i-th row of the
node's group in both the reference and the query; rows sorted by reference
index), without repetition; for a parent with fewer than two children it is
`[]`; and conversely every list the election used is an entry of the block.
(What that list IS — own markers in the query, ancestor fallback — is C08
`spec_of_validate` / `spec_nearest_first`.) -/
theorem embedded_markers_are_used (t0 t : RawTree) (cfg : LevelLoop.Config)
    (nm : NameMapper) (hm : HierarchyMapper) (nR : Nat) (lk : Lookup) (R Q : List Gene) (m : Nat)
    (records : List LevelLoop.Record) (o : RunOutput)
    (hval : t0.validate = .ok ()) (hN : t0.hierarchy.Nodup) (hd : DictOK t0)
    (hrun : LevelLoop.runTree t0 cfg = .ok t)
    (ho : runOutput t0 cfg nm hm nR lk R Q m records = .ok o) :
    ∃ c s, createCache (some t) (if cfg.flatten then flattenLookup lk else lk) R Q m = .ok c ∧
      stage t0 lk R Q m cfg.dropLevel cfg.flatten = .ok s ∧
      o.markerGenes = s.reported ∧ serialize t c = .ok o.markerGenes ∧
      o.blob = toBlob t0 cfg nm hm nR records ∧
      (∀ k, k ∈ o.markerGenes.map (·.1) ↔ k ∈ t.allParents) ∧
      (o.markerGenes.map (·.1)).Nodup ∧
      (∀ p ∈ t.allParents, ∀ ch, childrenOf t p = .ok ch → 2 ≤ ch.length →
        ∃ g rows, (p, g) ∈ o.markerGenes ∧ (p, g) ∈ s.used ∧ assemble c p = .ok g ∧
          c.groups.lookup p = some rows ∧ RowsFor R Q rows g ∧
          rows.Pairwise (fun a b => a.1 ≤ b.1) ∧ g.Nodup) ∧
      (∀ p g, (p, g) ∈ o.markerGenes → ∀ ch, childrenOf t p = .ok ch → ch.length < 2 → g = []) ∧
      (∀ e ∈ s.used, e ∈ o.markerGenes ∧ Consulted t e.1 ∧ assemble c e.1 = .ok e.2) := by
  -- the stage succeeded and is the plain stage on the run tree
  unfold runOutput at ho
  cases hs : stage t0 lk R Q m cfg.dropLevel cfg.flatten with
  | error e => simp [hs] at ho
  | ok s =>
    simp only [hs, Except.ok.injEq] at ho
    subst ho
    have hs' := hs
    rw [stage_eq_stage_runTree hrun] at hs'
    obtain ⟨c, cons, hcache, _, hcons, hused, hser⟩ := (stage_plain_ok_iff ..).1 hs'
    have hT := treeWF_of_WF (WF_runTree (RawTree.WF.of_validate hval hd) hrun)
    -- both tables are keyed: `reported` by the parents with `reportedOf`, `used` by the consulted
    -- parents with `assemble`
    obtain ⟨hkeys, hrep⟩ := serialize_keyed t c s.reported hser
    obtain ⟨hukeys, huass⟩ := usedOf_spec c cons s.used hused
    have hconsS := consultedOf_spec t _ cons hcons
    have main : ∀ p ∈ t.allParents, ∀ ch, childrenOf t p = .ok ch → 2 ≤ ch.length →
        ∃ g rows, (p, g) ∈ s.reported ∧ (p, g) ∈ s.used ∧ assemble c p = .ok g ∧
          c.groups.lookup p = some rows ∧ RowsFor R Q rows g ∧
          rows.Pairwise (fun a b => a.1 ≤ b.1) ∧ g.Nodup := by
      intro p hp ch hch h2
      have hc : Consulted t p := ⟨ch, hch, h2⟩
      obtain ⟨rows, names, hl, hrows, hsorted, hrg, hass, _, hnd⟩ :=
        C08.spec t hT _ R Q m c hcache p hp hc
      exact ⟨names, rows,
        ListAux.mem_of_key hrep ((hkeys p).2 hp)
          (by rw [reportedOf_of_children hch, if_neg (Nat.not_lt.2 h2)]; exact hrg),
        ListAux.mem_of_key huass (hukeys ▸ (hconsS p).2 ⟨hp, hc⟩) hass, hass, hl, hrows, hsorted, hnd⟩
    refine ⟨c, s, hcache, rfl, rfl, hser, rfl, hkeys, serialize_keys_nodup t hT c _ hser, main, ?_, ?_⟩
    · intro p g hpg ch hch hlt
      have hg := hrep (p, g) hpg
      rw [reportedOf_of_children hch, if_pos hlt] at hg
      exact (Except.ok.inj hg).symm
    · intro e he
      obtain ⟨hp, ch, hch, hlen⟩ := (hconsS e.1).1 (hukeys ▸ List.mem_map_of_mem he)
      obtain ⟨g, _, hrepd, _, hass, _⟩ := main e.1 hp ch hch hlen
      have := huass e he
      rw [hass] at this
      cases this
      exact ⟨hrepd, ⟨ch, hch, hlen⟩, hass⟩

/-- non-vacuity: the marker model's example taxonomy and table, run with the middle level
dropped; the block has one entry per parent of the REDUCED tree, the root's
entry is the list the election used there -/
example : ∃ o, runOutput C08.t0 { dropLevel := some 1 } none none 1 C08.lk0
      [1, 2, 3, 4, 7, 9] [4, 3, 2, 1] 1 [] = .ok o ∧
    o.markerGenes.map (·.1) = [some (0, 10), some (0, 11), none] := by
  refine ⟨_, by rfl, by decide +kernel⟩

example : C08.t0.validate = .ok () ∧ C08.t0.hierarchy.Nodup ∧ DictOK C08.t0 ∧
    (∃ t, LevelLoop.runTree C08.t0 { dropLevel := some 1 } = .ok t) :=
  ⟨C08.t0_validate, C08.t0_treeWF.hierNodup, C08.t0_dictOK, ListAux.exists_ok_of_toBool (by decide +kernel)⟩

/-- the block is metadata: `blob_to_hdf5` copies it verbatim and `hdf5_to_blob`
returns it, so under `outInv` the HDF5 file reproduces the whole output — the
records (`h5_roundtrip`) and the marker table -/
theorem marker_table_survives_h5 (o : RunOutput) (hinv : Output.outInv o.blob = true) :
    ∃ f, writeH5 o = .ok f ∧ f.markerGenes = o.markerGenes ∧ readH5 f = .ok o := by
  obtain ⟨h, h1, h2⟩ := h5_roundtrip o.blob hinv
  refine ⟨{ h5 := h, markerGenes := o.markerGenes }, by simp [writeH5, h1], rfl, ?_⟩
  simp [readH5, h2]

example : ∃ f, writeH5 { blob := sampleBlob, markerGenes := [(none, [4, 2])] } = .ok f ∧
    f.markerGenes = [(none, [4, 2])] :=
  ⟨_, rfl, rfl⟩

end CTM.C15
