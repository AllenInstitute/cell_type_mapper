/-
  C15 × C01 — the serialisers applied to what the mapping loop really outputs.

  `Props/C15.lean` proves the HDF5 round trip and the CSV specification for
  every blob satisfying `Output.outInv`; `Props/C01.lean` describes what
  `mapPipeline` (chunking, workers, gather, re-ordering, `backfill_assignments`)
  returns.  Here the two are composed through `OutBridge.toBlob`
  (`Lemmas/OutBridge.lean`): the output of ANY successful run — plain,
  flattened, a level dropped, or both — satisfies `outInv`, hence round-trips
  through HDF5 and is written to CSV one row per query cell in query order.

  Hypotheses (all theorems):
    `wfb t0`            the stored tree is well-formed (the level-loop model's decidable predicate);
    `runTree t0 cfg = .ok t`   `t` is the tree the run votes on;
    `VoteOK t vote`     the oracle returns a child of the parent it is asked about;
    `PayloadOK nR t vote`  its payload: correlation not `None`, at most `nR` valid
                        runner-up tuples, naming children of that parent;
    `hasChoice t`       some parent with ≥ 2 children lies on every way down the
                        run's tree — otherwise `avg_correlation` is `null` in the
                        JSON output and HDF5 does NOT reproduce it (known finding
                        `C15/pipeline/h5/avg_correlation/null-becomes-nan/single-leaf-taxonomy`,
                        `C15.h5_null_not_reproduced`);
    ≥ 1 cell, distinct cell ids, chunk size ≥ 1, ≥ 1 worker, any gather order.
-/
import CTM.Lemmas.OutBridge
import CTM.Props.C01
import CTM.Props.C15

namespace CTM.C15
open CTM CTM.LevelLoop CTM.OutBridge

/-- *"for all mapping outputs (any taxonomy depth, name tables present or
absent, ..., 0..k runners-up, flattened and level-dropped runs,
single-iteration runs)"* — the quantifier of C15 ranges over outputs of the
mapper; this theorem shows that every such output lies in the domain
(`Output.outInv`) on which `h5_roundtrip`, `csv_rows_outInv`, `csv_after_h5` are
proved: at least one record; every record binds exactly the levels of the
stored hierarchy; each assignment and runner-up is a node of its level in the
embedded tree; no number is `null`; directly assigned levels carry three
runner-up lists of equal length ≤ `n_runners_up`, inferred levels none; the
`directly_assigned` flag depends on the level only. -/
theorem pipeline_outInv {κ} (t0 t : RawTree) (cfg : Config) (vote : Oracle κ)
    (nm : NameMapper) (hm : HierarchyMapper) (nR : Nat)
    (ids : List CellId) (cells : List κ) (order : List Nat)
    (hwf0 : wfb t0 = true) (hrun : runTree t0 cfg = .ok t)
    (hv : VoteOK t vote) (hpay : PayloadOK nR t vote) (hch : hasChoice t = true)
    (hcells : cells ≠ []) (hlen : ids.length = cells.length) (hnd : ids.Nodup)
    (hproc : 1 ≤ cfg.nProc) (hcs : 1 ≤ cfg.chunkSize)
    (horder : order.Perm (List.range
      (chunks cells.length (effChunk cells.length cfg.nProc cfg.chunkSize)).length))
    (out : List Record) (hout : mapPipeline t0 cfg vote ids cells order = .ok out) :
    Output.outInv (toBlob t0 cfg nm hm nR out) = true :=
  have rt := runTree_reduces hwf0 hrun
  have ⟨hl, hrec⟩ := mapPipeline_mem hrun rt.wf hv hlen hnd hproc hcs horder hout
  outInv_of_cells cfg nm hm rt hv hpay hch
    (fun he => hcells (List.eq_nil_of_length_eq_zero (by rw [← hl, he]; rfl)))
    fun o ho => let ⟨_, id, c, _, _, hc⟩ := hrec o ho; ⟨id, c, hc⟩

example : Output.outInv (toBlob exTree { chunkSize := 2, nProc := 2 } none none 1
    ((List.zipWith (mkRecord exTree (exVoteP 1)) [7, 3, 9] [0, 1, 2]).map
      (markDirect exTree.hierarchy))) = true :=
  pipeline_outInv exTree exTree { chunkSize := 2, nProc := 2 } (exVoteP 1) none none 1
    [7, 3, 9] [0, 1, 2] [1, 0] exTree_wf rfl (exVoteP_ok _ _) (exVoteP_payload _ _) (by decide)
    (List.cons_ne_nil _ _) rfl (by decide) (by decide) (by decide) (by decide) _
    (C01.no_error_plain exTree { chunkSize := 2, nProc := 2 } (exVoteP 1) [7, 3, 9] [0, 1, 2] [1, 0]
      rfl rfl exTree_wf (exVoteP_ok _ _) rfl (by decide) (by decide) (by decide) (by decide))

/-- the hypothesis `hasChoice` is necessary: on a single-leaf taxonomy (no
parent with two children anywhere) the pipeline succeeds, every
`avg_correlation` is `null`, and the blob does NOT satisfy `outInv` — this is
the known finding `…/null-becomes-nan/single-leaf-taxonomy` -/
example : hasChoice { hierarchy := [0], levels := [(0, [(10, [4])])] } = false ∧
    (mapPipeline { hierarchy := [0], levels := [(0, [(10, [4])])] } {} (exVoteP 1) [7] [0] [0]).toOption.map
      (fun out => Output.outInv
        (toBlob { hierarchy := [0], levels := [(0, [(10, [4])])] } {} none none 1 out)) =
      some false := by decide +kernel

/-- *"Writing the result to HDF5 and reading it back reproduces every cell id,
assignment, probability, correlation, runner-up list and directly-assigned
flag of the JSON output"* — for the output of the mapping loop itself: the
blob built from what `mapPipeline` returns is written by `blob_to_hdf5` and
`hdf5_to_blob` returns exactly it; its records carry the query's cell ids in
query order; and (`toRecord` forgets only the order of the per-level dict)
looking any level up in a converted record gives the converted dict the
mapping loop produced — assignment, probability, correlation, aggregate
probability, flag and runner-up lists. -/
theorem pipeline_h5_roundtrip {κ} (t0 t : RawTree) (cfg : Config) (vote : Oracle κ)
    (nm : NameMapper) (hm : HierarchyMapper) (nR : Nat)
    (ids : List CellId) (cells : List κ) (order : List Nat)
    (hwf0 : wfb t0 = true) (hrun : runTree t0 cfg = .ok t)
    (hv : VoteOK t vote) (hpay : PayloadOK nR t vote) (hch : hasChoice t = true)
    (hcells : cells ≠ []) (hlen : ids.length = cells.length) (hnd : ids.Nodup)
    (hproc : 1 ≤ cfg.nProc) (hcs : 1 ≤ cfg.chunkSize)
    (horder : order.Perm (List.range
      (chunks cells.length (effChunk cells.length cfg.nProc cfg.chunkSize)).length))
    (out : List Record) (hout : mapPipeline t0 cfg vote ids cells order = .ok out) :
    (∃ h, Output.toH5 (toBlob t0 cfg nm hm nR out) = .ok h ∧
      Output.ofH5 h = .ok (toBlob t0 cfg nm hm nR out)) ∧
    (toBlob t0 cfg nm hm nR out).results.map (·.cellId) = ids ∧
    ∀ o ∈ out, ∀ l, (toRecord t0.hierarchy o).levels.lookup l =
      (o.levels.lookup l).map toLevelRec := by
  have rt := runTree_reduces hwf0 hrun
  refine ⟨h5_roundtrip _ (pipeline_outInv t0 t cfg vote nm hm nR ids cells order hwf0 hrun hv hpay
    hch hcells hlen hnd hproc hcs horder out hout), ?_, ?_⟩
  · have := ((C01.order_ids t0 t cfg vote ids cells order hrun rt.wf hv hlen hnd hproc hcs
      horder).2 out hout).1
    simp only [toBlob, List.map_map]
    exact this
  · intro o ho l
    obtain ⟨_, id, c, _, _, hc⟩ :=
      (mapPipeline_mem hrun rt.wf hv hlen hnd hproc hcs horder hout).2 o ho
    exact toRecord_lookup rt hv id c o hc l

/-- a flattened run of the example taxonomy round-trips (evaluated) -/
example : ((mapPipeline exTree { flatten := true } (exVoteP 2) [7, 3, 9] [0, 1, 2] [0]).toOption.bind
    (fun out => (Output.toH5 (toBlob exTree { flatten := true } none none 2 out)).toOption.bind
      (fun h => (Output.ofH5 h).toOption.map
        (fun b => decide (b = toBlob exTree { flatten := true } none none 2 out))))) = some true := by
  decide +kernel

/-- *"The CSV output has one row per cell in query order whose label, name and
alias columns are the JSON assignments translated through the taxonomy's name
tables and whose confidence column is the JSON value to four decimals"* — for
the output of the mapping loop itself: `blob_to_csv` succeeds on it, there is
exactly one row per query cell, row `i` starts with the id of query cell `i`
(query order, whatever the chunking and gather order were), and every field
is `cellSpec` of its column key and the cell's record. -/
theorem pipeline_csv_rows {κ} (t0 t : RawTree) (cfg : Config) (vote : Oracle κ)
    (nm : NameMapper) (hm : HierarchyMapper) (nR : Nat)
    (ids : List CellId) (cells : List κ) (order : List Nat)
    (hwf0 : wfb t0 = true) (hrun : runTree t0 cfg = .ok t)
    (hv : VoteOK t vote) (hpay : PayloadOK nR t vote) (hch : hasChoice t = true)
    (hcells : cells ≠ []) (hlen : ids.length = cells.length) (hnd : ids.Nodup)
    (hproc : 1 ≤ cfg.nProc) (hcs : 1 ≤ cfg.chunkSize)
    (horder : order.Perm (List.range
      (chunks cells.length (effChunk cells.length cfg.nProc cfg.chunkSize)).length))
    (out : List Record) (hout : mapPipeline t0 cfg vote ids cells order = .ok out)
    (taint : List Output.Lvl) (ck : Output.ConfKey) :
    ∃ rows, Output.csvRows (toBlob t0 cfg nm hm nR out).tree taint ck
        (toBlob t0 cfg nm hm nR out).results = .ok rows ∧
      rows = (toBlob t0 cfg nm hm nR out).results.map (fun r =>
        (Output.csvKeys (toBlob t0 cfg nm hm nR out).tree).map
          (Output.cellSpec (toBlob t0 cfg nm hm nR out).tree taint ck r)) ∧
      rows.length = cells.length ∧
      rows.map (·.head?) = ids.map (fun i => some (Output.Cell.str i)) := by
  have rt := runTree_reduces hwf0 hrun
  have hinv := pipeline_outInv t0 t cfg vote nm hm nR ids cells order hwf0 hrun hv hpay
    hch hcells hlen hnd hproc hcs horder out hout
  obtain ⟨hids, hl⟩ := (C01.order_ids t0 t cfg vote ids cells order hrun rt.wf hv hlen hnd hproc
    hcs horder).2 out hout
  refine ⟨_, csv_rows_outInv _ hinv taint ck, rfl, ?_, ?_⟩
  · simp [toBlob, hl]
  · rw [← hids]
    simp [toBlob, toRecord, Output.csvKeys, Output.cellSpec, Function.comp_def]

example : ((mapPipeline exTree { dropLevel := some 1 } (exVoteP 2) [7, 3, 9] [0, 1, 2] [0]).toOption.bind
    (fun out => (Output.csvRows (toBlob exTree { dropLevel := some 1 } none none 2 out).tree []
      (Output.confidenceKey 10) (toBlob exTree { dropLevel := some 1 } none none 2 out).results).toOption)).map
      (·.map (·.head?)) = some [some (.str 7), some (.str 3), some (.str 9)] := by
  decide +kernel

/-! ### unconditional forms: the run succeeds (C01) and its output serialises -/

/-- whatever tree the run votes on (any `drop_level` / `flatten`): the run succeeds
(`C01.runs_path`), its output round-trips through HDF5 and is written to CSV with one row per
query cell in query order.  The three theorems after it are this one with `runTree` computed. -/
theorem pipeline_serialised {κ} {t0 t : RawTree} {cfg : Config} {vote : Oracle κ}
    (nm : NameMapper) (hm : HierarchyMapper) {nR : Nat}
    {ids : List CellId} {cells : List κ} {order : List Nat}
    (hwf0 : wfb t0 = true) (hrun : runTree t0 cfg = .ok t)
    (hv : VoteOK t vote) (hpay : PayloadOK nR t vote) (hch : hasChoice t = true)
    (hcells : cells ≠ []) (hlen : ids.length = cells.length) (hnd : ids.Nodup)
    (hproc : 1 ≤ cfg.nProc) (hcs : 1 ≤ cfg.chunkSize)
    (horder : order.Perm (List.range
      (chunks cells.length (effChunk cells.length cfg.nProc cfg.chunkSize)).length)) :
    ∃ out, mapPipeline t0 cfg vote ids cells order = .ok out ∧
      (∃ h, Output.toH5 (toBlob t0 cfg nm hm nR out) = .ok h ∧
        Output.ofH5 h = .ok (toBlob t0 cfg nm hm nR out)) ∧
      ∀ taint ck, ∃ rows, Output.csvRows (toBlob t0 cfg nm hm nR out).tree taint ck
          (toBlob t0 cfg nm hm nR out).results = .ok rows ∧
        rows.map (·.head?) = ids.map (fun i => some (Output.Cell.str i)) := by
  obtain ⟨out, hout, _⟩ := C01.runs_path hwf0 hrun hv hlen hnd hproc hcs horder
  refine ⟨out, hout, (pipeline_h5_roundtrip t0 t cfg vote nm hm nR ids cells order hwf0 hrun hv
    hpay hch hcells hlen hnd hproc hcs horder _ hout).1, fun taint ck => ?_⟩
  obtain ⟨rows, h1, _, _, h4⟩ := pipeline_csv_rows t0 t cfg vote nm hm nR ids cells order hwf0
    hrun hv hpay hch hcells hlen hnd hproc hcs horder _ hout taint ck
  exact ⟨rows, h1, h4⟩

/-- plain run (no `drop_level`, no `flatten`): on a well-formed tree the
mapping cannot fail, and its output round-trips through
HDF5 and is written to CSV with one row per query cell in query order -/
theorem pipeline_serialised_plain {κ} (t0 : RawTree) (cfg : Config) (vote : Oracle κ)
    (nm : NameMapper) (hm : HierarchyMapper) (nR : Nat)
    (ids : List CellId) (cells : List κ) (order : List Nat)
    (hdrop : cfg.dropLevel = none) (hflat : cfg.flatten = false)
    (hwf : wfb t0 = true) (hv : VoteOK t0 vote) (hpay : PayloadOK nR t0 vote)
    (hch : hasChoice t0 = true)
    (hcells : cells ≠ []) (hlen : ids.length = cells.length) (hnd : ids.Nodup)
    (hproc : 1 ≤ cfg.nProc) (hcs : 1 ≤ cfg.chunkSize)
    (horder : order.Perm (List.range
      (chunks cells.length (effChunk cells.length cfg.nProc cfg.chunkSize)).length)) :
    ∃ out, mapPipeline t0 cfg vote ids cells order = .ok out ∧
      (∃ h, Output.toH5 (toBlob t0 cfg nm hm nR out) = .ok h ∧
        Output.ofH5 h = .ok (toBlob t0 cfg nm hm nR out)) ∧
      ∀ taint ck, ∃ rows, Output.csvRows (toBlob t0 cfg nm hm nR out).tree taint ck
          (toBlob t0 cfg nm hm nR out).results = .ok rows ∧
        rows.map (·.head?) = ids.map (fun i => some (Output.Cell.str i)) := by
  have hrun : runTree t0 cfg = .ok t0 := by rw [runTree_none hdrop, hflat]; rfl
  exact pipeline_serialised nm hm hwf hrun hv hpay hch hcells hlen hnd hproc hcs horder

example : ∃ out, mapPipeline exTree { chunkSize := 2, nProc := 2 } (exVoteP 1) [7, 3, 9] [0, 1, 2]
    [1, 0] = .ok out ∧ ∃ h, Output.toH5 (toBlob exTree { chunkSize := 2, nProc := 2 } none none 1 out)
      = .ok h ∧ Output.ofH5 h = .ok (toBlob exTree { chunkSize := 2, nProc := 2 } none none 1 out) :=
  (pipeline_serialised_plain exTree { chunkSize := 2, nProc := 2 } (exVoteP 1) none none 1
    [7, 3, 9] [0, 1, 2] [1, 0] rfl rfl exTree_wf (exVoteP_ok _ _) (exVoteP_payload _ _)
    (by decide) (List.cons_ne_nil _ _) rfl (by decide) (by decide) (by decide) (by decide)).imp
    fun _ h => ⟨h.1, h.2.1⟩

/-- flattened run: never fails; the output — leaf level
voted, every coarser level inferred, `directly_assigned = False`, no runner-up
keys — round-trips through HDF5 and is written to CSV in query order -/
theorem pipeline_serialised_flatten {κ} (t0 : RawTree) (cfg : Config) (vote : Oracle κ)
    (nm : NameMapper) (hm : HierarchyMapper) (nR : Nat) (ll : Level)
    (ids : List CellId) (cells : List κ) (order : List Nat)
    (hdrop : cfg.dropLevel = none) (hflat : cfg.flatten = true)
    (hleaf : t0.leafLevel = some ll)
    (hwf : wfb t0 = true) (hv : VoteOK t0.flatten vote) (hpay : PayloadOK nR t0.flatten vote)
    (hch : hasChoice t0.flatten = true)
    (hcells : cells ≠ []) (hlen : ids.length = cells.length) (hnd : ids.Nodup)
    (hproc : 1 ≤ cfg.nProc) (hcs : 1 ≤ cfg.chunkSize)
    (horder : order.Perm (List.range
      (chunks cells.length (effChunk cells.length cfg.nProc cfg.chunkSize)).length)) :
    ∃ out, mapPipeline t0 cfg vote ids cells order = .ok out ∧
      (∃ h, Output.toH5 (toBlob t0 cfg nm hm nR out) = .ok h ∧
        Output.ofH5 h = .ok (toBlob t0 cfg nm hm nR out)) ∧
      ∀ taint ck, ∃ rows, Output.csvRows (toBlob t0 cfg nm hm nR out).tree taint ck
          (toBlob t0 cfg nm hm nR out).results = .ok rows ∧
        rows.map (·.head?) = ids.map (fun i => some (Output.Cell.str i)) := by
  have hrun : runTree t0 cfg = .ok t0.flatten := by rw [runTree_none hdrop, hflat]; rfl
  exact pipeline_serialised nm hm hwf hrun hv hpay hch hcells hlen hnd hproc hcs horder

example : ∃ out, mapPipeline exTree { flatten := true, chunkSize := 2, nProc := 2 } (exVoteP 2)
    [7, 3, 9] [0, 1, 2] [1, 0] = .ok out ∧
    ∃ h, Output.toH5 (toBlob exTree { flatten := true, chunkSize := 2, nProc := 2 } none none 2 out)
      = .ok h :=
  (pipeline_serialised_flatten exTree { flatten := true, chunkSize := 2, nProc := 2 } (exVoteP 2)
    none none 2 2 [7, 3, 9] [0, 1, 2] [1, 0] rfl rfl (by decide) exTree_wf (exVoteP_ok _ _)
    (exVoteP_payload _ _) (by decide) (List.cons_ne_nil _ _) rfl (by decide) (by decide) (by decide)
    (by decide)).imp
    fun _ h => ⟨h.1, h.2.1.imp fun _ g => g.1⟩

/-- run with `drop_level = l` (`l` a top or middle level, `cl` the level right
below it): never fails; the output — level `l` inferred from
the assignment at `cl`, all other levels voted — round-trips through HDF5 and
is written to CSV in query order -/
theorem pipeline_serialised_drop {κ} (t0 t' : RawTree) (cfg : Config) (vote : Oracle κ)
    (nm : NameMapper) (hm : HierarchyMapper) (nR : Nat)
    (l cl : Level) (pre post : List Level)
    (ids : List CellId) (cells : List κ) (order : List Nat)
    (hcfg : cfg.dropLevel = some l) (hflat : cfg.flatten = false)
    (hdrop : t0.dropLevel l = .ok t') (hs : t0.hierarchy = pre ++ l :: cl :: post)
    (hwf : wfb t0 = true) (hv : VoteOK t' vote) (hpay : PayloadOK nR t' vote)
    (hch : hasChoice t' = true)
    (hcells : cells ≠ []) (hlen : ids.length = cells.length) (hnd : ids.Nodup)
    (hproc : 1 ≤ cfg.nProc) (hcs : 1 ≤ cfg.chunkSize)
    (horder : order.Perm (List.range
      (chunks cells.length (effChunk cells.length cfg.nProc cfg.chunkSize)).length)) :
    ∃ out, mapPipeline t0 cfg vote ids cells order = .ok out ∧
      (∃ h, Output.toH5 (toBlob t0 cfg nm hm nR out) = .ok h ∧
        Output.ofH5 h = .ok (toBlob t0 cfg nm hm nR out)) ∧
      ∀ taint ck, ∃ rows, Output.csvRows (toBlob t0 cfg nm hm nR out).tree taint ck
          (toBlob t0 cfg nm hm nR out).results = .ok rows ∧
        rows.map (·.head?) = ids.map (fun i => some (Output.Cell.str i)) := by
  have hrun : runTree t0 cfg = .ok t' := by
    rw [runTree_drop hcfg (dropLevel_hierarchy hdrop).1 hdrop, hflat]; rfl
  exact pipeline_serialised nm hm hwf hrun hv hpay hch hcells hlen hnd hproc hcs horder

example : ∃ out, mapPipeline exTree { dropLevel := some 1, chunkSize := 2, nProc := 2 } (exVoteP 2)
    [7, 3, 9] [0, 1, 2] [1, 0] = .ok out ∧
    ∃ h, Output.toH5 (toBlob exTree { dropLevel := some 1, chunkSize := 2, nProc := 2 } none none 2 out)
      = .ok h :=
  (pipeline_serialised_drop exTree C01.exDropped { dropLevel := some 1, chunkSize := 2, nProc := 2 }
    (exVoteP 2) none none 2 1 2 [0] [] [7, 3, 9] [0, 1, 2] [1, 0] rfl rfl exTree_dropLevel rfl exTree_wf
    (exVoteP_ok _ _) (exVoteP_payload _ _) (by decide) (List.cons_ne_nil _ _) rfl (by decide) (by decide)
    (by decide) (by decide)).imp
    fun _ h => ⟨h.1, h.2.1.imp fun _ g => g.1⟩

end CTM.C15
