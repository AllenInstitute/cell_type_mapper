/-
  C18, files in: a query row equal BY GENE NAME to the mean profile the
  statistics file holds for a leaf maps home along the whole path.  The statistics model's
  name tables (`Props/C18/Names.lean`), the marker cache (`C08.spec`) and
  the composed election model (`Props/C18/Compose.lean`) put together.
-/
import CTM.Lemmas.EndToEnd
import CTM.Props.C18.Bridge2
import CTM.Props.C18.Names
import CTM.Props.C02.EndToEnd

namespace CTM.C18
open CTM CTM.LevelLoop CTM.OutBridge CTM.Election CTM.Numeric CTM.Compose
open CTM.Markers CTM.StageFiles CTM.EndToEnd

/-- "A query cell whose log2(CPM+1) profile equals the mean profile of a leaf
cluster is assigned to that leaf and its ancestors with bootstrapping
probability 1 and average correlation 1 at every level where a choice exists,
for any bootstrap factor, whenever no other leaf below the same node is
perfectly correlated with it on the genes used" — with the FILES as inputs.

Statistics file `f` (stored taxonomy validated; every leaf has a row; `col_names`
distinct), marker table `lk` whose cache is written (`cacheOf … = .ok`), query
gene names `Q` in ANY order.  The cell `x` equals, gene name by gene name, the
mean profile `f` holds for the leaf `lf` (`SameByName`: for every query column
named `g` that is also a reference gene, `x`'s value = `meanByName f lf g` =
row `cluster_to_row[lf]`, column `col_names.index(g)`).  Under the separation
part of the guard at every parent with a choice that has `lf` below it
(`SeparationBelow`: no raise, `lf`'s profile on the node's genes not constant on
any drawn subset, no other leaf below the node perfectly correlated with it),
the one-cell run of the level loop with the file-level election assigns `lf`'s
ancestor at EVERY level with probability 1, aggregate probability 1, no
runner-up, and correlation 1 everywhere as soon as the path offers a choice.
That the cell's profile on the node's genes IS the leaf's reference row — the
`query` clause of the guard — is derived from the files (`nodeQuery_eq_refRow`:
C08.spec pairs the columns by name, the statistics model reads the means by name). -/
theorem centroid_end_to_end (f : StatsFile) (lk : Lookup) (Q : List Gene) (rp : RunParams)
    (hv : f.tree.validate = .ok ()) (hN : f.tree.hierarchy.Nodup) (d : RawTree.DictOK f.tree)
    (hfile : FileOK f) (hcn : f.colNames.Nodup) (c : Cache)
    (hcache : cacheOf f lk Q rp.minMarkers = .ok c)
    (htie : ∀ p x V, ValidOrder V (rp.tie p x V))
    (x : List Rat) (lf : Leaf) (hl : lf ∈ leavesOf f.tree)
    (hsame : SameByName f Q x lf)
    (hsep : SeparationBelow (fileParams f lk Q rp) f.tree x lf) :
    ∃ path r, path.map (·.1) = f.tree.hierarchy ∧
      (∀ la ∈ path, lf ∈ f.tree.asLeaves la.1 la.2) ∧
      walk f.tree (electionVote (fileParams f lk Q rp)) x = .ok r ∧ assignments r = path ∧
      ∀ le ∈ r, le.2.prob = 1 ∧ le.2.agg = some 1 ∧ le.2.ru = some ([], [], []) ∧
        (le.2.corr = none ∨ le.2.corr = some 1) ∧
        (ChoiceOnPath f.tree none path → le.2.corr = some 1) := by
  have hT := Bridge.treeWF_of_WF (RawTree.WF.of_validate hv d)
  have hg := guardBelow_of_files f lk Q rp hT hfile hcn c hcache x lf hl hsame hsep
  have hll := RawTree.leafLevel_eq (RawTree.hierarchy_ne_nil_of_validate hv)
  rw [leavesOf_of_leafLevel hll] at hl
  exact centroid_maps_home_accepted (fileParams f lk Q rp) (fun p x V => htie p x V) f.tree hv d
    x lf _ hll hl hg

/-- the whole chain — first stage, marker stage, mapper, election.  The
statistics file is the one the model's first stage writes (`writeStats`) for the
validated taxonomy `t` and the reference cells `files`, afterwards rearranged by
ANY row permutation `σ` and gene permutation `π`; the query lists its genes in
any order `Q`.  A query row whose value in the column named `g` is the mean,
over exactly the cells the taxonomy lists for leaf `lf`, of gene `g`
(`memberMean`, the statistics model's `names_consistent_written_any_order`) maps home along the
whole path under the separation guard. -/
theorem centroid_end_to_end_written (σ π : List Nat) (t : RawTree) (genes : List Gene)
    (files : List (Nat × List Stats.CellRec)) (rows nProc : Nat) (f : StatsFile) (ll : Level)
    (lk : Lookup) (Q : List Gene) (rp : RunParams)
    (hrows : 1 ≤ rows) (hproc : 1 ≤ nProc) (hv : t.validate = .ok ()) (hN : t.hierarchy.Nodup)
    (d : RawTree.DictOK t) (hll : t.leafLevel = some ll)
    (hdisj : (t.level ll).Pairwise (fun a b => ∀ c ∈ a.2, c ∉ b.2))
    (hg : ∀ fl ∈ files, ∀ cell ∈ fl.2, cell.vals.length = genes.length) (hn : genes.Nodup)
    (h : writeStats t genes files rows nProc = .ok f)
    (hσ : IsPerm σ f.data.length) (hπ : IsPerm π genes.length) (c : Cache)
    (hcache : cacheOf (permuteGenes π (permuteRows σ f)) lk Q rp.minMarkers = .ok c)
    (htie : ∀ p x V, ValidOrder V (rp.tie p x V))
    (x : List Rat) (lf : Leaf) (hl : lf ∈ leavesOf t) (hx : x.length = Q.length)
    (hsame : ∀ (q : Nat) (g : Gene) (j : Nat), Q[q]? = some g → nameToIdx genes g = some j →
      x.getD q 0 = memberMean t ll files lf j)
    (hsep : SeparationBelow (fileParams (permuteGenes π (permuteRows σ f)) lk Q rp) t x lf) :
    ∃ path r, path.map (·.1) = t.hierarchy ∧ (∀ la ∈ path, lf ∈ t.asLeaves la.1 la.2) ∧
      walk t (electionVote (fileParams (permuteGenes π (permuteRows σ f)) lk Q rp)) x = .ok r ∧
      assignments r = path ∧
      ∀ le ∈ r, le.2.prob = 1 ∧ le.2.agg = some 1 ∧ le.2.ru = some ([], [], []) ∧
        (le.2.corr = none ∨ le.2.corr = some 1) ∧
        (ChoiceOnPath t none path → le.2.corr = some 1) := by
  have hkeys : (t.nodesAt ll).Nodup := d.nodesAt_nodup ll
  obtain ⟨hfok, hmean⟩ := names_consistent_written_any_order σ π t genes files rows nProc f ll
    hrows hproc hll hkeys hdisj hg h hn hσ hπ
  obtain ⟨_, hcol, htree, _, _⟩ :=
    names_consistent_written t genes files rows nProc f ll hrows hproc hll hkeys hdisj hg h
  have hcols : (permuteGenes π (permuteRows σ f)).colNames = permuteList π genes :=
    congrArg (permuteList π) hcol
  have hsameN : SameByName (permuteGenes π (permuteRows σ f)) Q x lf := by
    refine ⟨hx, fun q g hq hgm => ?_⟩
    rw [hcols, permuteList_mem π genes hπ] at hgm
    obtain ⟨j, hj⟩ := nameToIdx_of_mem genes g hgm
    rw [hmean lf hl g j hj, hsame q g j hq hj]
  -- the file's taxonomy is `t` itself
  subst htree
  exact centroid_end_to_end (permuteGenes π (permuteRows σ f)) lk Q rp hv hN d hfok
    (by rw [hcols]; exact permuteList_nodup π genes hπ hn) c hcache htie x lf hl hsameN hsep

/-! ## non-vacuity: the statistics model's example file `Ex.f0`, the marker table and query
gene order of `C02.ExE2E`, the cell `[3, 1, 2]` = the centroid of leaf 30 written
in the query's gene order (9, 7, 5) -/

namespace ExE2E

def rpH : RunParams :=
  { subsets := fun p _ => if p = none then [[0, 1, 2], [0, 1, 2]] else [[0, 1]],
    corrOf := fun _ _ _ _ => 1, tie := fun _ _ V => stableTie V, nAssign := 2, minMarkers := 1 }

abbrev P := fileParams Ex.f0 C02.ExE2E.lk C02.ExE2E.Q rpH

theorem sep : SeparationBelow P Ex.f0.tree [3, 1, 2] 30 := by
  -- everything but the `corr` clause is a finite check over the parents of the example tree
  have key : ∀ p ∈ Ex.f0.tree.allParents, ∀ l ∈ Ex.f0.tree.hierarchy,
      (match Ex.f0.tree.children p with
       | .ok kids => decide (2 ≤ kids.length →
           (30 : Node) ∈ (nodeRows (kidsOf Ex.f0.tree l kids)).1 →
           (P.subsets p [3, 1, 2] ≠ [] ∧
            (∀ s ∈ P.subsets p [3, 1, 2], ∀ i ∈ s,
              i < (P.qcols p).length ∧ i < (P.rcols p).length) ∧
            (nodeRows (kidsOf Ex.f0.tree l kids)).1 ≠ []) ∧
           ∀ s ∈ P.subsets p [3, 1, 2], var (Numeric.pick s (refRow P p 30)) ≠ 0 ∧
             ∀ m ∈ (nodeRows (kidsOf Ex.f0.tree l kids)).1, m ≠ 30 →
               corrSsq (Numeric.pick s (refRow P p m)) (Numeric.pick s (refRow P p 30)) ≠ 1)
       | .error _ => true) = true := by decide +kernel
  intro p hp l hl kids hk h2 hin
  have := key p hp l hl
  rw [hk] at this
  obtain ⟨⟨h1, h3, h4⟩, hg⟩ := of_decide_eq_true this h2 hin
  exact ⟨⟨h1, h3, h4, Nat.le_succ 1⟩, hg, fun _ _ _ => by show (1 : Rat) * |1| = 1; rw [abs_one, mul_one]⟩

end ExE2E

theorem ExE2E.same : SameByName Ex.f0 C02.ExE2E.Q [3, 1, 2] 30 := by
  have key : ∀ q ∈ List.range 3, ∀ g ∈ C02.ExE2E.Q[q]?,
      some (([3, 1, 2] : List Rat).getD q 0) = meanByName Ex.f0 30 g := by decide +kernel
  exact ⟨rfl, fun q g hq _ =>
    key q (List.mem_range.2 (List.getElem?_eq_some_iff.1 hq).1) g hq⟩

example (c : Cache) (hc : cacheOf Ex.f0 C02.ExE2E.lk C02.ExE2E.Q 1 = .ok c) :=
  centroid_end_to_end Ex.f0 C02.ExE2E.lk C02.ExE2E.Q ExE2E.rpH (by decide +kernel) (by decide)
    (RawTree.dictOK_of_b (by decide)) (fileOK_of_check _ (by decide +kernel)) (by decide) c hc
    (fun _ _ V => stableTie_valid V) [3, 1, 2] 30 (by decide) ExE2E.same ExE2E.sep

example : (cacheOf Ex.f0 C02.ExE2E.lk C02.ExE2E.Q 1).toOption.isSome = true := by decide +kernel

example : ((walk Ex.f0.tree (electionVote ExE2E.P) [3, 1, 2]).toOption.getD []).map
    (fun le => ((le.1 : Nat), (le.2.assignment : Nat), le.2.prob, le.2.corr, le.2.agg)) =
    [(0, 10, 1, some 1, some 1), (1, 30, 1, some 1, some 1)] := by decide +kernel

end CTM.C18
