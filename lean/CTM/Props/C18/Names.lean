/-
  Property C18, first sentence — "Statistics, reference markers and selected
  markers produced by the pipeline's own stages are accepted by the next stage
  and identify clusters and genes consistently by name" — the DATA side: the
  statistics file as the mapper reads it.

  Theorems about the model `CTM/Model/StageFiles.lean` for ALL statistics
  files, row orders, gene orders, marker tables and queries.

  Vocabulary (definitions in CTM/Lemmas/StageFiles.lean):
    `IsPerm perm n`        `perm` lists `0 … n-1`, each once
    `meanByName f leaf g`  the value the mapper sees for (leaf NAME, gene NAME):
                           row `cluster_to_row[leaf]`, column `col_names.index(g)`
    `FileOK f`             every leaf of the stored taxonomy has a row inside the
                           arrays, of the width of `col_names`
    `membersOf t ll files leaf`  the cells, over all files, that the taxonomy
                           lists for `leaf`
    `memberMean t ll files leaf j`  `Σ v_j / max(1, n)` over those cells
    `Ex.tr`, `Ex.files`, `Ex.genes`, `Ex.f0`, `Ex.lk`, `Ex.query`   a small instance
  and from CTM/Lemmas/Markers.lean (property C08): `TreeWF`, `Consulted`,
  `specGenes`.  The mapper theorems assume `TreeWF f.tree` beside `f.tree.validate = .ok ()`:
  the first is what the C08 theorems need, the second what the tree lemmas need; only
  `TreeWF.nodesNodup` (node names are dict keys) is independent of validation.
-/
import CTM.Lemmas.StageFiles
import CTM.Lemmas.MarkersCache

namespace CTM.C18
open CTM CTM.Stats CTM.Markers CTM.StageFiles

/-- "... identify clusters ... consistently by name": the row of means the
mapper reads for leaf `ℓ` (`get_leaf_means`) is the row `cluster_to_row[ℓ]`
points to — `sum / max(1, n_cells)` of that row, gene by gene — whatever the
order of the table and of the arrays; and the leaf-mean matrix lists the leaves
of the stored taxonomy in sorted order, its columns are `col_names`, and its
`i`-th row is the row read for its `i`-th leaf name. -/
theorem names_consistent_row_read (f : StatsFile) :
    (∀ (leaf : Leaf) (r : Nat) (row : Row), f.clusterToRow.lookup leaf = some r →
      f.data[r]? = some row → row.genes.length = f.colNames.length →
      leafMeanRow f leaf = .ok (row.genes.map (fun s => meanOf row.n s.sum))) ∧
    (∀ M : Matrix, leafMeans f = .ok M →
      M.cellIds = RawTree.sortNat (leavesOf f.tree) ∧ M.geneIds = f.colNames ∧
      M.data.length = M.cellIds.length ∧
      ∀ (i : Nat) (leaf : Leaf), M.cellIds[i]? = some leaf →
        ∃ row, M.data[i]? = some row ∧ leafMeanRow f leaf = .ok row) :=
  ⟨fun leaf r row h1 h2 h3 => leafMeanRow_of_row f leaf r row h1 h2 h3,
   fun M h => leafMeans_shape f M h⟩

example : Ex.f0.clusterToRow.lookup 31 = some 1 ∧
    Ex.f0.data[1]? = some ⟨2, [⟨6, 20, 2, 2, 2⟩, ⟨8, 40, 2, 2, 2⟩, ⟨2, 4, 1, 1, 1⟩]⟩ ∧
    leafMeanRow Ex.f0 31 = .ok [3, 4, 1] ∧
    leafMeans Ex.f0 = .ok { cellIds := [30, 31, 33], geneIds := [7, 5, 9],
                            data := [[1, 2, 3], [3, 4, 1], [2, 1, 3]] } := by
  decide +kernel

/-- "... are accepted by the next stage": a statistics file in which every leaf
of the stored taxonomy has a row (of the width of `col_names`) is read by the
mapper without error. -/
theorem names_consistent_file_accepted (f : StatsFile) (h : FileOK f) : ∃ M, leafMeans f = .ok M :=
  leafMeans_ok f h

example : FileOK Ex.f0 := fileOK_of_check _ (by decide +kernel)

/-- "... identify clusters ... consistently by name", for every row order of
the statistics file: move the rows of all arrays by any permutation and rewrite
`cluster_to_row` accordingly (what a truncation, a merge or another writer may
produce) — every leaf still reads the same row, and the leaf-mean matrix is
identical.  (No condition on `cluster_to_row`: an entry pointing outside the
arrays is an error before and after.) -/
theorem names_consistent_rows (perm : List Nat) (f : StatsFile) (h : IsPerm perm f.data.length) :
    (∀ leaf, leafMeanRow (permuteRows perm f) leaf = leafMeanRow f leaf) ∧
    leafMeans (permuteRows perm f) = leafMeans f :=
  ⟨leafMeanRow_permuteRows perm f h, leafMeans_permuteRows perm f h⟩

example : IsPerm [1, 2, 0] Ex.f0.data.length ∧
    (permuteRows [1, 2, 0] Ex.f0).clusterToRow = [(30, 1), (31, 2), (33, 0)] ∧
    (permuteRows [1, 2, 0] Ex.f0).data[0]? = Ex.f0.data[2]? ∧
    leafMeans (permuteRows [1, 2, 0] Ex.f0) = leafMeans Ex.f0 := by
  have h : IsPerm [1, 2, 0] Ex.f0.data.length := by unfold IsPerm; decide +kernel
  exact ⟨h, by decide +kernel, by decide +kernel, (names_consistent_rows _ _ h).2⟩

/-- "... identify ... genes consistently by name", for every gene order of the
statistics file: move the columns of `col_names` and of every per-gene array by
any permutation — the value read for (leaf name, gene NAME) is unchanged.
Hypotheses: gene names distinct (they are the keys of the name → column dict)
and every row as wide as `col_names` (the arrays are rectangular). -/
theorem names_consistent_genes (perm : List Nat) (f : StatsFile)
    (h : IsPerm perm f.colNames.length) (hn : f.colNames.Nodup)
    (hw : ∀ row ∈ f.data, row.genes.length = f.colNames.length) :
    ∀ (leaf : Leaf) (g : Gene), meanByName (permuteGenes perm f) leaf g = meanByName f leaf g :=
  meanByName_permuteGenes perm f h hn hw

example : IsPerm [2, 0, 1] Ex.f0.colNames.length ∧ Ex.f0.colNames.Nodup ∧
    (∀ row ∈ Ex.f0.data, row.genes.length = Ex.f0.colNames.length) ∧
    (permuteGenes [2, 0, 1] Ex.f0).colNames = [5, 9, 7] ∧
    leafMeanRow (permuteGenes [2, 0, 1] Ex.f0) 31 = .ok [4, 1, 3] ∧
    meanByName (permuteGenes [2, 0, 1] Ex.f0) 31 9 = some 1 ∧ meanByName Ex.f0 31 9 = some 1 := by
  unfold IsPerm
  decide +kernel

/-- "Statistics ... produced by the pipeline's own stages are accepted by the
next stage and identify clusters and genes consistently by name" — the file
written by the model's own first stage (`writeStats` =
`precompute_summary_stats_from_h5ad_list_and_tree`), for every chunk size
`rows ≥ 1` and worker count `nProc ≥ 1`.  Hypotheses: the leaf level's dict has
distinct keys, the cell lists of the leaves are pairwise disjoint (what
`validate_taxonomy_tree` guarantees, hypothesis of `C09.name_table_lookup`),
every cell has one value per gene name.  When the stage succeeds:
 * the file is accepted by the reader (`FileOK`), `col_names` are the gene
   names handed in, the stored taxonomy is the taxonomy, the arrays are
   rectangular;
 * for every leaf `ℓ` the row the mapper reads (`cluster_to_row[ℓ]`) is the
   row the stage wrote for `ℓ` — `buf[rank of ℓ among the sorted leaf names]` —
   whose `n_cells` is the number of cells, over all files, that the taxonomy
   lists for `ℓ` (`membersOf`), and the mean read at gene position `j` is
   `Σ v_j / max(1, n)` over exactly those cells (`memberMean`);
 * read by NAME: `meanByName f ℓ g` is that mean for the column `g` has in the
   gene list. -/
theorem names_consistent_written (t : RawTree) (genes : List Gene)
    (files : List (Nat × List CellRec)) (rows nProc : Nat) (f : StatsFile) (ll : Level)
    (hrows : 1 ≤ rows) (hproc : 1 ≤ nProc) (hll : t.leafLevel = some ll)
    (hkeys : (t.nodesAt ll).Nodup)
    (hdisj : (t.level ll).Pairwise (fun a b => ∀ c ∈ a.2, c ∉ b.2))
    (hg : ∀ fl ∈ files, ∀ cell ∈ fl.2, cell.vals.length = genes.length)
    (h : writeStats t genes files rows nProc = .ok f) :
    FileOK f ∧ f.colNames = genes ∧ f.tree = t ∧
    (∀ row ∈ f.data, row.genes.length = f.colNames.length) ∧
    ∀ leaf ∈ leavesOf t,
      (∃ r row, indexIn (uniqueSorted (t.nodesAt ll)) leaf = some r ∧
        f.clusterToRow.lookup leaf = some r ∧ f.data[r]? = some row ∧
        row.n = (membersOf t ll files leaf).length ∧
        leafMeanRow f leaf = .ok (row.genes.map (fun s => meanOf row.n s.sum))) ∧
      (∃ row, leafMeanRow f leaf = .ok row ∧ row.length = genes.length ∧
        ∀ j, j < genes.length → row[j]? = some (memberMean t ll files leaf j)) ∧
      (∀ (g : Gene) (j : Nat), nameToIdx genes g = some j →
        meanByName f leaf g = some (memberMean t ll files leaf j)) := by
  obtain ⟨hcn, htr, _, _, hw, hmain⟩ :=
    writeStats_spec t genes files rows nProc f ll hrows hproc hll hkeys hdisj hg h
  subst hcn htr
  refine ⟨fun leaf hl => ?_, rfl, rfl, hw, fun leaf hl => ?_⟩
  · obtain ⟨r, row, _, e2, e3, _⟩ := hmain leaf hl
    exact ⟨r, row, e2, e3, hw row (List.mem_of_getElem? e3)⟩
  · obtain ⟨r, row, e1, e2, e3, e4, e5⟩ := hmain leaf hl
    have e0 := hw row (List.mem_of_getElem? e3)
    have e6 := leafMeanRow_of_row f leaf r row e2 e3 e0
    exact ⟨⟨r, row, e1, e2, e3, e4, e6⟩, ⟨_, e6, by simpa using e0, e5⟩, fun g j hj =>
      (meanByName_of_row f leaf r row e2 e3 e0 g j hj).trans
        (e5 j (List.getElem?_eq_some_iff.1 (getElem?_of_nameToIdx _ g j hj)).1)⟩

/-- the instance: `Ex.f0` IS the file written for `Ex.tr`, `Ex.files` (chunks of 2 rows, 2
workers); leaf 31 has the cells 101, 102 (both in file 1), values 2, 4 for gene 7 -/
example : Ex.tr.leafLevel = some 1 ∧ (Ex.tr.nodesAt 1).Nodup ∧
    (Ex.tr.level 1).Pairwise (fun a b => ∀ c ∈ a.2, c ∉ b.2) ∧
    (∀ fl ∈ Ex.files, ∀ cell ∈ fl.2, cell.vals.length = Ex.genes.length) ∧
    (writeStats Ex.tr Ex.genes Ex.files 2 2).toOption.map
        (fun f => (f.clusterToRow, f.colNames, f.data, f.tree))
      = some (Ex.f0.clusterToRow, Ex.f0.colNames, Ex.f0.data, Ex.f0.tree) ∧
    (membersOf Ex.tr 1 Ex.files 31).map (·.name) = [101, 102] ∧
    memberMean Ex.tr 1 Ex.files 31 0 = 3 ∧ meanByName Ex.f0 31 7 = some 3 := by
  decide +kernel

/-- the side condition "the stage succeeds" of `names_consistent_written` is
about the data only: when no file holds a cell the taxonomy names, the first
stage fails (`final_output` stays `None`, cf. `C09.direct_needs_wanted`)
instead of handing an all-zero file to the next stage. -/
theorem names_consistent_written_needs_cells (t : RawTree) (genes : List Gene)
    (files : List (Nat × List CellRec)) (rows nProc : Nat) (ll : Level) (hproc : 1 ≤ nProc)
    (hll : t.leafLevel = some ll)
    (hno : ∀ fl ∈ files, ∀ cell ∈ fl.2, ∀ q ∈ t.level ll, cell.name ∉ q.2) :
    writeStats t genes files rows nProc = .error (.stats .noBuffers) := by
  unfold writeStats
  simp only [hll]
  obtain ⟨tbl, htbl, _, hnone, _⟩ := nameToRowOfTree_spec (t.level ll)
  simp only [htbl]
  rw [precompute_no_wanted _ _ _ _ _ _ hproc (by
    intro fl hfl
    unfold wanted
    rw [List.any_eq_false]
    intro cell hc
    simp only [rowOf, hnone cell.name (hno fl hfl cell hc), Option.isSome_none, Bool.false_eq_true,
      not_false_eq_true])]

example : (writeStats Ex.tr Ex.genes [(0, [⟨199, [9, 9, 9]⟩])] 2 2).toOption.isNone = true ∧
    ∀ fl ∈ [(0, [(⟨199, [9, 9, 9]⟩ : CellRec)])], ∀ cell ∈ fl.2, ∀ q ∈ Ex.tr.level 1,
      cell.name ∉ q.2 := by
  decide +kernel

/-- "... for every row order ... and every gene order": the file of
`names_consistent_written`, with its rows then moved by any permutation `σ`
(and `cluster_to_row` rewritten) and its gene columns by any permutation `π`,
still gives, for every leaf NAME and gene NAME, the mean over the leaf's cells
of that gene.  Extra hypothesis: the gene names are distinct. -/
theorem names_consistent_written_any_order (σ π : List Nat) (t : RawTree) (genes : List Gene)
    (files : List (Nat × List CellRec)) (rows nProc : Nat) (f : StatsFile) (ll : Level)
    (hrows : 1 ≤ rows) (hproc : 1 ≤ nProc) (hll : t.leafLevel = some ll)
    (hkeys : (t.nodesAt ll).Nodup)
    (hdisj : (t.level ll).Pairwise (fun a b => ∀ c ∈ a.2, c ∉ b.2))
    (hg : ∀ fl ∈ files, ∀ cell ∈ fl.2, cell.vals.length = genes.length)
    (h : writeStats t genes files rows nProc = .ok f) (hn : genes.Nodup)
    (hσ : IsPerm σ f.data.length) (hπ : IsPerm π genes.length) :
    FileOK (permuteGenes π (permuteRows σ f)) ∧
    ∀ leaf ∈ leavesOf t, ∀ (g : Gene) (j : Nat), nameToIdx genes g = some j →
      meanByName (permuteGenes π (permuteRows σ f)) leaf g
        = some (memberMean t ll files leaf j) := by
  obtain ⟨h1, h2, _, h4, h5⟩ :=
    names_consistent_written t genes files rows nProc f ll hrows hproc hll hkeys hdisj hg h
  have hπ' : IsPerm π f.colNames.length := by rw [h2]; exact hπ
  refine ⟨fileOK_permute σ π f hσ hπ' h1, fun leaf hl g j hj => ?_⟩
  rw [meanByName_permute σ π f hσ hπ' (by rw [h2]; exact hn) h4 leaf g]
  exact (h5 leaf hl).2.2 g j hj

example : IsPerm [1, 2, 0] Ex.f0.data.length ∧ IsPerm [2, 0, 1] Ex.genes.length ∧ Ex.genes.Nodup ∧
    meanByName (permuteGenes [2, 0, 1] (permuteRows [1, 2, 0] Ex.f0)) 31 7 = some 3 ∧
    nameToIdx Ex.genes 7 = some 0 ∧ memberMean Ex.tr 1 Ex.files 31 0 = 3 := by
  unfold IsPerm
  decide +kernel

/-- "Statistics ... and selected markers produced by the pipeline's own stages
are accepted by the next stage and identify clusters and genes consistently by
name" — the composition, as the mapper sees it at one node
(`assemble_query_data`).  Statistics file `f` whose leaves all have a row
(`FileOK`), validated taxonomy, marker table `lk` for which the marker cache
could be created against the file's `col_names` and the query's gene names,
rectangular query matrix: for every consulted parent the node's matrices are
built without error, and
 * column `j` of the query matrix and column `j` of the reference matrix are
   the SAME gene name `names[j]`; as a set the names are the node's markers
   `specGenes` (property C08), none repeated;
 * the rows of the reference matrix are the leaves below the node, by NAME,
   in sorted order; entry `(i, j)` is the mean the statistics file holds for
   (leaf name, gene name) — `meanByName`, i.e. row `cluster_to_row[leaf]`,
   column `col_names.index(gene)`;
 * entry `(k, j)` of the query matrix is the query's value of cell `k` in the
   column NAMED `names[j]`.
(`col_names` / the query's gene names need not even be distinct: both sides
resolve a repeated name to its last column.) -/
theorem names_consistent_mapper (f : StatsFile) (lk : Lookup) (query : Matrix) (m : Nat) (p : PKey)
    (c : Cache) (hT : TreeWF f.tree) (hv : f.tree.validate = .ok ())
    (hq : ∀ row ∈ query.data, row.length = query.geneIds.length) (hf : FileOK f)
    (hp : p ∈ f.tree.allParents) (hc : Consulted f.tree p)
    (hcache : createCache (some f.tree) lk f.colNames query.geneIds m = .ok c) :
    ∃ names nd, mapperNode f lk query m p = .ok nd ∧ nd.query.geneIds = names ∧
      nd.reference.geneIds = names ∧
      (∀ g, g ∈ names ↔ g ∈ specGenes f.tree lk query.geneIds m p) ∧ names.Nodup ∧
      (∀ g ∈ names, g ∈ f.colNames ∧ g ∈ query.geneIds) ∧
      leavesUnder f.tree p = .ok nd.reference.cellIds ∧ nd.query.cellIds = query.cellIds ∧
      nd.reference.data.length = nd.reference.cellIds.length ∧
      nd.query.data.length = query.data.length ∧
      (∀ (i : Nat) (leaf : Leaf) (j : Nat) (g : Gene), nd.reference.cellIds[i]? = some leaf →
        names[j]? = some g → (nd.reference.data[i]?.bind (·[j]?)) = meanByName f leaf g) ∧
      (∀ (k j : Nat) (g : Gene), names[j]? = some g →
        (nd.query.data[k]?.bind (·[j]?)) =
          (query.data[k]?.bind (fun row => (nameToIdx query.geneIds g).bind (row[·]?)))) := by
  obtain ⟨rows, names, hg, hrf, _, _, _, hmem, hnd⟩ :=
    createCache_group f.tree (treeOK_of_wf f.tree hT) lk f.colNames query.geneIds m c hcache p hp hc
  obtain ⟨hR, hQ⟩ := createCache_names _ _ _ _ _ _ hcache
  obtain ⟨hnR, hnQ⟩ := rowsFor_namesAt _ _ _ _ hrf
  obtain ⟨means, hmeans⟩ := leafMeans_ok f hf
  obtain ⟨hm1, hm2, hm3, _⟩ := leafMeans_shape f means hmeans
  obtain ⟨leaves, hleaves⟩ := leavesUnder_ok f.tree hT p hp hc
  have hin := rowsFor_mem _ _ _ _ hrf
  have hsub := leavesUnder_sub f.tree hT (RawTree.strict_of_validate hv) p leaves hleaves
  have hrow := fun leaf hl => leafMeans_row_by_name f means hmeans leaf (hsub leaf hl)
  have hrect : ∀ row ∈ rowsByName means.cellIds leaves means.data,
      row.length = f.colNames.length := by
    intro row hr
    obtain ⟨leaf, hl, rfl⟩ := List.mem_map.1 hr
    exact leafMeanRow_length_of_fileOK f hf leaf (hsub leaf hl) _ (hrow leaf hl)
  refine ⟨names, ⟨⟨query.cellIds, names, colsByName query.geneIds names query.data⟩,
    ⟨leaves, names, colsByName means.geneIds names (rowsByName means.cellIds leaves means.data)⟩⟩,
    ?_, rfl, rfl, hmem, hnd, hin, hleaves, rfl, (colsByName_length _ _ _).trans (rowsByName_length _ _ _),
    colsByName_length _ _ _, ?_, ?_⟩
  · rw [mapperNode]
    simp only [hmeans, hcache]
    rw [← hR] at hnR
    rw [← hQ] at hnQ
    exact assembleData_eq f.tree c means query p leaves rows names hleaves hg hnQ hnR
      (fun g hg => (hin g hg).2) (fun g hg => by rw [hm2]; exact (hin g hg).1) hq
      (fun leaf hl => by rw [hm1, RawTree.mem_sortNat]; exact hsub leaf hl) hm3 (by rw [hm2]; exact hrect)
  · intro i leaf j g hi hj
    simp only at hi ⊢
    rw [hm2, colsByName_entry f.colNames names _ (fun g hg => (hin g hg).1) hrect i j g hj,
      rowsByName, List.getElem?_map, hi, Option.map_some, Option.bind_some, meanByName,
      hrow leaf (List.mem_of_getElem? hi)]
    cases nameToIdx f.colNames g <;> rfl
  · exact colsByName_entry query.geneIds names query.data (fun g hg => (hin g hg).2) hq

/-- the instance: at the root the markers are 7 and 9 (columns 0, 2 of the file; 2, 0 of the
query), at class 10 the marker is 5 (column 1 of the file, 3 of the query) -/
example : TreeWF Ex.f0.tree ∧ Ex.f0.tree.validate = .ok () ∧
    (∀ row ∈ Ex.query.data, row.length = Ex.query.geneIds.length) ∧
    none ∈ Ex.f0.tree.allParents ∧ some (0, 10) ∈ Ex.f0.tree.allParents ∧
    (createCache (some Ex.f0.tree) Ex.lk Ex.f0.colNames Ex.query.geneIds 1).toBool = true ∧
    mapperNode Ex.f0 Ex.lk Ex.query 1 none = .ok
      { query := { cellIds := [0, 1], geneIds := [7, 9], data := [[3, 1], [7, 5]] },
        reference := { cellIds := [30, 31, 33], geneIds := [7, 9], data := [[1, 3], [3, 1], [2, 3]] } } ∧
    mapperNode Ex.f0 Ex.lk Ex.query 1 (some (0, 10)) = .ok
      { query := { cellIds := [0, 1], geneIds := [5], data := [[4], [8]] },
        reference := { cellIds := [30, 31], geneIds := [5], data := [[2], [4]] } } :=
  ⟨⟨by decide +kernel, by decide +kernel, by decide +kernel, by decide +kernel⟩, by decide +kernel, by decide +kernel, by decide +kernel, by decide +kernel,
    by decide +kernel, by decide +kernel, by decide +kernel⟩
example : Consulted Ex.f0.tree none ∧ Consulted Ex.f0.tree (some (0, 10)) :=
  ⟨⟨[11, 10], rfl, by decide +kernel⟩, ⟨[31, 30], rfl, by decide +kernel⟩⟩

/-- "... consistently by name", for every row order and every gene order of
the statistics file at once: hand the mapper the file with its rows moved by
`σ` and its gene columns moved by `π` (marker cache created against the NEW
`col_names`).  The node's matrices are still built without error, their
columns are still one list of gene names on both sides (the same SET of names,
`specGenes`), their rows the leaves below the node by name, and every entry of
the reference matrix is the value the ORIGINAL file holds for (leaf name, gene
name).  Extra hypotheses: gene names distinct, rectangular arrays. -/
theorem names_consistent_mapper_any_order (σ π : List Nat) (f : StatsFile) (lk : Lookup)
    (query : Matrix) (m : Nat) (p : PKey) (c : Cache)
    (hσ : IsPerm σ f.data.length) (hπ : IsPerm π f.colNames.length)
    (hT : TreeWF f.tree) (hv : f.tree.validate = .ok ()) (hn : f.colNames.Nodup)
    (hw : ∀ row ∈ f.data, row.genes.length = f.colNames.length)
    (hq : ∀ row ∈ query.data, row.length = query.geneIds.length) (hf : FileOK f)
    (hp : p ∈ f.tree.allParents) (hc : Consulted f.tree p)
    (hcache : createCache (some f.tree) lk (permuteGenes π (permuteRows σ f)).colNames
      query.geneIds m = .ok c) :
    ∃ names nd, mapperNode (permuteGenes π (permuteRows σ f)) lk query m p = .ok nd ∧
      nd.query.geneIds = names ∧ nd.reference.geneIds = names ∧
      (∀ g, g ∈ names ↔ g ∈ specGenes f.tree lk query.geneIds m p) ∧ names.Nodup ∧
      (∀ g ∈ names, g ∈ f.colNames ∧ g ∈ query.geneIds) ∧
      leavesUnder f.tree p = .ok nd.reference.cellIds ∧ nd.query.cellIds = query.cellIds ∧
      nd.reference.data.length = nd.reference.cellIds.length ∧
      nd.query.data.length = query.data.length ∧
      (∀ (i : Nat) (leaf : Leaf) (j : Nat) (g : Gene), nd.reference.cellIds[i]? = some leaf →
        names[j]? = some g → (nd.reference.data[i]?.bind (·[j]?)) = meanByName f leaf g) ∧
      (∀ (k j : Nat) (g : Gene), names[j]? = some g →
        (nd.query.data[k]?.bind (·[j]?)) =
          (query.data[k]?.bind (fun row => (nameToIdx query.geneIds g).bind (row[·]?)))) := by
  obtain ⟨names, nd, h1, h2, h3, h4, h5, hin, h6, h7, h8, h9, h10, h11⟩ :=
    names_consistent_mapper (permuteGenes π (permuteRows σ f)) lk query m p c hT hv hq
      (fileOK_permute σ π f hσ hπ hf) hp hc hcache
  refine ⟨names, nd, h1, h2, h3, h4, h5, ?_, h6, h7, h8, h9, ?_, h11⟩
  · intro g hg
    exact ⟨(permuteList_mem π f.colNames hπ g).1 (hin g hg).1, (hin g hg).2⟩
  · intro i leaf j g hi hj
    rw [h10 i leaf j g hi hj]
    exact meanByName_permute σ π f hσ hπ hn hw leaf g

/-- rows moved by [1,2,0], genes by [2,0,1] (`col_names` = 5, 9, 7): at the root the names now
come in the order 9, 7 (reference index order), the entries are the same values by name -/
example : IsPerm [1, 2, 0] Ex.f0.data.length ∧ IsPerm [2, 0, 1] Ex.f0.colNames.length ∧
    (createCache (some Ex.f0.tree) Ex.lk (permuteGenes [2, 0, 1] (permuteRows [1, 2, 0] Ex.f0)).colNames
      Ex.query.geneIds 1).toBool = true ∧
    mapperNode (permuteGenes [2, 0, 1] (permuteRows [1, 2, 0] Ex.f0)) Ex.lk Ex.query 1 none = .ok
      { query := { cellIds := [0, 1], geneIds := [9, 7], data := [[1, 3], [5, 7]] },
        reference := { cellIds := [30, 31, 33], geneIds := [9, 7], data := [[3, 1], [1, 3], [3, 2]] } } ∧
    meanByName Ex.f0 33 9 = some 3 ∧ meanByName Ex.f0 33 7 = some 2 := by
  unfold IsPerm
  decide +kernel

/-- "Statistics ... and selected markers produced by the pipeline's own stages
are accepted by the next stage and identify clusters and genes consistently by
name" — first stage and mapper end to end.  The statistics file is the one the
model's first stage writes for a validated taxonomy `t` (any chunk size and
worker count), afterwards rearranged by ANY row permutation `σ` and ANY gene
permutation `π`; the marker cache is created against the rearranged
`col_names` and the query's gene names.  Then for every consulted parent the
mapper builds its matrices without error; query and reference matrix carry the
same list of gene names (the node's markers `specGenes`), the reference rows are
the leaves below the node by name, and the reference entry for (leaf `ℓ`, gene
name `g`) is the mean, over exactly the cells the taxonomy lists for `ℓ` in all
files, of the value in the column `g` had in the gene list handed to the first
stage; the query entry is the query's value in the column NAMED `g`. -/
theorem names_consistent_pipeline (σ π : List Nat) (t : RawTree) (genes : List Gene)
    (files : List (Nat × List CellRec)) (rows nProc : Nat) (f : StatsFile) (ll : Level)
    (lk : Lookup) (query : Matrix) (m : Nat) (p : PKey) (c : Cache)
    (hrows : 1 ≤ rows) (hproc : 1 ≤ nProc) (hT : TreeWF t) (hv : t.validate = .ok ())
    (hll : t.leafLevel = some ll)
    (hg : ∀ fl ∈ files, ∀ cell ∈ fl.2, cell.vals.length = genes.length) (hn : genes.Nodup)
    (h : writeStats t genes files rows nProc = .ok f)
    (hσ : IsPerm σ f.data.length) (hπ : IsPerm π genes.length)
    (hq : ∀ row ∈ query.data, row.length = query.geneIds.length)
    (hp : p ∈ t.allParents) (hc : Consulted t p)
    (hcache : createCache (some t) lk (permuteList π genes) query.geneIds m = .ok c) :
    ∃ names nd, mapperNode (permuteGenes π (permuteRows σ f)) lk query m p = .ok nd ∧
      nd.query.geneIds = names ∧ nd.reference.geneIds = names ∧
      (∀ g, g ∈ names ↔ g ∈ specGenes t lk query.geneIds m p) ∧ names.Nodup ∧
      leavesUnder t p = .ok nd.reference.cellIds ∧ nd.query.cellIds = query.cellIds ∧
      (∀ (i : Nat) (leaf : Leaf) (j : Nat) (g : Gene), nd.reference.cellIds[i]? = some leaf →
        names[j]? = some g → ∃ col, nameToIdx genes g = some col ∧
          (nd.reference.data[i]?.bind (·[j]?)) = some (memberMean t ll files leaf col)) ∧
      (∀ (k j : Nat) (g : Gene), names[j]? = some g →
        (nd.query.data[k]?.bind (·[j]?)) =
          (query.data[k]?.bind (fun row => (nameToIdx query.geneIds g).bind (row[·]?)))) := by
  have hkeys : (t.nodesAt ll).Nodup := hT.nodesNodup ll (leafLevel_mem t ll hll)
  have hdisj := disjoint_of_strict t (RawTree.strict_of_validate hv) ll hll
  obtain ⟨hok, hcn, htree, hw, hleaf⟩ :=
    names_consistent_written t genes files rows nProc f ll hrows hproc hll hkeys hdisj hg h
  subst htree
  subst hcn
  obtain ⟨names, nd, h1, h2, h3, h4, h5, hin, h6, h7, _, _, h10, h11⟩ :=
    names_consistent_mapper_any_order σ π f lk query m p c hσ hπ hT hv hn hw hq hok hp hc hcache
  refine ⟨names, nd, h1, h2, h3, h4, h5, h6, h7, ?_, h11⟩
  intro i leaf j g hi hj
  have hgn := (hin g (List.mem_of_getElem? hj)).1
  obtain ⟨col, hcol⟩ := nameToIdx_of_mem f.colNames g hgn
  have hl : leaf ∈ leavesOf f.tree :=
    leavesUnder_sub f.tree hT (RawTree.strict_of_validate hv) p _ h6 leaf
      (List.mem_of_getElem? hi)
  refine ⟨col, hcol, ?_⟩
  rw [h10 i leaf j g hi hj]
  exact (hleaf leaf hl).2.2 g col hcol

/-- class 10 of the instance (leaves 30, 31; marker 5 = column 1 of `Ex.genes`): means 2 and 4 -/
example : mapperNode (permuteGenes [2, 0, 1] (permuteRows [1, 2, 0] Ex.f0)) Ex.lk Ex.query 1
      (some (0, 10)) = .ok
      { query := { cellIds := [0, 1], geneIds := [5], data := [[4], [8]] },
        reference := { cellIds := [30, 31], geneIds := [5], data := [[2], [4]] } } ∧
    nameToIdx Ex.genes 5 = some 1 ∧ memberMean Ex.tr 1 Ex.files 30 1 = 2 ∧
    memberMean Ex.tr 1 Ex.files 31 1 = 4 ∧
    (createCache (some Ex.tr) Ex.lk (permuteList [2, 0, 1] Ex.genes) Ex.query.geneIds 1).toBool
      = true := by
  decide +kernel

end CTM.C18
