/-
  C18, first sentence — "Statistics, reference markers and selected markers
  produced by the pipeline's own stages are accepted by the next stage and
  identify clusters and genes consistently by name" — the INDEX side: genes,
  leaf pairs, the marker table and its acceptance.

  Model: CTM/Model/StageFiles.lean (`RefFile`, `prepOutput` = `_prep_output_file`,
  `idxToPair` = the finder's `idx_to_pair`, `idxOfPair` = `MarkerGeneArray.idx_of_pair`,
  `taxonomyIdx` = `selection._get_taxonomy_idx`, `geneNamesAt` =
  `gene_names[chosen_idx]`, `markerTable` = the dict assembled from
  `create_raw_marker_gene_lookup`'s workers), CTM/Model/Markers.lean (`createCache`).
  Theorems about the executable model for ALL inputs; helper lemmas in
  CTM/Lemmas/StageFilesPairs.lean.
  Two hypotheses on the taxonomy occur: `RawTree.WF` where the proof rests on `C10.pairs_exact`
  (`names_consistent_pairs_resolve`), `Markers.TreeWF` where it rests on the C08 theorems (the
  table theorems).  `Bridge.treeWF_of_WF` (CTM/Lemmas/BridgeWF.lean) gives the second from the first.
-/
import CTM.Lemmas.StageFilesPairs

namespace CTM.C18
open CTM CTM.Markers CTM.StageFiles CTM.StageFilesPairs

/-- "... identify … genes consistently by name" (statistics file → reference-marker file):
the reference-marker file carries the statistics file's `col_names` unchanged as its
`gene_names` and one row per entry of the finder's `idx_to_pair`; hence (gene names being
distinct) the gene with name `g` in the reference-marker file sits at position
`col_names.index(g)`, i.e. it is column `g` of the statistics file. -/
theorem names_consistent_gene_names (f : StatsFile) :
    (refFileOf f).geneNames = f.colNames ∧
    (refFileOf f).nPairs = (idxToPair (leavesOf f.tree)).length ∧
    (f.colNames.Nodup →
      ∀ g i, nameToIdx f.colNames g = some i ↔ (refFileOf f).geneNames[i]? = some g) :=
  ⟨rfl, rfl, fun hn g i => nameToIdx_eq_some_iff f.colNames hn g i⟩

example : (refFileOf { clusterToRow := [], colNames := [7, 5, 9], data := [], tree := exTr }).geneNames
      = [7, 5, 9] ∧
    nameToIdx [7, 5, 9] 9 = some 2 ∧ nameToIdx [7, 5, 9] 4 = none ∧
    (refFileOf { clusterToRow := [], colNames := [7, 5, 9], data := [], tree := exTr }).nPairs = 3 := by
  decide +kernel

/-- "... genes consistently by name" (reference-marker file → marker table): the selection
stage turns chosen POSITIONS into NAMES with `gene_names[chosen_idx]`; this succeeds exactly
when every position is inside `gene_names`, returns the names at those positions in the same
order, every returned name is one of `gene_names`, and the only possible failure is the
`IndexError`. -/
theorem names_consistent_positions_to_names (G : List Gene) (idxs : List Nat) :
    (∀ names, geneNamesAt G idxs = .ok names ↔
      (∀ i ∈ idxs, i < G.length) ∧ names = idxs.map (fun i => G.getD i 0)) ∧
    (∀ names, geneNamesAt G idxs = .ok names ↔
      List.Forall₂ (fun i g => G[i]? = some g) idxs names) ∧
    (∀ names, geneNamesAt G idxs = .ok names → ∀ g ∈ names, g ∈ G) ∧
    (∀ e, geneNamesAt G idxs = .error e → e = .badGeneIndex ∧ ∃ i ∈ idxs, G.length ≤ i) :=
  ⟨fun names => geneNamesAt_ok_iff G idxs names,
   fun names => geneNamesAt_ok_iff_forall₂ G idxs names,
   fun names h => geneNamesAt_mem G idxs names h,
   fun e h => geneNamesAt_error G idxs e h⟩

example : geneNamesAt [7, 5, 9] [2, 0, 2] = .ok [9, 7, 9] ∧
    geneNamesAt [7, 5, 9] [0, 3] = .error .badGeneIndex := by decide +kernel

/-- "... identify clusters … consistently by name" (reference-marker file ↔ marker finder):
for distinct leaf names, `pair_to_idx` written by `_prep_output_file` is exactly the inverse of
the `idx_to_pair` the finder scores by — `idx_of_pair(a, b) = k` iff row `k` of every marker
table belongs to the pair `idx_to_pair[k] = (a, b)`; every index returned is `< n_pairs`, every
row `< n_pairs` is the index of a pair; `idx_of_pair` answers for every ordered pair `a < b`
of leaves and raises ("not a valid taxonomy pair specification") on everything else; and
`n_pairs = n (n-1) / 2`. -/
theorem names_consistent_pair_index (leaves : List Leaf) (names : List Gene) (h : leaves.Nodup) :
    let r := prepOutput leaves names
    (∀ x k, idxOfPair r x = .ok k ↔ (idxToPair leaves)[k]? = some x) ∧
    (∀ x k, idxOfPair r x = .ok k → k < r.nPairs) ∧
    (∀ k, k < r.nPairs → ∃ x, idxOfPair r x = .ok k) ∧
    (∀ a b, a ∈ leaves → b ∈ leaves → a < b → ∃ k, idxOfPair r (a, b) = .ok k) ∧
    (∀ a b, idxOfPair r (a, b) = .error .badPair ↔ ¬ (a ∈ leaves ∧ b ∈ leaves ∧ a < b)) ∧
    (∀ x e, idxOfPair r x = .error e → e = .badPair) ∧
    r.nPairs = leaves.length * (leaves.length - 1) / 2 := by
  intro r
  refine ⟨idxOfPair_prepOutput leaves names h, ?_, ?_, idxOfPair_prepOutput_total leaves names h,
    idxOfPair_prepOutput_error_iff leaves names h, idxOfPair_error r,
    (idxToPair_spec leaves h).2.2⟩
  · intro x k hk
    have := (idxOfPair_prepOutput leaves names h x k).1 hk
    exact (List.getElem?_eq_some_iff.1 this).1
  · intro k hk
    exact ⟨(idxToPair leaves)[k]'hk,
      (idxOfPair_prepOutput leaves names h _ k).2 (List.getElem?_eq_getElem hk)⟩

example : prepOutput [33, 30, 31] [7, 5, 9] =
      { geneNames := [7, 5, 9], pairToIdx := [((30, 31), 0), ((30, 33), 1), ((31, 33), 2)], nPairs := 3 } ∧
    idxToPair [33, 30, 31] = [(30, 31), (30, 33), (31, 33)] ∧
    idxOfPair (prepOutput [33, 30, 31] [7, 5, 9]) (31, 33) = .ok 2 ∧
    idxOfPair (prepOutput [33, 30, 31] [7, 5, 9]) (33, 31) = .error .badPair ∧
    [33, 30, 31].Nodup := by decide +kernel

/-- "reference markers … produced by the pipeline's own stages are accepted by the next stage
and identify clusters … consistently by name": for a validated taxonomy (C10's `WF`) and the
reference-marker file `_prep_output_file` wrote for it, the selection stage's
`_get_taxonomy_idx(parent)` never raises — `idx_of_pair` knows every pair `leaves_to_compare`
asks for — for EVERY parent key (where `children` would raise or there is no level below, the
list of pairs is empty), and the columns it returns (sorted, no repetition, all `< n_pairs`, as
many as there are pairs) are exactly the finder's rows `idx_to_pair[k]` of those pairs; distinct
pairs of the parent get distinct columns (`IdxInjOn`, the hypothesis of the C12 bridge). -/
theorem names_consistent_pairs_resolve (t : RawTree) (w : RawTree.WF t) (names : List Gene)
    (parent : PKey) :
    let r := prepOutput (leavesOf t) names
    (∃ ks, taxonomyIdx r t parent = .ok ks ∧ ks.Nodup ∧ ks.Pairwise (· < ·) ∧
      ks.length = (t.leafPairs parent).length ∧ (∀ k ∈ ks, k < r.nPairs) ∧
      (∀ k, k ∈ ks ↔ ∃ x ∈ t.leafPairs parent, (idxToPair (leavesOf t))[k]? = some x)) ∧
    (∀ x ∈ t.leafPairs parent, ∃ k, idxOfPair r x = .ok k ∧ (idxToPair (leavesOf t))[k]? = some x) ∧
    Bridge.IdxInjOn (fun x => (idxOfPair r x).toOption.getD 0) (t.leafPairs parent) := by
  intro r
  obtain ⟨ks, h1, h2, h3, h4⟩ := taxonomyIdx_spec w names parent
  refine ⟨⟨ks, h1, ?_, h2, h3, ?_, h4⟩, ?_, idxInjOn_prepOutput w names parent⟩
  · exact h2.imp (fun h => Nat.ne_of_lt h)
  · intro k hk
    obtain ⟨x, _, hx⟩ := (h4 k).1 hk
    exact (List.getElem?_eq_some_iff.1 hx).1
  · intro x hx
    have hk := idxOfPair_prepOutput_eq (leavesOf t) names x
    rw [if_pos (leafPairs_sub_idxToPair w parent x hx)] at hk
    exact ⟨_, hk, (idxOfPair_prepOutput _ names (leavesOf_nodup w) x _).1 hk⟩

example : RawTree.WF exTr ∧ leavesOf exTr = [33, 30, 31] ∧
    exTr.leafPairs none = [(31, 33), (30, 33)] ∧
    taxonomyIdx (prepOutput (leavesOf exTr) [7, 5, 9]) exTr none = .ok [1, 2] ∧
    taxonomyIdx (prepOutput (leavesOf exTr) [7, 5, 9]) exTr (some (0, 10)) = .ok [0] ∧
    taxonomyIdx (prepOutput (leavesOf exTr) [7, 5, 9]) exTr (some (0, 11)) = .ok [] :=
  ⟨exTr_wf, by decide +kernel, by decide +kernel, by decide +kernel, by decide +kernel, by decide +kernel⟩

/-- "selected markers produced by the pipeline's own stages … identify clusters and genes
consistently by name": the marker table written by the selection stage (one entry per parent
the workers delivered, in delivery order `order`; `chosen p` = the positions selected for `p`)
has exactly the delivered parents as keys, in that order; the list under key `p` is
`gene_names[chosen p]` of the reference-marker file, so every listed gene is a reference gene;
the table exists exactly when every chosen position is inside `gene_names` (the only failure is
the `IndexError`); and when the delivered parents are `taxonomy_tree.all_parents` of a
well-formed taxonomy in any order, the table is a dict (distinct keys) each of whose keys
`'None'` / `'level/node'` names a parent of that taxonomy. -/
theorem names_consistent_table (r : RefFile) (order : List PKey) (chosen : PKey → List Nat) :
    (∀ lk, markerTable r order chosen = .ok lk →
      lk.map (·.1) = order ∧ (∀ e ∈ lk, ∀ g ∈ e.2, g ∈ r.geneNames) ∧
      (∀ p gs, (p, gs) ∈ lk → geneNamesAt r.geneNames (chosen p) = .ok gs) ∧
      (∀ k, get? lk k =
        if k ∈ order then some ((chosen k).map (fun i => r.geneNames.getD i 0)) else none)) ∧
    ((∃ lk, markerTable r order chosen = .ok lk) ↔
      ∀ p ∈ order, ∀ i ∈ chosen p, i < r.geneNames.length) ∧
    (∀ e, markerTable r order chosen = .error e → e = .badGeneIndex) ∧
    (∀ t : RawTree, TreeWF t → order.Perm t.allParents →
      ∀ lk, markerTable r order chosen = .ok lk →
        KeysNodup lk ∧ (∀ k ∈ lk.map (·.1), k ∈ t.allParents) ∧
        (∀ p ∈ t.allParents, ∃ gs, get? lk p = some gs)) := by
  refine ⟨fun lk h => ⟨markerTable_keys r order chosen lk h, markerTable_genes r order chosen lk h,
      fun p gs hm => (markerTable_entry r order chosen lk h p gs hm).2,
      markerTable_get? r order chosen lk h⟩, ?_, markerTable_error r order chosen, ?_⟩
  · constructor
    · rintro ⟨lk, h⟩; exact ((markerTable_ok_iff r order chosen lk).1 h).1
    · intro h; exact ⟨_, (markerTable_ok_iff r order chosen _).2 ⟨h, rfl⟩⟩
  · intro t hT hp lk h
    have hnd : order.Nodup := hp.nodup_iff.2 (treeOK_of_wf t hT).parentsNodup
    refine ⟨markerTable_keysNodup r order chosen lk h hnd, ?_, ?_⟩
    · intro k hk
      rw [markerTable_keys r order chosen lk h] at hk
      exact hp.mem_iff.1 hk
    · intro p hpm
      rw [markerTable_get? r order chosen lk h, if_pos (hp.mem_iff.2 hpm)]
      exact ⟨_, rfl⟩

example : markerTable (prepOutput [33, 30, 31] [7, 5, 9]) [some (0, 10), none, some (0, 11)]
      (fun p => if p == none then [0, 2] else [1])
      = .ok [(some (0, 10), [5]), (none, [7, 9]), (some (0, 11), [5])] ∧
    exTr.allParents = [none, some (0, 11), some (0, 10)] := by decide +kernel

example : markerTable (prepOutput [33, 30, 31] [7, 5, 9]) [none] (fun _ => [3]) = .error .badGeneIndex := by
  decide +kernel

theorem exTr_treeWF_perm :
    TreeWF exTr ∧ [some (0, 10), none, some (0, 11)].Perm exTr.allParents :=
  ⟨C08.validated_tree_is_wf exTr (by decide +kernel) (by decide +kernel) (by decide +kernel) (by decide +kernel), by decide +kernel⟩

example : TreeWF exTr ∧ [some (0, 10), none, some (0, 11)].Perm exTr.allParents :=
  exTr_treeWF_perm

/-- "... are accepted by the next stage": the marker table the selection stage makes from the
reference-marker file of a statistics file `f` (any delivery order of `all_parents`, taxonomy
well formed) is accepted by the mapper's marker cache built against the SAME statistics file
(reference gene names = `f.col_names`, taxonomy = `f.taxonomy_tree`) and query genes `Q`, as
soon as every consulted parent (two or more children) was given at least one gene and the
listed genes are query genes (the selection works on the reference genes thinned to the
query) — no name of a parent or of a gene is ever refused. -/
theorem names_consistent_accepted (f : StatsFile) (hT : TreeWF f.tree) (order : List PKey)
    (chosen : PKey → List Nat) (lk : Lookup) (Q : List Gene) (m : Nat)
    (hp : order.Perm f.tree.allParents)
    (h : markerTable (refFileOf f) order chosen = .ok lk)
    (hQ : ∀ e ∈ lk, ∀ g ∈ e.2, g ∈ Q)
    (hne : ∀ p ∈ f.tree.allParents, Consulted f.tree p → ∀ gs, (p, gs) ∈ lk → gs ≠ []) :
    ∃ c, createCache (some f.tree) lk f.colNames Q m = .ok c := by
  have hnd : order.Nodup := hp.nodup_iff.2 (treeOK_of_wf _ hT).parentsNodup
  have hk := markerTable_keysNodup _ order chosen lk h hnd
  refine C08.accepted_otherwise f.tree hT lk f.colNames Q m hk ?_
    (markerTable_genes (refFileOf f) order chosen lk h)
  intro p hpm hc
  have hpo : p ∈ order := hp.mem_iff.2 hpm
  have hget := markerTable_get? _ order chosen lk h p
  rw [if_pos hpo] at hget
  have hmem := ListAux.mem_of_lookup hget
  obtain ⟨g, hg⟩ := List.exists_mem_of_ne_nil _ (hne p hpm hc _ hmem)
  exact not_errAt_of_own f.tree lk Q m p _ hget g hg (hQ _ hmem g hg)

example : ∃ c, createCache (some exTr) [(some (0, 10), [5]), (none, [7, 9]), (some (0, 11), [5])]
    [7, 5, 9] [9, 5, 7, 4] 1 = .ok c :=
  names_consistent_accepted { clusterToRow := [], colNames := [7, 5, 9], data := [], tree := exTr }
    exTr_treeWF_perm.1
    [some (0, 10), none, some (0, 11)] (fun p => if p == none then [0, 2] else [1]) _ [9, 5, 7, 4] 1
    exTr_treeWF_perm.2 (by decide +kernel) (by decide +kernel)
    (fun p _ _ gs hm =>
      (by decide +kernel : ∀ e ∈ [(some (0, 10), [5]), ((none : PKey), [7, 9]), (some (0, 11), [5])], e.2 ≠ [])
        (p, gs) hm)

example : (createCache (some exTr) [(some (0, 10), [5]), (none, [7, 9]), (some (0, 11), [5])]
      [7, 5, 9] [9, 5, 7, 4] 1).toOption.map (·.groups)
    = some [(some (0, 10), [(1, 1)]), (none, [(0, 2), (2, 0)]), (some (0, 11), [(1, 1)])] := by
  decide +kernel

/-- "... are accepted by the next stage and identify clusters and genes consistently by name",
sharpened: against the statistics file it was derived from, a marker table made by the selection
stage can be refused by the marker cache ONLY with the two messages of `validate_marker_lookup`
about the query lacking markers — never "marker genes are not in the reference dataset", never
the cache writer's "No markers at parent node … present in query set", never a `KeyError` of a
name table — and it is accepted exactly when no consulted parent is in C08's error condition
`errAt` (root list empty / nothing the table offers the parent is a query gene). -/
theorem names_consistent_table_rejections (f : StatsFile) (hT : TreeWF f.tree) (order : List PKey)
    (chosen : PKey → List Nat) (lk : Lookup) (Q : List Gene) (m : Nat)
    (hp : order.Perm f.tree.allParents)
    (h : markerTable (refFileOf f) order chosen = .ok lk) :
    (∀ e, createCache (some f.tree) lk f.colNames Q m = .error e →
      e = .noMarkersAnyLevel ∨ e = .validating) ∧
    ((∃ c, createCache (some f.tree) lk f.colNames Q m = .ok c) ↔
      ∀ p ∈ f.tree.allParents, Consulted f.tree p → ¬ errAt f.tree lk Q m p) := by
  have hnd : order.Nodup := hp.nodup_iff.2 (treeOK_of_wf _ hT).parentsNodup
  have hk := markerTable_keysNodup _ order chosen lk h hnd
  have hR := markerTable_genes (refFileOf f) order chosen lk h
  exact ⟨createCache_error_query_only f.tree hT lk f.colNames Q m hk hR,
    createCache_ok_iff_errAt f.tree hT lk f.colNames Q m hk hR⟩

example : createCache (some exTr) [(some (0, 10), [5]), (none, [7, 9]), (some (0, 11), [5])]
      [7, 5, 9] [4] 1 = .error .noMarkersAnyLevel ∧
    createCache (some exTr) [(some (0, 10), [5]), (none, [7, 9]), (some (0, 11), [5])]
      [7, 5, 9] [5] 1 = .error .validating := by decide +kernel

/-- "selected markers produced by the pipeline's own stages …": the order in which the workers
deliver the parents is immaterial.  Two delivery orders of the same parents either both give a
table or both raise; the two tables are permutations of each other and answer every key lookup
`marker_lookup[k]` identically; hence (everything downstream reads the table by key) the
validation's error condition at every parent is the same, and the marker cache accepts the one
exactly when it accepts the other. -/
theorem names_consistent_table_order_immaterial (r : RefFile) (order order' : List PKey)
    (chosen : PKey → List Nat) (hp : order.Perm order') :
    ((∃ lk, markerTable r order chosen = .ok lk) ↔ ∃ lk', markerTable r order' chosen = .ok lk') ∧
    ∀ lk lk', markerTable r order chosen = .ok lk → markerTable r order' chosen = .ok lk' →
      lk.Perm lk' ∧ (∀ k, get? lk k = get? lk' k) ∧
      ∀ t : RawTree, TreeWF t → order.Perm t.allParents → ∀ (Q : List Gene) (m : Nat),
        (∀ p, errAt t lk Q m p ↔ errAt t lk' Q m p) ∧
        ((∃ c, createCache (some t) lk r.geneNames Q m = .ok c) ↔
          ∃ c', createCache (some t) lk' r.geneNames Q m = .ok c') := by
  refine ⟨⟨?_, ?_⟩, ?_⟩
  · rintro ⟨lk, h⟩
    obtain ⟨lk', h', _⟩ := markerTable_perm r order order' chosen hp lk h
    exact ⟨lk', h'⟩
  · rintro ⟨lk', h'⟩
    obtain ⟨lk, h, _⟩ := markerTable_perm r order' order chosen hp.symm lk' h'
    exact ⟨lk, h⟩
  · intro lk lk' h h'
    obtain ⟨lk2, h2, hperm, hget⟩ := markerTable_perm r order order' chosen hp lk h
    rw [h'] at h2
    cases h2
    refine ⟨hperm, hget, ?_⟩
    intro t hT hpt Q m
    have herr : ∀ p, errAt t lk Q m p ↔ errAt t lk' Q m p :=
      fun p => errAt_congr t lk lk' Q m p hget
    refine ⟨herr, ?_⟩
    have hnd : order.Nodup := hpt.nodup_iff.2 (treeOK_of_wf _ hT).parentsNodup
    have hnd' : order'.Nodup := hp.nodup_iff.1 hnd
    rw [createCache_ok_iff_errAt t hT lk r.geneNames Q m (markerTable_keysNodup r order chosen lk h hnd)
        (markerTable_genes r order chosen lk h),
      createCache_ok_iff_errAt t hT lk' r.geneNames Q m (markerTable_keysNodup r order' chosen lk' h' hnd')
        (markerTable_genes r order' chosen lk' h')]
    constructor
    · intro H p hpm hc he; exact H p hpm hc ((herr p).2 he)
    · intro H p hpm hc he; exact H p hpm hc ((herr p).1 he)

example : markerTable (prepOutput [33, 30, 31] [7, 5, 9]) [none, some (0, 11), some (0, 10)]
      (fun p => if p == none then [0, 2] else [1])
      = .ok [(none, [7, 9]), (some (0, 11), [5]), (some (0, 10), [5])] ∧
    [some (0, 10), none, some (0, 11)].Perm [none, some (0, 11), some (0, 10)] := by decide +kernel

end CTM.C18
