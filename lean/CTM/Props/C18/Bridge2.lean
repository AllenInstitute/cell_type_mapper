/-
  C18 × C01 × C10 — `Props/C18/Compose.lean` with the tree validator's
  acceptance as the only hypothesis on the taxonomy.

  * `centroid_maps_home_accepted`: one cell.  On an accepted taxonomy the way home of a leaf
    exists (`Compose.exists_homePath`), so `centroid_maps_home_whole_path` applies and the
    numerical guard `GuardBelow` is the only hypothesis per cell; the leaf level is named by
    `t.leafLevel`.  (`centroid_maps_home_validated` in `Props/C18/Compose.lean` is the same fact
    with the leaf level spelled by index.)
  * `pipeline_centroid_home_of_validate`: `pipeline_centroid_home` takes `wfb t0`
    and, per cell, a `HomePath` in the RUN tree `t` (any `drop_level` /
    `flatten`).  `wfb t0` follows from acceptance of the stored tree; the run
    tree is accepted again (`Bridge.WF_runTree`), so the way home exists and is
    determined by the tree (`Compose.exists_homePath`): the hypothesis left per
    cell is the numerical guard `GuardBelow` only.
-/
import CTM.Props.C18.Compose

namespace CTM.C18
open CTM CTM.LevelLoop CTM.OutBridge CTM.Election CTM.Numeric CTM.Compose CTM.Bridge

/-- "A query cell whose log2(CPM+1) profile equals the mean profile of a leaf
cluster is assigned to that leaf and its ancestors with bootstrapping
probability 1 and average correlation 1 at every level where a choice exists"
— on every taxonomy the validator accepts (`ll` its leaf level), for a leaf `lf`
and a cell `x` for which the guard holds at every node that offers a choice and
has `lf` below it. -/
theorem centroid_maps_home_accepted (P : ElectionParams) (htie : TieOK P) (t : RawTree)
    (hv : t.validate = .ok ()) (d : RawTree.DictOK t) (x : List Rat) (lf : Node) (ll : Level)
    (hll : t.leafLevel = some ll) (hl : lf ∈ t.nodesAt ll) (hg : GuardBelow P t x lf) :
    ∃ path r, path.map (·.1) = t.hierarchy ∧ (∀ la ∈ path, lf ∈ t.asLeaves la.1 la.2) ∧
      walk t (electionVote P) x = .ok r ∧ assignments r = path ∧
      ∀ le ∈ r, le.2.prob = 1 ∧ le.2.agg = some 1 ∧ le.2.ru = some ([], [], []) ∧
        (le.2.corr = none ∨ le.2.corr = some 1) ∧
        (ChoiceOnPath t none path → le.2.corr = some 1) := by
  obtain ⟨path, h1, h2, h3⟩ := exists_homePath P hv d x lf hll hl hg
  obtain ⟨r, hr, ha, hall⟩ := centroid_maps_home_whole_path P htie t x lf path h1 h2
  exact ⟨path, r, h1, h3, hr, ha, hall⟩

/-- non-vacuity: the (validated) example taxonomy, leaf 30, its centroid -/
example := centroid_maps_home_accepted exPHome exPHome_tie exTree exTree_accepted.1
  exTree_accepted.2 [2, 4, 1] 30 2 (by decide) (by decide) exPHome_guardBelow

/-- the same for the records of the whole pipeline, with the acceptance of the
STORED taxonomy as the only tree hypothesis: whatever the chunking, worker count
and gather order, and with any `drop_level` / `flatten` (`t` = the run's tree,
`ll` its leaf level), the record of a cell `c` binds — for EVERY leaf `lf` of the
run's tree for which the guard `GuardBelow P t c lf` holds — every level of the
run's tree to `lf`'s ancestor (the path exists and every node on it has `lf`
below it) with probability 1, aggregate 1, no runner-up, `directly_assigned =
True`, and correlation 1 when the path offers a choice. -/
theorem pipeline_centroid_home_of_validate (t0 t : RawTree) (cfg : Config) (P : ElectionParams)
    (ids : List CellId) (cells : List (List Rat)) (order : List Nat)
    (hval : t0.validate = .ok ()) (hd : RawTree.DictOK t0) (hrun : runTree t0 cfg = .ok t)
    (htie : TieOK P)
    (hlen : ids.length = cells.length) (hnd : ids.Nodup)
    (hproc : 1 ≤ cfg.nProc) (hcs : 1 ≤ cfg.chunkSize)
    (horder : order.Perm (List.range
      (chunks cells.length (effChunk cells.length cfg.nProc cfg.chunkSize)).length))
    (out : List Record)
    (hout : mapPipeline t0 cfg (electionVote P) ids cells order = .ok out) :
    ∀ o ∈ out, ∃ (i : Nat) (id : CellId) (c : List Rat),
      ids[i]? = some id ∧ cells[i]? = some c ∧ o.cellId = id ∧
      ∀ (lf : Node) (ll : Level), t.leafLevel = some ll → lf ∈ t.nodesAt ll →
        GuardBelow P t c lf →
        ∃ path : List (Level × Node), path.map (·.1) = t.hierarchy ∧
          (∀ la ∈ path, lf ∈ t.asLeaves la.1 la.2) ∧
          ∀ la ∈ path, ∃ e, o.levels.lookup la.1 = some e ∧ e.assignment = la.2 ∧
            e.prob = 1 ∧ e.agg = some 1 ∧ e.ru = some ([], [], []) ∧ e.direct = some true ∧
            (ChoiceOnPath t none path → e.corr = some 1) := by
  have w := WF_runTree (RawTree.WF.of_validate hval hd) hrun
  intro o ho
  obtain ⟨i, id, c, h1, h2, h3, h4⟩ := pipeline_centroid_home t0 t cfg P ids cells order
    (wfb_of_validate hval hd) hrun htie hlen hnd hproc hcs horder out hout o ho
  refine ⟨i, id, c, h1, h2, h3, fun lf ll hll hl hg => ?_⟩
  obtain ⟨path, hp1, hp2, hp3⟩ := exists_homePath P w.valid w.dict c lf hll hl hg
  exact ⟨path, hp1, hp3, h4 lf path hp1 hp2⟩

/-- non-vacuity: the example taxonomy, the parameters `exPHome`; the first cell
is the centroid of leaf 30, for which the guard holds (`exPHome_guardBelow`) -/
example := pipeline_centroid_home_of_validate exTree exTree { chunkSize := 1, nProc := 2 } exPHome
  [7, 3] [[2, 4, 1], [2, 9, 2]] [1, 0] exTree_accepted.1 exTree_accepted.2 rfl exPHome_tie
  rfl (by decide) (by decide) (by decide) (by decide) _
  (exRun_ok exPHome exPHome_tie)

example : exTree.leafLevel = some 2 ∧ (30 : Node) ∈ exTree.nodesAt 2 ∧
    GuardBelow exPHome exTree [2, 4, 1] 30 := ⟨by decide, by decide, exPHome_guardBelow⟩

end CTM.C18
