/-
  C18 × C16 — the vote counter of `tally_votes` can hold a unanimous vote.

  `tally_votes` allocates `votes` with `choose_int_dtype((0, bootstrap_iteration))`
  (the ladder `Generated.intLadder` is regenerated from the source by
  `./check C16`).  A centroid that wins every iteration collects exactly
  `bootstrap_iteration` votes — the largest count there is — and "bootstrapping
  probability 1" is that count divided by `bootstrap_iteration`.  The theorems
  say that the dtype chosen for `(0, n)` stores every count `0 … n` unchanged
  (no wrap-around), for every `n` up to the widest rung, and for EVERY ladder
  the translator may regenerate that still has the rung `("uint64", 0, 2^64-1)`
  (`uint64_mem_ladder`, the only fact about the ladder `exists_rung_accepts` uses here).
  (A counter sized for `(0, n - 1)` would not do: at `n = 256` / `65536` the
  count `n` is then outside the rung.)
  The bounds are integers (`floatBits = none`), which the model compares exactly
  in every mode; a source in mode `float64` (see `sourceMode`) converts them with
  `np.float64(..)` first, which is exact for `n < 2^53` only.
-/
import CTM.Lemmas.Validate

namespace CTM.C18
open CTM CTM.Validate

/-- every count `v ≤ n` fits the dtype chosen for `(0, n)` (the exact comparison: true of the
source for `n < 2^53` whatever its comparison mode, see the head of the file) -/
theorem vote_counter_holds (n : Nat) (hn : (n : Int) ≤ 18446744073709551615)
    (v : Nat) (hv : v ≤ n) :
    castTo (chooseIntDtype none (0 : Rat) ((n : Int) : Rat)) ((v : Int) : Rat) = some (v : Int) := by
  obtain ⟨r, hr⟩ := exists_rung_accepts 0 (n : Int) (Or.inl ⟨le_refl _, hn⟩)
  rw [← roundHalfEven_zero, ← roundHalfEven_intCast n] at hr
  rw [chooseIntDtype_of_find hr, castTo_of_find hr (Int.cast_nonneg (Int.natCast_nonneg v))
    (Int.cast_le.2 (Int.ofNat_le.2 hv)), roundHalfEven_intCast]

/-- in particular the unanimous count `n` itself -/
theorem unanimous_count_holds (n : Nat) (hn : (n : Int) ≤ 18446744073709551615) :
    castTo (chooseIntDtype none (0 : Rat) ((n : Int) : Rat)) ((n : Int) : Rat) = some (n : Int) :=
  vote_counter_holds n hn n (le_refl _)

example : castTo (chooseIntDtype none (0 : Rat) ((256 : Int) : Rat)) ((256 : Int) : Rat) = some 256 :=
  unanimous_count_holds 256 (by decide)

end CTM.C18
