/-
  C18 × C01 — centroids map home along the WHOLE path, in the composed model
  (`walk` / `mapPipeline` with the interpreted oracle `Compose.electionVote`).
-/
import CTM.Lemmas.ComposeHome
import CTM.Lemmas.ComposeWF

namespace CTM.C18
open CTM CTM.LevelLoop CTM.OutBridge CTM.Election CTM.Numeric CTM.Compose

/-- "A query cell whose log2(CPM+1) profile equals the mean profile of a leaf
cluster is assigned to that leaf and its ancestors with bootstrapping
probability 1 and average correlation 1 at every level where a choice exists,
for any bootstrap factor, whenever no other leaf below the same node is
perfectly correlated with it on the genes used."

`path` = the ancestors of leaf `lf`, top level first, ending with `lf`
(`HomePath`: each is a child of the one before, the only one whose leaves contain
`lf`; at every node of the path that has ≥ 2 children the guard `NodeGuard`
holds: the cell's profile on the node's genes is `lf`'s mean profile, on every
drawn subset it is not constant and no other leaf below the node is perfectly
correlated with it).  Then the one-cell run of the level loop (`walk`, with
the post-loops) succeeds and assigns, at EVERY level, `lf`'s ancestor with
probability 1, aggregate probability 1 and no runner-up; the correlation is 1
at every level as soon as some node on the path offers a choice (single-child
levels inherit it), and null everywhere on a pure chain.  Any subsets (any
bootstrap factor), any tie order. -/
theorem centroid_maps_home_whole_path (P : ElectionParams) (htie : TieOK P) (t : RawTree)
    (x : List Rat) (lf : Node) (path : List (Level × Node))
    (hlev : path.map (·.1) = t.hierarchy) (hp : HomePath P t x lf none path) :
    ∃ r, walk t (electionVote P) x = .ok r ∧ assignments r = path ∧
      ∀ le ∈ r, le.2.prob = 1 ∧ le.2.agg = some 1 ∧ le.2.ru = some ([], [], []) ∧
        (le.2.corr = none ∨ le.2.corr = some 1) ∧
        (ChoiceOnPath t none path → le.2.corr = some 1) := by
  obtain ⟨es, hes, h1, h2, h3⟩ := walkFrom_home P htie t x lf path none hp
  rw [hlev] at hes
  refine ⟨LevelLoop.finishCell es, walk_of_walkFrom hes, by rw [assignments_finishCell, h1],
    fun le hle => ?_⟩
  obtain ⟨f1, f2, f3, f4, f5⟩ := finishCell_home es h2 le hle
  exact ⟨f1, f2, f3, f4, fun hc => f5 (h3 hc)⟩

/-- the example taxonomy: the centroid of leaf 30, written in the query's gene
order, walks 10 → 20 → 30 with probability 1 and correlation 1 at every level
(node 10 offers the choice; the root and node 20 have a single child) -/
example : ∃ r, walk exTree (electionVote exPHome) [2, 4, 1] = .ok r ∧
    assignments r = [(0, 10), (1, 20), (2, 30)] ∧
    ∀ le ∈ r, le.2.prob = 1 ∧ le.2.corr = some 1 := by
  obtain ⟨r, h1, h2, h3⟩ := centroid_maps_home_whole_path exPHome exPHome_tie exTree [2, 4, 1] 30
    [(0, 10), (1, 20), (2, 30)] rfl exPHome_path
  refine ⟨r, h1, h2, fun le hle => ⟨(h3 le hle).1, (h3 le hle).2.2.2.2 ?_⟩⟩
  exact Or.inr (Or.inl ⟨[21, 20], rfl, by simp⟩)

example : ((walk exTree (electionVote exPHome) [2, 4, 1]).toOption.getD []).map
    (fun le => ((le.1 : Nat), (le.2.assignment : Nat), le.2.prob, le.2.corr, le.2.agg)) =
    [(0, 10, 1, some 1, some 1), (1, 20, 1, some 1, some 1), (2, 30, 1, some 1, some 1)] := by
  decide +kernel

/-- ... with the tree part derived: on a taxonomy the validator accepts, for a
leaf `lf` and a cell `x` for which the guard holds at every node that offers a
choice and has `lf` below it (`GuardBelow`), the way home exists — `path` runs
through all levels, every node on it has `lf` below it — and the one-cell run of
the level loop follows it: `lf`'s ancestor at EVERY level, probability 1,
aggregate probability 1, no runner-up, correlation 1 everywhere as soon as some
node on the path offers a choice. -/
theorem centroid_maps_home_validated (P : ElectionParams) (htie : TieOK P) (t : RawTree)
    (hv : t.validate = .ok ()) (d : RawTree.DictOK t) (hN : t.hierarchy.Nodup)
    (x : List Rat) (lf : Node)
    (hl : lf ∈ t.nodesAt (t.hierarchy[t.hierarchy.length - 1]'(by
      have := RawTree.hierarchy_ne_nil_of_validate hv
      have := List.length_pos_of_ne_nil this
      omega)))
    (hg : GuardBelow P t x lf) :
    ∃ path r, path.map (·.1) = t.hierarchy ∧ (∀ la ∈ path, lf ∈ t.asLeaves la.1 la.2) ∧
      walk t (electionVote P) x = .ok r ∧ assignments r = path ∧
      ∀ le ∈ r, le.2.prob = 1 ∧ le.2.agg = some 1 ∧ le.2.ru = some ([], [], []) ∧
        (le.2.corr = none ∨ le.2.corr = some 1) ∧
        (ChoiceOnPath t none path → le.2.corr = some 1) := by
  obtain ⟨path, h1, h2, h3⟩ := exists_homePath P hv d x lf
    (RawTree.leafLevel_eq (RawTree.hierarchy_ne_nil_of_validate hv)) hl hg
  obtain ⟨r, hr, ha, hall⟩ := centroid_maps_home_whole_path P htie t x lf path h1 h2
  exact ⟨path, r, h1, h3, hr, ha, hall⟩

/-- non-vacuity: the (validated) example taxonomy, leaf 30, its centroid -/
example := centroid_maps_home_validated exPHome exPHome_tie exTree Bridge.exTree_accepted.1
  Bridge.exTree_accepted.2 (by decide) [2, 4, 1] 30 (by decide) exPHome_guardBelow

/-- the same for the records of the whole pipeline: whatever the chunking,
worker count and gather order, and with `drop_level` / `flatten` (`t` = the
run's tree), the record of a cell for which `HomePath` holds binds every level of
the run's tree to `lf`'s ancestor with probability 1, aggregate 1, no runner-up,
`directly_assigned = True`, and correlation 1 when the path offers a choice. -/
theorem pipeline_centroid_home (t0 t : RawTree) (cfg : Config) (P : ElectionParams)
    (ids : List CellId) (cells : List (List Rat)) (order : List Nat)
    (hwf0 : wfb t0 = true) (hrun : runTree t0 cfg = .ok t) (htie : TieOK P)
    (hlen : ids.length = cells.length) (hnd : ids.Nodup)
    (hproc : 1 ≤ cfg.nProc) (hcs : 1 ≤ cfg.chunkSize)
    (horder : order.Perm (List.range
      (chunks cells.length (effChunk cells.length cfg.nProc cfg.chunkSize)).length))
    (out : List Record)
    (hout : mapPipeline t0 cfg (electionVote P) ids cells order = .ok out) :
    ∀ o ∈ out, ∃ (i : Nat) (id : CellId) (c : List Rat),
      ids[i]? = some id ∧ cells[i]? = some c ∧ o.cellId = id ∧
      ∀ (lf : Node) (path : List (Level × Node)), path.map (·.1) = t.hierarchy →
        HomePath P t c lf none path →
        ∀ la ∈ path, ∃ e, o.levels.lookup la.1 = some e ∧ e.assignment = la.2 ∧
          e.prob = 1 ∧ e.agg = some 1 ∧ e.ru = some ([], [], []) ∧ e.direct = some true ∧
          (ChoiceOnPath t none path → e.corr = some 1) := by
  have rt := runTree_reduces hwf0 hrun
  have hv := (electionVote_ok t P htie).1
  intro o ho
  obtain ⟨i, id, c, hi1, hi2, hc⟩ :=
    (mapPipeline_mem hrun rt.wf hv hlen hnd hproc hcs horder hout).2 o ho
  refine ⟨i, id, c, hi1, hi2, (cellResult_spec rt hv id c o hc).1,
    fun lf path hlev hp la hla => ?_⟩
  obtain ⟨r, hr, hasg, hall⟩ := centroid_maps_home_whole_path P htie t c lf path hlev hp
  -- `la` is the (level, assignment) of one dict of the finished walk `r`
  rw [← hasg] at hla
  obtain ⟨le, hle, rfl⟩ := List.mem_map.1 hla
  obtain ⟨f1, f2, f3, _, f5⟩ := hall le hle
  exact ⟨_, cellResult_lookup_walk rt hv hc hr le hle, rfl, f1, f2, f3, rfl, f5⟩

example := pipeline_centroid_home exTree exTree { chunkSize := 1, nProc := 2 } exPHome [7, 3]
  [[2, 4, 1], [2, 9, 2]] [1, 0] exTree_wf rfl exPHome_tie rfl (by decide) (by decide)
  (by decide) (by decide) _
  (exRun_ok exPHome exPHome_tie)

end CTM.C18
