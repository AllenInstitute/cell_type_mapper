/-
  C04 — "… produces the same result on every run … under any Python hash
  seed": the full form of what `CTM.C04.enum_indep_sorted` stands for.

  For every `set → list` site on the data path of the mapping stage the model
  function that covers the site is shown invariant under every
  enumeration order of the set (a `List.Perm` of the enumerated list, or any
  list with the same members where the site enumerates with possible repeats):

    (a) `create_marker_cache_from_specified_markers` / `write_query_markers_to_h5`:
        `list(set(markers) ∩ set(query))`                     — Model/Markers.lean
    (b) the children of every node of the stored taxonomy (sets in
        `get_taxonomy_tree`, hence `leaves_to_compare` / `_get_leaves_from_tree`
        / `children`)                                          — Model/Tree.lean, LevelLoop.lean
    (c) `set(assignment)` → `idx_to_type` in `run_type_assignment`  — Model/LevelLoop.lean
        (re-stated with the enumeration as a parameter in Lemmas/EnumIndep.lean)
    (d) `list(set(reference_types))` in `aggregate_votes`      — Model/Election.lean
    (e) sets met by `clean_for_json`                           — Model/Output.lean

  and `enum_indep_mapping` composes them for the mapping stage.
-/
import CTM.Lemmas.EnumIndep
import CTM.Lemmas.BridgeWF
import CTM.Props.C08
import CTM.Props.C10
import CTM.Props.C15

namespace CTM.C04
open CTM CTM.RawTree CTM.LevelLoop CTM.EnumIndep CTM.Bridge

/-- the example tree of C10 with every dict and every child / row list in
another order -/
def exTreePerm : RawTree :=
  { hierarchy := [0, 1, 2]
    levels := [(0, [(11, [22]), (10, [20, 21])]),
               (1, [(20, [30]), (21, [32, 31]), (22, [33])]),
               (2, [(33, [3, 4]), (30, [0]), (31, [2, 1]), (32, [])])] }


/-- (a) "marker lists sorted by reference gene index before use": whatever order
`set(markers) ∩ set(query)` is enumerated in, the `(reference, query)` index
group written to the marker cache is the same (`C08.enumeration_immaterial`) -/
theorem enum_indep_markers (R Q : List Markers.Gene) {genes genes' : List Markers.Gene}
    (hp : genes.Perm genes') : Markers.writeGroup R Q genes = Markers.writeGroup R Q genes' :=
  C08.enumeration_immaterial R Q hp

/-- (b) the stored taxonomy's child lists (and dict keys) in any order: two
stored trees that differ only by such permutations (`TreeEquiv`: what
`get_taxonomy_tree` can produce from the same label columns under two hash
seeds) give the same mapping, for an oracle that reads the children of a
parent and their leaves as sets (`Bridge.mapPipeline_equiv`) -/
theorem enum_indep_tree_children {κ} {t₁ t₂ : RawTree} {vote : Oracle κ} (e : TreeEquiv t₁ t₂)
    (w₁ : WF t₁) (w₂ : WF t₂) (hnode : HasNode t₁) (hob : OrderBlind vote)
    (hv₁ : VoteOK t₁ vote) (hv₂ : VoteOK t₂ vote)
    (cfg : Config) (hdrop : cfg.dropLevel = none) (hflat : cfg.flatten = false)
    (ids : List CellId) (cells : List κ) (order : List Nat)
    (hlen : ids.length = cells.length) (hnd : ids.Nodup)
    (hproc : 1 ≤ cfg.nProc) (hcs : 1 ≤ cfg.chunkSize)
    (horder : order.Perm (List.range (chunks cells.length
      (effChunk cells.length cfg.nProc cfg.chunkSize)).length)) :
    mapPipeline t₁ cfg vote ids cells order = mapPipeline t₂ cfg vote ids cells order :=
  mapPipeline_equiv e w₁ w₂ hob hv₁ hv₂ cfg hdrop hflat ids cells order order hlen hnd hproc hcs
    horder horder

/-- (b') `as_leaves` / `_get_leaves_from_tree`: the leaves under a node are the
same set whatever the order of the child lists -/
theorem enum_indep_tree_leaves {t₁ t₂ : RawTree} (e : TreeEquiv t₁ t₂) (w₁ : WF t₁)
    {l : Level} (hl : l ∈ t₁.hierarchy) {n : Node} (hn : n ∈ t₁.nodesAt l) :
    (t₁.asLeaves l n).Perm (t₂.asLeaves l n) :=
  asLeaves_equiv e (strict_of_validate w₁.valid) w₁.hNodup hl hn

/-- (b'') `leaves_to_compare` (the sibling pairs a parent must discriminate): the
same set of pairs whatever the order of the child lists.  (`sibs`: the children
of the parent, at level `cl`, as in `C10.pairs_exact`.) -/
theorem enum_indep_tree_pairs {t₁ t₂ : RawTree} (e : TreeEquiv t₁ t₂) (w₁ : WF t₁) (w₂ : WF t₂)
    (parent : Option (Level × Node)) (sibs : List Node) (cl : Level)
    (hs : t₁.children parent = .ok sibs) (hcl : t₁.levelUnder parent = some cl)
    (hsub : ∀ k ∈ sibs, k ∈ t₁.nodesAt cl) (hclm : cl ∈ t₁.hierarchy) :
    (t₁.leafPairs parent).Perm (t₂.leafPairs parent) := by
  obtain ⟨sibs₂, hs₂, hperm, _⟩ := children_equiv e w₁ w₂ hs
  have hcl₂ : t₂.levelUnder parent = some cl := by rw [← levelUnder_equiv e]; exact hcl
  obtain ⟨hn₁, hm₁⟩ := C10.pairs_exact t₁ w₁ parent sibs cl hs hcl
  obtain ⟨hn₂, hm₂⟩ := C10.pairs_exact t₂ w₂ parent sibs₂ cl hs₂ hcl₂
  apply (List.perm_ext_iff_of_nodup hn₁ hn₂).2
  rintro ⟨a, b⟩
  rw [hm₁, hm₂]
  have hl : ∀ k ∈ sibs, ∀ x, x ∈ t₁.asLeaves cl k ↔ x ∈ t₂.asLeaves cl k := fun k hk x =>
    (asLeaves_equiv e (strict_of_validate w₁.valid) w₁.hNodup hclm (hsub k hk)).mem_iff
  refine and_congr_right fun _ => exists_congr fun s₀ => exists_congr fun s₁ => ?_
  rw [← hperm.mem_iff, ← hperm.mem_iff]
  exact and_congr_right fun h0 => and_congr_right fun h1 => and_congr_right fun _ =>
    and_congr (hl _ h0 a) (hl _ h1 b)

example : (C10.exTree.leafPairs (some (0, 10))).Perm (exTreePerm.leafPairs (some (0, 10))) := by
  decide +kernel

/-- (c) `set(assignment)`: `run_type_assignment` - and the whole data flow of
`_run_mapping` around it - with `idx_to_type` enumerated by *any* `enum`
(any order, any hash seed) equals the level-loop model, which fixes first-occurrence
order; hence any two enumerations give the same result -/
theorem enum_indep_assignment_set {κ} {enum₁ enum₂ : List Node → List Node}
    (h₁ : IsEnum enum₁) (h₂ : IsEnum enum₂) (t : RawTree) (vote : Oracle κ) (cells : List κ)
    (cfg : Config) (ids : List CellId) (order : List Nat) :
    runLevelLoopE enum₁ t vote cells = runLevelLoopE enum₂ t vote cells ∧
    runLevelLoopE enum₁ t vote cells = runLevelLoop t vote cells ∧
    mapPipelineE enum₁ t cfg vote ids cells order = mapPipelineE enum₂ t cfg vote ids cells order ∧
    mapPipelineE enum₁ t cfg vote ids cells order = mapPipeline t cfg vote ids cells order := by
  refine ⟨?_, runLevelLoopE_eq h₁ t vote cells, ?_, mapPipelineE_eq h₁ t cfg vote ids cells order⟩
  · rw [runLevelLoopE_eq h₁, runLevelLoopE_eq h₂]
  · rw [mapPipelineE_eq h₁, mapPipelineE_eq h₂]

/-- non-vacuity: reversing the first-occurrence order is an enumeration -/
example : IsEnum (fun l => (distinct l).reverse) := fun l x => by
  simp [mem_distinct]

/-- (d) `unq_types = list(set(reference_types)); unq_types.sort()`: whatever list
`enum` the set came out as (same members as `reference_types`), `aggregate_votes`
returns what the election model returns (`C02.aggregate_sound` describes it) -/
theorem enum_indep_aggregate {enum₁ enum₂ types : List Nat} (h₁ : ∀ t, t ∈ enum₁ ↔ t ∈ types)
    (h₂ : ∀ t, t ∈ enum₂ ↔ t ∈ types) (votes : List Nat) (corr : List Rat) :
    aggregateVotesE enum₁ types votes corr = aggregateVotesE enum₂ types votes corr ∧
    aggregateVotesE enum₁ types votes corr = Election.aggregateVotes types votes corr := by
  rw [aggregateVotesE_eq h₁, aggregateVotesE_eq h₂]
  exact ⟨rfl, rfl⟩

example : aggregateVotesE [7, 5] [7, 5, 7] [2, 0, 1] [3 / 2, 0, 1 / 4]
    = aggregateVotesE [5, 7, 5] [7, 5, 7] [2, 0, 1] [3 / 2, 0, 1 / 4] := by decide +kernel

/-- (e) `clean_for_json` turns a set into the sorted list of its elements: the
enumeration order does not show (`C15.clean_for_json_set_order`) -/
theorem enum_indep_clean_for_json (xs ys : List Int) (h : xs.Perm ys) :
    Output.clean (.intSet xs) = Output.clean (.intSet ys) :=
  C15.clean_for_json_set_order xs ys h

/-- **the mapping stage under any hash seed.**  Two runs of the mapping on the
same inputs: the stored taxonomies differ by the order of child lists / dict
keys (`TreeEquiv`), `set(assignment)` is enumerated by `enum₁` resp. `enum₂` in
every worker, the chunk results are concatenated in the orders `order₁` resp.
`order₂` (any completion orders), and the per-parent vote (marker cache (a),
`aggregate_votes` (d), nearest-centroid election) reads the children of a
parent and their leaves as sets (`OrderBlind`: a hypothesis; (a) and (d) are why it
should hold for the concrete election, but it is proved for the example oracle
`Bridge.minVote` only).  Then `output["results"]` is the same.  ((e) concerns
the serialisation of that value only.) -/
theorem enum_indep_mapping {κ} {t₁ t₂ : RawTree} {vote : Oracle κ}
    {enum₁ enum₂ : List Node → List Node} (he₁ : IsEnum enum₁) (he₂ : IsEnum enum₂)
    (e : TreeEquiv t₁ t₂) (w₁ : WF t₁) (w₂ : WF t₂) (hnode : HasNode t₁) (hob : OrderBlind vote)
    (hv₁ : VoteOK t₁ vote) (hv₂ : VoteOK t₂ vote)
    (cfg : Config) (hdrop : cfg.dropLevel = none) (hflat : cfg.flatten = false)
    (ids : List CellId) (cells : List κ) (order₁ order₂ : List Nat)
    (hlen : ids.length = cells.length) (hnd : ids.Nodup)
    (hproc : 1 ≤ cfg.nProc) (hcs : 1 ≤ cfg.chunkSize)
    (ho₁ : order₁.Perm (List.range (chunks cells.length
      (effChunk cells.length cfg.nProc cfg.chunkSize)).length))
    (ho₂ : order₂.Perm (List.range (chunks cells.length
      (effChunk cells.length cfg.nProc cfg.chunkSize)).length)) :
    mapPipelineE enum₁ t₁ cfg vote ids cells order₁ =
      mapPipelineE enum₂ t₂ cfg vote ids cells order₂ := by
  rw [mapPipelineE_eq he₁, mapPipelineE_eq he₂]
  exact mapPipeline_equiv e w₁ w₂ hob hv₁ hv₂ cfg hdrop hflat ids cells order₁ order₂ hlen hnd hproc
    hcs ho₁ ho₂

/-- non-vacuity, computed: other child order, other enumeration of
`set(assignment)`, other completion order - same `output["results"]` -/
example : mapPipelineE (fun l => (distinct l).reverse) C10.exTree { chunkSize := 2, nProc := 2 }
      minVote [7, 3, 5] [0, 1, 2] [1, 0] =
    mapPipelineE distinct exTreePerm { chunkSize := 2, nProc := 2 } minVote [7, 3, 5] [0, 1, 2]
      [0, 1] := by
  decide +kernel

end CTM.C04
