/-
  C04 — the forced-order enumeration is exhaustive by theorem.

  `harness/props/c04.py` forces on the real stages the completion orders
  `Procs.completionOrders nWorkers nProc` (all of them for ≤ 4 workers in the
  thorough tier).  Here that enumeration is tied to the stage machine
  (`Procs.pollLoop`, the model of the start / poll / drain loop, C14): an order
  `σ` of the workers is enumerated **iff** the machine, shown the workers' exit
  codes one at a time in the order `σ` (`sing σ`; all exit with code 0), returns
  normally - i.e. iff the loop can see the workers complete in that order.
  The run is that of a list stage with `keyOf = id`.  The dict stages are not run separately: under
  distinct keys their container holds the same entries (`Procs.register_eq`), and the two winnow
  functions differ only in which failure they report (`Procs.winnow_cases`), of which this run has
  none.
-/
import CTM.Lemmas.ProcsFeasible
import CTM.Lemmas.ProcsMerge

namespace CTM.C04
open CTM.Procs

/-- `feasibleOrder` in plain words: for a permutation of the workers, feasible
means that the `k`-th worker to complete is one of the first `k + nProc`
dispatched (with `k` completions and at most `nProc` outstanding, no later
worker can have been started) -/
theorem feasible_iff_window (nProc n : Nat) (σ : List Nat) (hp : σ.Perm (List.range n)) :
    feasibleOrder nProc σ = true ↔ ∀ (k w : Nat), σ[k]? = some w → w < k + nProc :=
  ⟨window_of_feasible, feasible_of_window hp⟩

/-- **sound**: every order the machine accepts is feasible … -/
theorem machine_order_feasible (n nProc : Nat) (hproc : 0 < nProc) (σ : List Nat)
    (hp : σ.Perm (List.range n)) (s : St)
    (h : pollLoop .list n nProc id (sing σ) (fun _ => 0) = .ok s) :
    feasibleOrder nProc σ = true :=
  feasible_of_window hp (machine_accepts_window hp hproc h)

/-- … and **complete**: every feasible order is accepted by the machine -/
theorem feasible_order_produced (n nProc : Nat) (hproc : 0 < nProc) (σ : List Nat)
    (hp : σ.Perm (List.range n)) (hf : feasibleOrder nProc σ = true) :
    (pollLoop .list n nProc id (sing σ) (fun _ => 0)).outcome = .ok :=
  machine_produces hp hproc (window_of_feasible hf)

/-- the enumeration used by the harness is exactly the set of orders of the
`n` workers in which the poll loop with `nProc` slots can see them complete:
nothing feasible is left out (for any `n`; the thorough tier runs all of them
for `n ≤ 4`), nothing infeasible is forced -/
theorem completion_orders_exhaustive (n nProc : Nat) (hproc : 0 < nProc) (σ : List Nat) :
    σ ∈ completionOrders n nProc ↔
      σ.Perm (List.range n) ∧ (pollLoop .list n nProc id (sing σ) (fun _ => 0)).outcome = .ok := by
  rw [mem_completionOrders_iff]
  constructor
  · rintro ⟨hp, hf⟩
    exact ⟨hp, feasible_order_produced n nProc hproc σ hp hf⟩
  · rintro ⟨hp, ho⟩
    refine ⟨hp, ?_⟩
    cases h : pollLoop .list n nProc id (sing σ) (fun _ => 0) with
    | ok s => exact machine_order_feasible n nProc hproc σ hp s h
    | failed c s => rw [h] at ho; cases ho
    | spin s => rw [h] at ho; cases ho

example : completionOrders 3 2 = [[0, 1, 2], [1, 0, 2], [1, 2, 0], [0, 2, 1]] := by decide +kernel
/-- worker 2 cannot complete first when only two slots exist: the machine waits for ever -/
example : (pollLoop .list 3 2 id (sing [2, 0, 1]) (fun _ => 0)).outcome = .spin := by decide +kernel
example : (pollLoop .list 3 2 id (sing [1, 2, 0]) (fun _ => 0)).outcome = .ok := by decide +kernel

end CTM.C04
