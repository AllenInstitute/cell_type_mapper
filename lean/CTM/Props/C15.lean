/-
  C15 — JSON, CSV and HDF5 outputs tell the same story and round-trip.

  Theorems about the model `CTM/Model/Output.lean` (which mirrors
  `utils/output_utils.py`, `cli/from_specified_markers.py`,
  `taxonomy_tree.py: to_str / label_to_name / level_to_name`).  The tie to the
  Python code is the correspondence suite `harness/props/c15.py`.

  Three kinds of theorem stand here.  Those whose docstring quotes the property are the property;
  several are a lemma of `Lemmas/Output*.lean` restated under the property's name.  Those that
  begin "the code as it is" state a finding against the Python code.  The rest (`h5_roundtrip_fields`,
  `csv_label_name_alias`, `csv_comments`, the conjuncts of `tree_embedded` after the first) read a
  definition or a theorem field by field.
-/
import CTM.Model.Output
import CTM.Lemmas.Output
import CTM.Lemmas.OutputFmt
import CTM.Lemmas.OutputClean

namespace CTM.C15
open CTM.Output

/-! ## sample values used by the non-vacuity examples -/

/-- two levels (10 ⊃ 11), leaf level 11 with nodes 3, 4; node 3 has a name and
an alias, level 10 has a readable name -/
def sampleTree : Tree :=
  { hierarchy := [10, 11],
    levels := [(10, [(1, [3]), (2, [4])]), (11, [(3, [100, 101]), (4, [102])])],
    nameMapper := some [(11, [(3, ⟨some 30, some 31⟩)])],
    hierarchyMapper := some [(10, 20)] }

def sampleRec (cid : Nat) (a b : NodeId) (runner : List NodeId) : Record :=
  { cellId := cid,
    levels := [
      (10, { assignment := a, prob := .val 1, corr := .val (-1), agg := .val 1, direct := false,
             runAsg := none, runProb := none, runCorr := none }),
      (11, { assignment := b, prob := .val 3, corr := .nan, agg := .val 3, direct := true,
             runAsg := some runner, runProb := some (runner.map (fun _ => .val 0)),
             runCorr := some (runner.map (fun _ => .val 2)) })] }

/-- two cells; level 10 inferred, level 11 directly assigned with 1 resp. 0
runners-up out of 2 requested -/
def sampleBlob : Blob :=
  { tree := sampleTree, nRunners := 2,
    results := [sampleRec 50 1 3 [4], sampleRec 51 2 4 []] }

def nullLevel : LevelRec :=
  { assignment := 5, prob := .val 1, corr := .null, agg := .val 1, direct := true,
    runAsg := some [], runProb := some [], runCorr := some [] }

/-- a one-leaf taxonomy: no correlation was computed (`avg_correlation` is `null`) -/
def nullBlob : Blob :=
  { tree := { hierarchy := [1], levels := [(1, [(5, [])])], nameMapper := none,
              hierarchyMapper := none },
    nRunners := 0,
    results := [{ cellId := 0, levels := [(1, nullLevel)] }] }

/-! ## HDF5 -/

/-- *"Writing the result to HDF5 and reading it back reproduces every cell id,
assignment, probability, correlation, runner-up list and directly-assigned
flag of the JSON output."*

For every output satisfying `outInv` (≥ 1 cell; distinct level names; every
record has exactly the levels of the hierarchy; each assignment and runner-up
is a node of its level; numbers are not JSON `null`; on directly assigned
levels the three runner-up lists are present with equal length ≤
`n_runners_up`, on inferred levels they are absent; the flag is uniform per
level), `blob_to_hdf5` succeeds and `hdf5_to_blob` returns exactly the blob:
all fields of all records, in order.  No bound on cells, levels, nodes or
runners-up. -/
theorem h5_roundtrip (b : Blob) (hinv : outInv b = true) :
    ∃ h, toH5 b = .ok h ∧ ofH5 h = .ok b :=
  ofH5_toH5_of_outInv b hinv

theorem sampleBlob_inv : outInv sampleBlob = true := by decide +kernel

example : outInv sampleBlob = true := sampleBlob_inv
example : (toH5 sampleBlob).toOption.bind (fun h => (ofH5 h).toOption) = some sampleBlob := by
  obtain ⟨h, h1, h2⟩ := h5_roundtrip sampleBlob sampleBlob_inv
  rw [h1]
  exact congrArg Except.toOption h2

/-- field-wise reading of `h5_roundtrip`: the blob read back has the same
cell ids in the same order and, for every cell and level, the same record
(`assignment`, `bootstrapping_probability`, `avg_correlation`,
`aggregate_probability`, `directly_assigned`, the three `runner_up_*` lists) -/
theorem h5_roundtrip_fields (b : Blob) (hinv : outInv b = true) :
    ∃ h b', toH5 b = .ok h ∧ ofH5 h = .ok b' ∧
      b'.results.map (·.cellId) = b.results.map (·.cellId) ∧
      b'.results.map (·.levels) = b.results.map (·.levels) ∧
      b'.tree = b.tree ∧ b'.nRunners = b.nRunners := by
  obtain ⟨h, h1, h2⟩ := ofH5_toH5_of_outInv b hinv
  exact ⟨h, b, h1, h2, rfl, rfl, rfl, rfl⟩

example : ∃ r ∈ sampleBlob.results, ∃ e ∈ r.levels, e.2.runAsg = some [4] := by decide +kernel

/-- *"fixed-width runner-up arrays padded with −1"* (mechanism of the
property): for **any** blob that `blob_to_hdf5` accepts, the `assignment`
dataset and the runner-up `assignment` dataset are rectangular — one row per
cell, one column per level, and (iff `n_runners_up > 0`) runner-up rows of
exactly `n_runners_up` entries -/
theorem h5_shapes (b : Blob) (h : H5) (hh : toH5 b = .ok h) :
    h.cellId = b.results.map (·.cellId) ∧
    h.assignment.length = b.results.length ∧
    (∀ row ∈ h.assignment, row.length = b.tree.hierarchy.length) ∧
    (h.runners.isSome ↔ b.nRunners > 0) ∧
    (∀ r, h.runners = some r →
      ∀ cell ∈ r.asg, cell.length = b.tree.hierarchy.length ∧
        ∀ row ∈ cell, row.length = b.nRunners) := by
  obtain ⟨slots, hes, rfl⟩ := toH5_ok hh
  obtain ⟨hl, hg⟩ := encCells_shape hes
  refine ⟨rfl, by simp [H5.ofSlots, hl], ?_, ?_, ?_⟩
  · intro row hrow
    obtain ⟨row0, h0, rfl⟩ := List.mem_map.mp hrow
    simp [(hg row0 h0).1]
  · by_cases hn : b.nRunners > 0 <;> simp [H5.ofSlots, hn]
  · intro r hr cell hcell
    by_cases hn : b.nRunners > 0
    · simp only [H5.ofSlots, hn, if_true, Option.some.injEq] at hr
      subst hr
      obtain ⟨row0, h0, rfl⟩ := List.mem_map.mp hcell
      refine ⟨by simp [(hg row0 h0).1], ?_⟩
      intro row hrow
      obtain ⟨s, hs, rfl⟩ := List.mem_map.mp hrow
      exact ((hg row0 h0).2 s hs).1
    · simp [H5.ofSlots, hn] at hr

example : ∃ h, toH5 sampleBlob = .ok h ∧ (h.runners.map (·.asg)) = some [[[-1, -1], [1, -1]], [[-1, -1], [-1, -1]]] := by
  exact ⟨_, rfl, by decide +kernel⟩

/-- the code as it is: `_blob_to_hdf5_results` stores `None` into a float64
array (it becomes `NaN`), so whatever blob was written, the probabilities
and correlations `hdf5_to_blob` returns are never JSON `null` -/
theorem h5_never_null (b b' : Blob) (h : H5) (h1 : toH5 b = .ok h) (h2 : ofH5 h = .ok b') :
    ∀ r ∈ b'.results, ∀ e ∈ r.levels,
      e.2.prob ≠ .null ∧ e.2.corr ≠ .null ∧ e.2.agg ≠ .null := by
  intro r hr e he
  obtain ⟨flag, lr, _, _, _, hn⟩ := ofH5_toH5_level h1 h2 r hr e he
  rw [hn]
  exact ⟨toFloat_ne_null _, toFloat_ne_null _, toFloat_ne_null _⟩

/-- the code as it is: an output in which some `avg_correlation` (or probability)
is `null` — what the mapper produces for a taxonomy with a single leaf — is
**not** reproduced by the HDF5 round trip: the hypothesis "no `null`" of
`outInv` in `h5_roundtrip` cannot be dropped (finding
`C15/pipeline/h5/avg_correlation/null-becomes-nan/single-leaf-taxonomy`) -/
theorem h5_null_not_reproduced (b : Blob) (r : Record) (e : Lvl × LevelRec)
    (hr : r ∈ b.results) (he : e ∈ r.levels)
    (hnull : e.2.prob = .null ∨ e.2.corr = .null ∨ e.2.agg = .null) :
    ∀ h, toH5 b = .ok h → ofH5 h ≠ .ok b := by
  intro h h1 h2
  obtain ⟨g1, g2, g3⟩ := h5_never_null b b h h1 h2 r hr e he
  rcases hnull with hn | hn | hn
  · exact g1 hn
  · exact g2 hn
  · exact g3 hn

example : (∃ r ∈ nullBlob.results, ∃ e ∈ r.levels, e.2.corr = .null) ∧
    ∃ h b', toH5 nullBlob = .ok h ∧ ofH5 h = .ok b' ∧ b' ≠ nullBlob :=
  ⟨by decide +kernel, _, _, rfl, rfl, by decide +kernel⟩

/-- partial converse of `h5_roundtrip` (three of the clauses of `outInv` are
necessary): if the HDF5 round trip reproduces a blob exactly, then no number in
it is `null`,
every level record has the three runner-up lists with equal length ≤
`n_runners_up` when `directly_assigned` and none of them otherwise, and all
records carry the same levels with the same `directly_assigned` flags -/
theorem h5_roundtrip_only_if (b : Blob) (h : H5) (h1 : toH5 b = .ok h) (h2 : ofH5 h = .ok b) :
    (∀ r ∈ b.results, ∀ e ∈ r.levels,
      e.2.prob ≠ .null ∧ e.2.corr ≠ .null ∧ e.2.agg ≠ .null ∧ e.2.runnerShape b.nRunners) ∧
    (∀ r₁ ∈ b.results, ∀ r₂ ∈ b.results,
      r₁.levels.map (fun e => (e.1, e.2.direct)) = r₂.levels.map (fun e => (e.1, e.2.direct))) := by
  constructor
  · intro r hr e he
    obtain ⟨g1, g2, g3⟩ := h5_never_null b b h h1 h2 r hr e he
    obtain ⟨flag, lr, _, _, henc, hn⟩ := ofH5_toH5_level h1 h2 r hr e he
    exact ⟨g1, g2, g3, hn ▸ henc.shape flag⟩
  · intro r₁ hr₁ r₂ hr₂
    rw [ofH5_toH5_flags h1 h2 r₁ hr₁, ofH5_toH5_flags h1 h2 r₂ hr₂]

-- the hypotheses of `h5_roundtrip_only_if` can be met
example : ∃ h, toH5 sampleBlob = .ok h ∧ ofH5 h = .ok sampleBlob :=
  h5_roundtrip sampleBlob sampleBlob_inv

/-! ## CSV -/

/-- *"The CSV output has one row per cell in query order whose label, name and
alias columns are the JSON assignments translated through the taxonomy's name
tables and whose confidence column is the JSON value to four decimals."*

If every record has every level of the hierarchy, `blob_to_csv` succeeds and
row `i` is, column by column, `cellSpec` of record `i`: `cell_id`; per level
the assignment (`label`), `label_to_name(.., 'name')`, at the leaf level only
`label_to_name(.., 'alias')`, and the number under the confidence key printed
with `%.4f` (unformatted in a level of `taint`); and the header is the same
column keys with level names made readable. -/
theorem csv_rows (t : Tree) (taint : List Lvl) (ck : ConfKey) (rs : List Record)
    (h : ∀ r ∈ rs, ∀ l ∈ t.hierarchy, (r.levels.lookup l).isSome) :
    csvRows t taint ck rs = .ok (rs.map (fun r => (csvKeys t).map (cellSpec t taint ck r))) ∧
    csvColumns t = (csvKeys t).map (Option.map (fun (l, k) => (t.levelToName l, k))) :=
  ⟨csvRows_eq t taint ck rs h, csvColumns_eq t⟩

example : ∀ r ∈ sampleBlob.results, ∀ l ∈ sampleTree.hierarchy, (r.levels.lookup l).isSome := by
  decide +kernel
example : csvColumns sampleTree =
    [none, some (20, .label), some (20, .name), some (20, .conf),
     some (11, .label), some (11, .name), some (11, .alias), some (11, .conf)] := by
  decide +kernel

/-- the same under the invariant of `h5_roundtrip`: for every output
satisfying `outInv` the CSV is written and is, row by row and column by column,
the specification -/
theorem csv_rows_outInv (b : Blob) (hinv : outInv b = true) (taint : List Lvl) (ck : ConfKey) :
    csvRows b.tree taint ck b.results =
      .ok (b.results.map (fun r => (csvKeys b.tree).map (cellSpec b.tree taint ck r))) := by
  obtain ⟨_, _, _, hnd, hall⟩ := outInv_iff.mp hinv
  refine csvRows_eq _ taint ck _ fun r hr l hl => ?_
  obtain ⟨hkeys, _⟩ := hall r hr
  rw [← hkeys] at hl hnd
  obtain ⟨e, he, rfl⟩ := List.mem_map.mp hl
  rw [ListAux.lookup_of_mem_nodup hnd he]
  rfl

example : (csvRows sampleBlob.tree [] (confidenceKey 10) sampleBlob.results).toOption.map
    (·.map (·.length)) = some [8, 8] := by decide +kernel

/-- the three files tell the same story: the CSV written from the blob read
back from HDF5 is the CSV written from the JSON blob -/
theorem csv_after_h5 (b : Blob) (hinv : outInv b = true) (taint : List Lvl) (ck : ConfKey) :
    ∃ h b', toH5 b = .ok h ∧ ofH5 h = .ok b' ∧
      csvRows b'.tree taint ck b'.results = csvRows b.tree taint ck b.results ∧
      csvColumns b'.tree = csvColumns b.tree := by
  obtain ⟨h, h1, _⟩ := ofH5_toH5_of_outInv b hinv
  exact ⟨h, normBlob b, h1, ofH5_toH5_norm h1, csvRows_normBlob h1 taint ck, rfl⟩

/-- one row per record, in the order of the records, each starting with the
record's cell id -/
theorem csv_one_row_per_record (t : Tree) (taint : List Lvl) (ck : ConfKey) (rs : List Record)
    (h : ∀ r ∈ rs, ∀ l ∈ t.hierarchy, (r.levels.lookup l).isSome) :
    ∃ rows, csvRows t taint ck rs = .ok rows ∧ rows.length = rs.length ∧
      rows.map (·.head?) = rs.map (fun r => some (Cell.str r.cellId)) := by
  refine ⟨_, csvRows_eq t taint ck rs h, by simp, ?_⟩
  simp [csvKeys, cellSpec, Function.comp_def]

/-- the label column is the JSON assignment; the name and alias columns are
the look-ups in `name_mapper`, which default to the label when there is no
name table -/
theorem csv_label_name_alias (t : Tree) (taint : List Lvl) (ck : ConfKey) (r : Record)
    (l : Lvl) (lr : LevelRec) (h : r.levels.lookup l = some lr) :
    cellSpec t taint ck r (some (l, .label)) = .str lr.assignment ∧
    cellSpec t taint ck r (some (l, .name)) = .str (t.labelToName l lr.assignment .name) ∧
    cellSpec t taint ck r (some (l, .alias)) = .str (t.labelToName l lr.assignment .alias) ∧
    (t.nameMapper = none → t.labelToName l lr.assignment .name = lr.assignment ∧
      t.labelToName l lr.assignment .alias = lr.assignment) := by
  refine ⟨by simp [cellSpec, h], by simp [cellSpec, h], by simp [cellSpec, h], ?_⟩
  intro hn
  simp [Tree.labelToName, hn]

example : sampleTree.labelToName 11 3 .name = 30 ∧ sampleTree.labelToName 11 3 .alias = 31 ∧
    sampleTree.labelToName 11 4 .name = 4 ∧ sampleTree.labelToName 10 1 .name = 1 := by decide +kernel

/-- the alias column exists at the leaf level only -/
theorem csv_alias_leaf_only (t : Tree) (l : Lvl) :
    some (l, ColKind.alias) ∈ levelKeys t l ↔ some l = t.leafLevel := by
  by_cases h : some l = t.leafLevel <;> simp [levelKeys, h]

/-- *"… whose confidence column is the JSON value to four decimals
(bootstrapping probability, or correlation when a single iteration was
run)"*: when no readable level name contains `label` / `name` / `alias` /
`assignment` (`taint = []`), the confidence field of level `l` is
`'%.4f' %` the finite JSON number stored under `bootstrapping_probability`
(`bootstrap_iteration ≠ 1`) or `avg_correlation` (`bootstrap_iteration = 1`). -/
theorem csv_confidence (t : Tree) (iters : Nat) (r : Record) (l : Lvl) (lr : LevelRec)
    (h : r.levels.lookup l = some lr) :
    (iters ≠ 1 → ∀ q, lr.prob = .val q →
      cellSpec t [] (confidenceKey iters) r (some (l, .conf)) = .fixed4 (fmt4 q)) ∧
    (iters = 1 → ∀ q, lr.corr = .val q →
      cellSpec t [] (confidenceKey iters) r (some (l, .conf)) = .fixed4 (fmt4 q)) := by
  constructor <;>
  · intro hi q hq
    simp [cellSpec, h, confidenceKey, hi, LevelRec.conf, hq, confCell]

example : cellSpec sampleTree [] (confidenceKey 1) (sampleRec 50 1 3 [4]) (some (10, .conf))
    = .fixed4 (-1) := by decide +kernel

/-- the code as it is: in a level whose readable name contains `label`,
`name`, `alias` or `assignment` the confidence is *not* printed with `%.4f`
(pandas does not apply `float_format` to the categorical column) — the
hypothesis `taint = []` of `csv_confidence` cannot be dropped -/
theorem csv_confidence_tainted (t : Tree) (taint : List Lvl) (ck : ConfKey) (r : Record)
    (l : Lvl) (lr : LevelRec) (q : Rat) (h : r.levels.lookup l = some lr)
    (hq : lr.conf ck = .val q) (ht : l ∈ taint) :
    cellSpec t taint ck r (some (l, .conf)) = .raw q := by
  simp [cellSpec, h, hq, confCell, ht]

/-- the code as it is, precisely delimited.  `blob_to_df` decides by SUBSTRINGS
of the column name which columns become pandas categories, and
`to_csv(float_format='%.4f')` leaves categorical columns alone; so for a finite
confidence `q` of a level `l` of the hierarchy

* the field is `'%.4f' % q`  ⇔  the column name `f"{readable}_{key}"` contains
  NONE of `label`, `name`, `alias`, `assignment`
  ⇔  the readable level name contains none of them (the suffixes
  `_bootstrapping_probability` / `_avg_correlation` contain none and a word
  cannot straddle the `_`);
* the field is the unformatted float  ⇔  the column name contains one of them;

and one of the two always holds.  The first direction is the property, the
second is the signature of the findings
`C15/csv/confidence-not-4-decimals/level-name-contains-label-name-alias` and
`C15/pipeline/csv/confidence-not-4-decimals/level-name-contains-label-name-alias`. -/
theorem csv_confidence_formatted_iff (t : Tree) (text : Lvl → String) (ck : ConfKey)
    (r : Record) (l : Lvl) (lr : LevelRec) (q : Rat)
    (hl : l ∈ t.hierarchy) (h : r.levels.lookup l = some lr) (hq : lr.conf ck = .val q) :
    (cellSpec t (taintOf text ck t.hierarchy) ck r (some (l, .conf)) = .fixed4 (fmt4 q) ↔
      ∀ w ∈ taintWords, strContains (dfConfColumn (text l) ck) w = false) ∧
    (cellSpec t (taintOf text ck t.hierarchy) ck r (some (l, .conf)) = .raw q ↔
      ∃ w ∈ taintWords, strContains (dfConfColumn (text l) ck) w = true) ∧
    ((∀ w ∈ taintWords, strContains (dfConfColumn (text l) ck) w = false) ↔
      ∀ w ∈ taintWords, strContains (text l) w = false) := by
  have hall : ∀ s : String, (∀ w ∈ taintWords, strContains s w = false) ↔ colIsCategory s = false :=
    fun s => by simp [colIsCategory]
  have hex : ∀ s : String, (∃ w ∈ taintWords, strContains s w = true) ↔ colIsCategory s = true :=
    fun s => by simp [colIsCategory]
  -- the level is tainted iff its dataframe column is categorical, iff its readable name is
  have hT : (taintOf text ck t.hierarchy).contains l = colIsCategory (dfConfColumn (text l) ck) := by
    rw [Bool.eq_iff_iff, taintOf_contains]
    exact and_iff_right hl
  have hname : colIsCategory (text l) = colIsCategory (dfConfColumn (text l) ck) :=
    (colIsCategory_dfConfColumn (text l) ck).symm
  have hcell : cellSpec t (taintOf text ck t.hierarchy) ck r (some (l, .conf)) =
      confCell (colIsCategory (dfConfColumn (text l) ck)) (.val q) := by
    simp only [cellSpec, h, hq, hT]
  rw [hcell, hall, hall, hex, hname]
  cases colIsCategory (dfConfColumn (text l) ck) <;> simp [confCell]

example : colIsCategory (dfConfColumn "class_label" .bootstrappingProbability) = true ∧
    colIsCategory (dfConfColumn "class" .bootstrappingProbability) = false ∧
    colIsCategory (dfConfColumn "my assignment" .avgCorrelation) = true ∧
    strContains "subclass_name" "name" = true ∧ strContains "nam_e" "name" = false := by
  -- rewritten to tests on the level names first: on the appended column names the kernel takes
  -- ten times as long
  simp -index only [colIsCategory_dfConfColumn, taintWords, List.any, strContains,
    String.toList_ofList]
  decide +kernel

/-- *"… preceded by comment lines naming the JSON file, the hierarchy …"*:
the comment block carries the metadata file name and the hierarchy; the
readable hierarchy line is present exactly when some level has a different
readable name, and then lists the readable names -/
theorem csv_comments (t : Tree) (m : Option StrId) (f : Option Bool) :
    (csvComments t m f).metadata = m ∧
    (csvComments t m f).hierarchy = t.hierarchy ∧
    (csvComments t m f).algorithmIsCorrelation = f ∧
    ((csvComments t m f).readable = none ↔ t.hierarchy.map t.levelToName = t.hierarchy) ∧
    (∀ r, (csvComments t m f).readable = some r → r = t.hierarchy.map t.levelToName) := by
  refine ⟨rfl, rfl, rfl, ?_, ?_⟩
  · by_cases h : t.hierarchy.map t.levelToName = t.hierarchy <;> simp [csvComments, h]
  · intro r hr
    by_cases h : t.hierarchy.map t.levelToName = t.hierarchy
    · simp [csvComments, h] at hr
    · simp only [csvComments, ne_eq, h, not_false_eq_true, if_true, Option.some.injEq] at hr
      exact hr.symm

example : (csvComments sampleTree (some 7) (some false)).readable = some [20, 11] := by decide +kernel

/-! ## `%.4f` -/

/-- `'%.4f'` prints a multiple of 10⁻⁴ -/
theorem fmt4_grid (x : Rat) : ∃ n : Int, fmt4 x = (n : Rat) / 10000 :=
  ⟨roundHalfEven (x * 10000), rfl⟩

/-- *"to four decimals"*: the printed value differs from the exact binary
value by at most half a unit of the fourth decimal -/
theorem fmt4_error (x : Rat) : |fmt4 x - x| ≤ 1 / 20000 := by
  rw [fmt4_eq]
  exact (Round.rhe_scaled_error x (by norm_num)).trans_eq (by norm_num)

/-- no four-decimal number is closer to `x` than the one printed -/
theorem fmt4_nearest (x : Rat) (n : Int) : |fmt4 x - x| ≤ |(n : Rat) / 10000 - x| := by
  rw [fmt4_eq]
  exact Round.rhe_scaled_nearest x (by norm_num) n

/-- printing is monotone: a larger confidence never prints smaller -/
theorem fmt4_mono {x y : Rat} (h : x ≤ y) : fmt4 x ≤ fmt4 y := by
  rw [fmt4_eq, fmt4_eq]
  exact Round.rhe_scaled_mono h (by norm_num)

/-- a number that already has four decimals is printed unchanged -/
theorem fmt4_exact (n : Int) : fmt4 ((n : Rat) / 10000) = (n : Rat) / 10000 := by
  rw [fmt4_eq]
  exact Round.rhe_scaled_exact n (by norm_num)

/-- printing is idempotent -/
theorem fmt4_idem (x : Rat) : fmt4 (fmt4 x) = fmt4 x := by
  obtain ⟨n, hn⟩ := fmt4_grid x
  rw [hn, fmt4_exact]

/-- ties go to the even digit: if the exact value is `k·10⁻⁴ + ½·10⁻⁴` the
printed value is `k·10⁻⁴` or `(k+1)·10⁻⁴`, whichever has an even last digit
(`0.03125 ↦ 0.0312`, `0.09375 ↦ 0.0938`) -/
theorem fmt4_tie_even (x : Rat) (k : Int) (h : x * 10000 = (k : Rat) + 1 / 2) :
    ∃ n : Int, fmt4 x = (n : Rat) / 10000 ∧ n % 2 = 0 ∧ (n = k ∨ n = k + 1) :=
  ⟨roundHalfEven (x * 10000), rfl, roundHalfEven_eq_rhe ▸ Round.rhe_tie_even _ k h⟩

example : fmt4 (1 / 32) = 312 / 10000 ∧ fmt4 (3 / 32) = 938 / 10000 := by decide +kernel
example : fmt4Str (1 / 32) = "0.0312" ∧ fmt4Str (-1 / 100000) = "-0.0000" := by decide +kernel

/-! ## the embedded taxonomy -/

/-- *"The taxonomy embedded in the output reconstructs the input taxonomy
without its cell lists"*: whatever `drop_level` / `flatten` say, the embedded
tree is the input tree with every leaf's cell list emptied — same hierarchy,
same name tables, same nodes (in the same order) at every level, same children
at every non-leaf level, `[]` under every leaf -/
theorem tree_embedded (t : Tree) (dropLevel : Option Lvl) (flatten : Bool) :
    let e := embeddedTree t dropLevel flatten
    e = t.dropCells ∧
    e.hierarchy = t.hierarchy ∧ e.nameMapper = t.nameMapper ∧
    e.hierarchyMapper = t.hierarchyMapper ∧
    (∀ l, e.nodesAt l = t.nodesAt l) ∧
    (∀ l, some l ≠ t.leafLevel → e.levels.lookup l = t.levels.lookup l) ∧
    (∀ l m, some l = t.leafLevel → e.levels.lookup l = some m →
      ∀ nv ∈ m, nv.2 = []) := by
  refine ⟨rfl, rfl, rfl, rfl, dropCells_nodesAt t, ?_, ?_⟩
  · intro l hl
    show t.dropCells.levels.lookup l = _
    rw [dropCells_lookup]
    cases t.levels.lookup l <;> simp [dropLevelCells, hl]
  · intro l m hl hm nv hnv
    have : t.dropCells.levels.lookup l = some m := hm
    rw [dropCells_lookup] at this
    cases hx : t.levels.lookup l with
    | none => simp [hx] at this
    | some m0 =>
      simp only [hx, Option.map_some, dropLevelCells, hl, if_true, Option.some.injEq] at this
      subst this
      obtain ⟨x, _, rfl⟩ := List.mem_map.mp hnv
      rfl

example : (embeddedTree sampleTree (some 10) true).levels =
    [(10, [(1, [3]), (2, [4])]), (11, [(3, []), (4, [])])] := by decide +kernel

/-- the node ↔ integer tables of the HDF5 file and the CSV name look-ups are
the same whether they are computed from the embedded tree or from the input
tree (they never look at cell lists) -/
theorem tree_embedded_lookups (t : Tree) (l : Lvl) (n : NodeId) (k : NameKey) :
    t.dropCells.nodesAt l = t.nodesAt l ∧
    t.dropCells.labelToName l n k = t.labelToName l n k ∧
    t.dropCells.levelToName l = t.levelToName l ∧
    t.dropCells.leafLevel = t.leafLevel :=
  ⟨dropCells_nodesAt t l, rfl, rfl, rfl⟩

/-- dropping the cells twice is dropping them once -/
theorem dropCells_idem (t : Tree) : t.dropCells.dropCells = t.dropCells := by
  cases t with
  | mk hier levels nm hm =>
    simp only [Tree.dropCells, Tree.leafLevel, List.map_map, Tree.mk.injEq, and_true, true_and]
    apply List.map_congr_left
    intro kv _
    obtain ⟨k, v⟩ := kv
    by_cases h : some k = hier.getLast? <;> simp [Function.comp_def, h]

/-! ## cells in query order -/

/-- *"one row per cell in query order"*: `re_order_blob` returns, for every
cell id of the query file in turn, a record of the results with that id — so
the JSON records (and with `csv_one_row_per_record` the CSV rows) are in query
order, one per query cell -/
theorem reorder_query_order (rs : List Record) (order : List StrId)
    (h : ∀ c ∈ order, c ∈ rs.map (·.cellId)) :
    ∃ rs', reorder rs order = .ok rs' ∧ rs'.map (·.cellId) = order ∧ ∀ r ∈ rs', r ∈ rs :=
  reorder_spec rs order h

example : ∃ rs', reorder sampleBlob.results [51, 50] = .ok rs' ∧ rs'.map (·.cellId) = [51, 50] :=
  ⟨_, rfl, rfl⟩

/-- when the cell ids of the results are distinct and the query lists each of
them once, `re_order_blob` loses and duplicates nothing: its output is a
permutation of the results (the one that puts them in query order) -/
theorem reorder_permutation (rs : List Record) (order : List StrId)
    (hids : (rs.map (·.cellId)).Nodup) (hord : order.Nodup)
    (h1 : ∀ c ∈ order, c ∈ rs.map (·.cellId)) (h2 : ∀ r ∈ rs, r.cellId ∈ order) :
    ∃ rs', reorder rs order = .ok rs' ∧ rs'.map (·.cellId) = order ∧ rs'.Perm rs := by
  obtain ⟨rs', e1, e2, e3⟩ := reorder_spec rs order h1
  exact ⟨rs', e1, e2, perm_of_nodup_keys (·.cellId) hids hord h2 e2 e3⟩

example : (sampleBlob.results.map (·.cellId)).Nodup ∧ [51, 50].Nodup := by decide +kernel

/-! ## `clean_for_json` -/

/-- mechanism *"numpy scalars and sets converted before JSON encoding"*: if
every leaf is `None`, a `bool`, `np.bool_`, `int`, `np.int64`, `float` or `str`,
the cleaned value is made of `None`, `bool`, `int`, `float`, `str`, `list`,
`dict` only (no numpy scalar, tuple, set or array is left at any depth) -/
theorem clean_for_json_plain (v : PyVal) (h : noOther v = true) : plain (clean v) = true :=
  clean_plain v h

/-- the JSON value a cleaned value stands for is that of the value itself
(only Python types change; a set stands for the sorted list of its elements) -/
theorem clean_for_json_value (v : PyVal) : erase (clean v) = erase v := erase_clean v

/-- cleaning is idempotent -/
theorem clean_for_json_idem (v : PyVal) : clean (clean v) = clean v := clean_idem v

/-- the cleaned set does not depend on the order in which the set happens to be
enumerated (`PYTHONHASHSEED`) -/
theorem clean_for_json_set_order (xs ys : List Int) (h : xs.Perm ys) :
    clean (.intSet xs) = clean (.intSet ys) := clean_intSet_perm h

example : noOther (.dict [(.str 1, .tuple [.npInt64 3, .intSet [3, 1, 2], .ndarray [.npBool true]])])
    = true := by decide +kernel
example : plain (.tuple [.int 1]) = false ∧ plain (clean (.tuple [.int 1])) = true := by decide +kernel

end CTM.C15
