/-
  C05 — row access is exact for every on-disk encoding and chunking.

  Theorems about the executable model `CTM/Model/Sparse.lean`,
  `CTM/Model/Chunking.lean` (tied to `anndata_iterator/anndata_iterator.py`,
  `utils/sparse_utils.py`, `utils/csc_to_csr.py`, `utils/utils.py` by the
  correspondence suite `harness/props/c05.py`).  No size bound anywhere: all
  matrices, all chunk sizes `≥ 1`, all memory budgets, all row lists.

  Vocabulary: `Mat α = (indptr, indices, data)`; `WFptr ip n nnz` — `ip` has
  `n + 1` entries, is non-decreasing, starts at 0, ends at `nnz` (the column
  indices inside a row need *not* be sorted); `toDense zero M nRows nCols` — the
  stored matrix: row `i` is the scatter of the entries at positions
  `indptr[i] ..< indptr[i+1]`; `slice D r0 r1` — Python `D[r0:r1]`.

  The property's clauses and where they are proved:
  * every row exactly once, in file order, whatever the chunk size — `chunks_cover`,
    `chunks_shape`, `eff_chunk`, `iter_reassembles`;
  * with exactly the stored values — `get_chunk`, `iter_exact_csr`, `iter_exact_dense`,
    `iter_exact_csc` (`iter_exact_csc_any_max_gb` for the budget the code derives);
  * whatever the encoding — `encoding_indep` (its consequences for statistics and mapping are in
    `Props/C05/Consequence.lean`);
  * an arbitrary list of rows in the requested order — `merge_index_list`, `get_batch_dense`,
    `get_batch_csr`, `load_disjoint`;
  * iteration and random access on one iterator object — `random_access_stateless`, `run_splits`,
    `readers_exact`;
  * what is rejected and not answered wrongly — `get_chunk_rejects_bad_column`,
    `get_batch_dense_rejects_repeats`.
-/
import CTM.Lemmas.SparseIter

namespace CTM.C05
open CTM.Chunking CTM.Sparse

/-- running example: `[[1,0,2],[0,3,0],[4,0,5]]` as CSR (and, read
column-wise, the CSC form of its transpose) -/
def M0 : Mat Nat := ⟨[0, 2, 3, 5], [0, 2, 1, 0, 2], [1, 2, 3, 4, 5]⟩

/-! ## "every row exactly once, in file order, whatever the chunk size" -/

/-- the row ranges `(r0, r1)` produced by `CSRRowIterator.__next__` /
`DenseArrayRowIterator.__next__` (`r1 = min(n_rows, r0 + chunk)`, `r0 = r1`
until `r0 >= n_rows`) cover `0, 1, …, n-1` exactly once, in order, for every
row count and every chunk size `≥ 1` (also beyond the row count). -/
theorem chunks_cover (n cs : Nat) (hcs : 1 ≤ cs) :
    (chunks n cs).flatMap rangeOf = List.range n :=
  chunks_flatMap_rangeOf n cs hcs

example : chunks 7 3 = [(0, 3), (3, 6), (6, 7)] := by decide +kernel
example : chunks 3 5 = [(0, 3)] := by decide +kernel

/-- every chunk is a non-empty range inside `[0, n)`, at most `cs` rows wide,
and exactly `cs` rows wide unless it is the last one; the iterator stops after
`⌈n / cs⌉` steps. -/
theorem chunks_shape (n cs : Nat) (hcs : 1 ≤ cs) :
    (∀ p ∈ chunks n cs, p.1 < p.2 ∧ p.2 ≤ n ∧ p.2 - p.1 ≤ cs ∧ (p.2 < n → p.2 - p.1 = cs)) ∧
    (chunks n cs).length = ceilDiv n cs :=
  ⟨chunks_bounds n cs hcs, chunks_length n cs hcs⟩

/-- the chunk size `run_type_assignment_on_h5ad` really uses,
`min(max(1, ceil(n_rows / n_processors)), chunk_size)`, is a legal chunk size
(`≥ 1`) whenever the requested one is, never exceeds the request, and never
exceeds an even split of the rows over the workers (so that all workers get
work). -/
theorem eff_chunk (nRows nProc cs : Nat) (hcs : 1 ≤ cs) :
    1 ≤ effChunk nRows nProc cs ∧ effChunk nRows nProc cs ≤ cs ∧
    effChunk nRows nProc cs ≤ max 1 (ceilDiv nRows nProc) := by
  unfold effChunk
  omega

example : effChunk 10 3 100 = 4 := by decide +kernel

/-! ## "with exactly the stored values": CSR -/

/-- for every well-formed CSR matrix (pointer array
monotone from 0 to nnz, column indices in range, *not* necessarily sorted) and
every `r0 ≤ r1 ≤ nRows`, `CSRRowIterator.get_chunk(r0, r1)` (pointer slice →
`data`/`indices` slice → `_csr_to_dense`) returns rows `r0 ..< r1` of the
stored matrix, tagged with `(r0, r1)`. -/
theorem get_chunk {α} (zero : α) (M : Mat α) (nRows nCols : Nat)
    (w : WFptr M.indptr nRows M.indices.length) (hr : ∀ x ∈ M.indices, x < nCols)
    (r0 r1 : Nat) (h01 : r0 ≤ r1) (h1 : r1 ≤ nRows) :
    csrGetChunk zero M nCols r0 r1
      = .ok (slice (toDense zero M nRows nCols) r0 r1, r0, r1) := by
  unfold csrGetChunk
  rw [loadCsr_ok zero M nRows nCols w hr r0 r1 h01 h1]
  rfl

example : WFptr M0.indptr 3 5 := ⟨rfl, by decide +kernel, rfl, rfl⟩
example : csrGetChunk 0 M0 3 1 3 = .ok ([[0, 3, 0], [4, 0, 5]], 1, 3) := by decide +kernel

/-- **`iter_exact` (CSR)** — iterating a CSR layer with any chunk size `≥ 1`
yields exactly the chunks `chunks nRows cs`, each holding the corresponding
rows of the stored matrix. -/
theorem iter_exact_csr {α} (zero : α) (M : Mat α) (nRows nCols cs : Nat) (hcs : 1 ≤ cs)
    (w : WFptr M.indptr nRows M.indices.length) (hr : ∀ x ∈ M.indices, x < nCols) :
    csrIter zero M nRows nCols cs
      = .ok ((chunks nRows cs).map fun p =>
          (slice (toDense zero M nRows nCols) p.1 p.2, p.1, p.2)) :=
  csrIter_ok zero M nRows nCols cs hcs w hr

example : csrIter 0 M0 3 3 2 = .ok [([[1, 0, 2], [0, 3, 0]], 0, 2), ([[4, 0, 5]], 2, 3)] := by decide +kernel

/-- **`iter_exact` (dense)** — the dense iterator yields the same chunk ranges
with the corresponding rows (by definition of `h5[r0:r1, :]`), and the blocks,
concatenated in the order yielded, are the whole matrix: every row exactly once,
in file order (for CSR: `iter_reassembles`). -/
theorem iter_exact_dense {α} (D : Dense α) (cs : Nat) (hcs : 1 ≤ cs) :
    denseIter D cs = (chunks D.length cs).map (fun p => (slice D p.1 p.2, p.1, p.2)) ∧
    ((denseIter D cs).map (·.1)).flatten = D :=
  ⟨rfl, denseIter_rows D cs hcs⟩

/-- the blocks of a CSR iteration, concatenated, are the stored matrix -/
theorem iter_reassembles {α} (zero : α) (M : Mat α) (nRows nCols cs : Nat) (hcs : 1 ≤ cs)
    (w : WFptr M.indptr nRows M.indices.length) (hr : ∀ x ∈ M.indices, x < nCols) :
    ∃ blocks, csrIter zero M nRows nCols cs = .ok blocks ∧
      (blocks.map (·.1)).flatten = toDense zero M nRows nCols := by
  refine ⟨_, csrIter_ok zero M nRows nCols cs hcs w hr, ?_⟩
  rw [List.map_map]
  have := sliceChunks_flatten (toDense zero M nRows nCols) cs hcs
  rwa [sliceChunks, toDense_length] at this

/-! ## CSC: first rewritten as CSR in scratch space, for any memory budget -/

/-- **`iter_exact` (CSC)** — a CSC layer (`nCols` column slices over row
indices `< nRows`; row indices within a column need not be sorted) is first
transposed on disk with a budget `B`; for every budget whose chunk sizes are
`≥ 1` (every budget the code derives is, `iter_exact_csc_any_max_gb`), any element budget and
every row chunk size `≥ 1` the iterator then yields the chunks
`chunks nRows cs` with the corresponding rows of the matrix the CSC arrays
denote (the transpose of their column-wise reading). -/
theorem iter_exact_csc {α} (zero : α) (M : Mat α) (nRows nCols cs : Nat) (B : Budget)
    (hcs : 1 ≤ cs) (hlo : 1 ≤ B.lo) (hc : 1 ≤ B.loCount)
    (w : WFptr M.indptr nCols M.indices.length) (hlen : M.data.length = M.indices.length)
    (hr : ∀ x ∈ M.indices, x < nRows) :
    cscIter zero M nRows nCols cs B
      = .ok ((chunks nRows cs).map fun p =>
          (slice (transposeDense zero (toDense zero M nCols nRows) nRows) p.1 p.2, p.1, p.2)) :=
  cscIter_ok zero M nRows nCols cs B hcs hlo hc w hlen hr

example : cscIter 0 M0 3 3 2 ⟨1, 1, 1⟩
    = .ok [([[1, 0, 4], [0, 3, 0]], 0, 2), ([[2, 0, 5]], 2, 3)] := by decide +kernel

/-- *"all memory budgets down to the enforced minimum"*: for the budget the
code derives from **any** `max_gb` (also 0 or negative), any dtypes and any
constants `K` of the source with minimum sizes `≥ 1` (`C13.source_constants`) — and with the code's flat
`next_idx` / buffer addressing of the fill pass (`C13.transpose_flat`), the CSC
iterator yields the rows of the stored matrix. -/
theorem iter_exact_csc_any_max_gb {α} (zero : α) (M : Mat α) (nRows nCols cs : Nat)
    (K : BudgetConsts) (hK1 : 1 ≤ K.minLoad) (hK2 : 1 ≤ K.minCount)
    (countGb loadGb elGb : Rat) (dataBytes indptrBytes indicesBytes : Nat) (hcs : 1 ≤ cs)
    (w : WFptr M.indptr nCols M.indices.length) (hlen : M.data.length = M.indices.length)
    (hr : ∀ x ∈ M.indices, x < nRows) :
    (transposeOnDiskFlat zero M nRows none
        (Budget.ofConsts K countGb loadGb elGb dataBytes indptrBytes indicesBytes)
      >>= fun csr => csrIter zero csr nRows nCols cs)
      = .ok ((chunks nRows cs).map fun p =>
          (slice (transposeDense zero (toDense zero M nCols nRows) nRows) p.1 p.2, p.1, p.2)) := by
  have hlo : 1 ≤ (Budget.ofConsts K countGb loadGb elGb dataBytes indptrBytes indicesBytes).lo := by
    unfold Budget.ofConsts; exact Nat.le_trans hK1 (Nat.le_max_left _ _)
  have hc : 1 ≤ (Budget.ofConsts K countGb loadGb elGb dataBytes indptrBytes indicesBytes).loCount := by
    unfold Budget.ofConsts; exact Nat.le_trans hK2 (Nat.le_max_left _ _)
  rw [transposeOnDiskFlat_eq zero M nRows none _ hlo hc hlen hr]
  exact cscIter_ok zero M nRows nCols cs _ hcs hlo hc w hlen hr

example : 100 ≤ (Budget.ofConsts ⟨100, 100, 100, 8⟩ 0 0 0 8 4 4).lo := Nat.le_max_left _ _

/-- a column index outside the matrix is an `IndexError` of `_csr_to_dense`,
never silently dropped: the model keeps the raise site. -/
theorem get_chunk_rejects_bad_column {α} (zero : α) (M : Mat α) (nRows nCols : Nat)
    (x : Nat) (hx : x ∈ usedCols M) (hbig : nCols ≤ x) :
    csrToDense zero M nRows nCols = .error .indexOutOfRange := by
  unfold csrToDense
  by_cases h : M.indptr.length - 1 > nRows
  · simp [h]
  · have : (usedCols M).any (· ≥ nCols) = true := by
      rw [List.any_eq_true]; exact ⟨x, hx, by simpa using hbig⟩
    simp [h, this]

example : csrToDense 0 (⟨[0, 1], [5], [7]⟩ : Mat Nat) 1 3 = .error .indexOutOfRange := by decide +kernel

/-- *"whatever the encoding"*: if a CSR encoding `R`, a
CSC encoding `C` and a dense array `D` store the same `nRows × nCols` matrix,
the three iterators yield the same sequence of `(block, r0, r1)` for every
chunk size and budget; everything computed from the iterator's output (mapping,
reference statistics) is therefore the same function of the matrix. -/
theorem encoding_indep {α} (zero : α) (R C : Mat α) (D : Dense α) (nRows nCols cs : Nat)
    (B : Budget) (hcs : 1 ≤ cs) (hlo : 1 ≤ B.lo) (hc : 1 ≤ B.loCount)
    (wR : WFptr R.indptr nRows R.indices.length) (hrR : ∀ x ∈ R.indices, x < nCols)
    (wC : WFptr C.indptr nCols C.indices.length) (hlenC : C.data.length = C.indices.length)
    (hrC : ∀ x ∈ C.indices, x < nRows)
    (hR : toDense zero R nRows nCols = D)
    (hC : transposeDense zero (toDense zero C nCols nRows) nRows = D) :
    csrIter zero R nRows nCols cs = .ok (denseIter D cs) ∧
    cscIter zero C nRows nCols cs B = .ok (denseIter D cs) := by
  have hD : D.length = nRows := by rw [← hR, toDense_length]
  constructor
  · rw [csrIter_ok zero R nRows nCols cs hcs wR hrR, hR]
    unfold denseIter denseGetChunk
    rw [hD]
  · rw [cscIter_ok zero C nRows nCols cs B hcs hlo hc wC hlenC hrC, hC]
    unfold denseIter denseGetChunk
    rw [hD]

/-! ## "requesting an arbitrary list of rows returns those rows in the requested order" -/

/-- for every non-empty list of integers (any order,
repeats allowed) the result is a list of non-empty half-open ranges,
increasing and separated by gaps, whose union is exactly the set of the input
(`npUnique xs`: sorted, without repeats, same elements). -/
theorem merge_index_list (xs : List Nat) (hne : xs ≠ []) :
    ∃ rs, mergeIndexList xs = .ok rs ∧
      rs.flatMap rangeOf = npUnique xs ∧
      (npUnique xs).Pairwise (· < ·) ∧ (∀ z, z ∈ npUnique xs ↔ z ∈ xs) ∧
      rs.Pairwise (fun p q => p.2 < q.1) ∧ (∀ p ∈ rs, p.1 < p.2) :=
  mergeIndexList_ok xs hne

example : mergeIndexList [7, 2, 3, 9, 8, 2] = .ok [(2, 4), (7, 10)] := by decide +kernel

/-- **`get_batch` (dense)** — `DenseArrayRowIterator.get_batch`: argsort the
request, read the rows in increasing order, un-sort with
`output[meta_sort[ii]] = raw[ii]`.  For every non-empty row list without
repeats, all in range, *in any order*, row `i` of the result is row `rows[i]`
of the matrix. -/
theorem get_batch_dense {α} (zero : α) (D : Dense α) (nCols : Nat) (rows : List Nat)
    (hne : rows ≠ []) (hn : rows.Nodup) (hr : ∀ r ∈ rows, r < D.length) :
    denseGetBatch zero D nCols rows = .ok (rows.map (D.getD · [])) :=
  denseGetBatch_ok zero D nCols rows hne hn hr

example : denseGetBatch 0 [[1, 0, 2], [0, 3, 0], [4, 0, 5]] 3 [2, 0]
    = .ok [[4, 0, 5], [1, 0, 2]] := by decide +kernel

/-- **`get_batch` (CSR)** — *"sorted, merged row ranges loaded then un-sorted"*:
`_load_disjoint_csr` argsorts the request, merges it into contiguous ranges
(`merge_index_list`), loads each range with `_load_sparse`, concatenates the
pieces (`merge_csr`) and un-sorts; `get_batch` then turns the result into a
dense block.  For every well-formed CSR matrix and every non-empty row list
without repeats, all in range, *in any order*, row `i` of the result is row
`rows[i]` of the stored matrix. -/
theorem get_batch_csr {α} (zero : α) (M : Mat α) (nRows nCols : Nat)
    (w : WFptr M.indptr nRows M.indices.length) (hlen : M.data.length = M.indices.length)
    (hc : ∀ x ∈ M.indices, x < nCols)
    (rows : List Nat) (hne : rows ≠ []) (hn : rows.Nodup) (hr : ∀ r ∈ rows, r < nRows) :
    csrGetBatch zero M nCols rows
      = .ok (rows.map fun r => (toDense zero M nRows nCols).getD r []) :=
  csrGetBatch_ok zero M nRows nCols w hlen hc rows hne hn hr

example : csrGetBatch 0 M0 3 [2, 0] = .ok [[4, 0, 5], [1, 0, 2]] := by decide +kernel

/-- the sparse form of the same request (`get_batch(sparse=True)`,
`amalgamate_h5ad`): the arrays returned by `_load_disjoint_csr` are exactly the
requested rows' stored slices one after the other, with the pointer array of
their running lengths. -/
theorem load_disjoint {α} (M : Mat α) (nRows : Nat)
    (w : WFptr M.indptr nRows M.indices.length) (hlen : M.data.length = M.indices.length)
    (rows : List Nat) (hne : rows ≠ []) (hn : rows.Nodup) (hr : ∀ r ∈ rows, r < nRows) :
    loadDisjoint M rows = .ok (ofSegs (rows.map (segOf M))) :=
  loadDisjoint_ok M nRows w hlen rows hne hn hr

example : loadDisjoint M0 [2, 0] = .ok ⟨[0, 2, 4], [0, 2, 0, 2], [4, 5, 1, 2]⟩ := by decide +kernel

/-- repeated rows are outside the property's guard and are *rejected* by the
dense iterator, never answered wrongly (h5py: "Indexing elements must be in
increasing order"). -/
theorem get_batch_dense_rejects_repeats {α} (zero : α) (D : Dense α) (nCols : Nat)
    (rows : List Nat) (hne : rows ≠ []) (hrep : ¬ rows.Nodup) :
    denseGetBatch zero D nCols rows = .error .badRows := by
  unfold denseGetBatch
  have h1 : rows.isEmpty = false := by
    cases rows with
    | nil => exact absurd rfl hne
    | cons _ _ => rfl
  have h2 : strictInc ((argsort rows).map (rows.getD · 0)) = false := by
    cases h : strictInc ((argsort rows).map (rows.getD · 0)) with
    | false => rfl
    | true =>
      exfalso
      apply hrep
      have hp := (strictInc_iff_pairwise _).mp h
      have hnd : ((argsort rows).map (rows.getD · 0)).Nodup := by
        apply List.Pairwise.imp _ hp
        intro a b hab; omega
      exact (argsort_map_getD_perm rows).nodup_iff.mp hnd
  simp only [h1, h2, Bool.false_eq_true, if_false, Bool.not_false, if_true]

example : denseGetBatch 0 [[1], [2]] 1 [1, 1] = .error .badRows := by decide +kernel

/-! ## one iterator object: iteration and random access interleaved -/

/-- the iterator object as a state machine
(state = the cursor `self.r0`; operations `next()`, `get_chunk(r0, r1)`,
`it[i]`, `it[[a, …, b]]`, `get_batch(rows)`).  For a reader that answers legal
requests with the stored rows of `D` (`ReaderExact`; the CSR, dense and CSC
readers are, by `readers_exact`), every chunk size `≥ 1` and **every operation
sequence**, started at cursor 0:
* the blocks delivered by the `next()` calls of the sequence, concatenated,
  are rows `0 ..< k` of `D` where `k ≤ n` is the final cursor — whatever random
  access was interleaved, nothing is skipped or delivered twice;
* wherever it occurs in the sequence (after any prefix `pre`), a random-access
  operation with legal arguments returns the stored rows and leaves the cursor
  where it was. -/
theorem random_access_stateless {α} (rd : Reader α) (D : Dense α) (ex : ReaderExact rd D)
    (cs : Nat) (hcs : 1 ≤ cs) (ops : List IterOp) :
    ((iterRun rd cs 0 ops).1 ≤ D.length ∧
      nextRows ops (iterRun rd cs 0 ops).2 = slice D 0 (iterRun rd cs 0 ops).1) ∧
    (∀ pre : List IterOp,
      (∀ r0 r1, r0 ≤ r1 → r1 ≤ D.length →
        iterStep rd cs (iterRun rd cs 0 pre).1 (.getChunk r0 r1)
          = ((iterRun rd cs 0 pre).1, .block (slice D r0 r1) r0 r1)) ∧
      (∀ i, i < D.length →
        iterStep rd cs (iterRun rd cs 0 pre).1 (.getItem i)
          = ((iterRun rd cs 0 pre).1, .block (slice D i (i + 1)) i (i + 1))) ∧
      (∀ xs a b, xs.head? = some a → xs.getLast? = some b → a ≤ b + 1 → b < D.length →
        iterStep rd cs (iterRun rd cs 0 pre).1 (.getItemList xs)
          = ((iterRun rd cs 0 pre).1, .block (slice D a (b + 1)) a (b + 1))) ∧
      (∀ rows, rows ≠ [] → rows.Nodup → (∀ r ∈ rows, r < D.length) →
        iterStep rd cs (iterRun rd cs 0 pre).1 (.getBatch rows)
          = ((iterRun rd cs 0 pre).1, .batch (rows.map (D.getD · []))))) := by
  have h := iterRun_prefix rd D ex cs ops 0 (Nat.zero_le _)
  exact ⟨⟨h.2.1, h.2.2⟩, fun pre => iterStep_random_access rd D ex cs _⟩

/-- a run splits at any point into the run of the prefix and the run of the
rest from the cursor the prefix left (so "after any prefix `pre`" above is
every position of every run). -/
theorem run_splits {α} (rd : Reader α) (cs : Nat) (pre post : List IterOp) :
    iterRun rd cs 0 (pre ++ post)
      = ((iterRun rd cs (iterRun rd cs 0 pre).1 post).1,
         (iterRun rd cs 0 pre).2 ++ (iterRun rd cs (iterRun rd cs 0 pre).1 post).2) :=
  iterRun_append rd cs pre post 0

/-- the CSR, dense and (for every budget) CSC readers answer legal requests
with the stored rows. -/
theorem readers_exact {α} (zero : α) (M : Mat α) (nMajor nMinor : Nat) (D : Dense α) (B : Budget)
    (w : WFptr M.indptr nMajor M.indices.length) (hlen : M.data.length = M.indices.length)
    (hr : ∀ x ∈ M.indices, x < nMinor) (hlo : 1 ≤ B.lo) (hc : 1 ≤ B.loCount) :
    ReaderExact (csrReader zero M nMajor nMinor) (toDense zero M nMajor nMinor) ∧
    ReaderExact (denseReader zero D nMinor) D ∧
    ∃ rd, cscReader zero M nMinor nMajor B = .ok rd ∧
      ReaderExact rd (transposeDense zero (toDense zero M nMajor nMinor) nMinor) :=
  ⟨csrReader_exact zero M nMajor nMinor w hlen hr, denseReader_exact zero D nMinor,
   cscReader_exact zero M nMinor nMajor B hlo hc w hlen hr⟩

/- peek at the first rows, then loop: nothing skipped, nothing twice -/
example : iterRun (csrReader 0 M0 3 3) 2 0 [.getChunk 0 1, .next, .getItem 2, .next, .next]
    = (3, [.block [[1, 0, 2]] 0 1, .block [[1, 0, 2], [0, 3, 0]] 0 2, .block [[4, 0, 5]] 2 3,
           .block [[4, 0, 5]] 2 3, .stop]) := by decide +kernel
example : nextRows [.getChunk 0 1, .next, .getItem 2, .next, .next]
    (iterRun (csrReader 0 M0 3 3) 2 0 [.getChunk 0 1, .next, .getItem 2, .next, .next]).2
    = [[1, 0, 2], [0, 3, 0], [4, 0, 5]] := by decide +kernel

end CTM.C05
