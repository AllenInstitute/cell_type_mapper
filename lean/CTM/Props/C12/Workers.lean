/-
  C12 / C04 — the worker level of `select_all_markers`.

  `Selection.selectAll` is the per-parent selection (one result per parent;
  "the worker processes do not communicate, so `n_processors` does not
  appear").  Here the worker level is put on top of it, as in
  marker_selection/selection_pipeline.py:

      output_dict = mgr.dict()
      … one `_marker_selection_worker` per parent (at most `n_processors` at a
        time; a "behemoth" parent - more leaf pairs than the cut-off - works
        on the full table, and only one behemoth runs at a time) …
          output_dict[parent_node] = marker_genes        # when the worker is done
      output_dict = dict(output_dict)

  `selectAllWorkers`: parent `i` is registered under the key `keys[i]`; the
  workers' `(key, result)` records reach the dict in the completion order
  `completion` (`Procs.gather`; a list of positions in `keys.zip rs`), and the
  caller reads the returned lookup for
  the keys `ask` (`Procs.mergeDictByKey`).  `selection_worker_indep` composes
  C04 `schedule_indep_dict` (completion order) with C12 `indep_cutoff`
  (behemoth threshold): the lookup is the same for every worker count, every
  completion order the poll loop can produce, and every threshold.
-/
import CTM.Props.C12
import CTM.Props.C04
import CTM.Lemmas.ListAux

namespace CTM.C12
open CTM CTM.Selection CTM.Procs

/-- `select_all_markers` with its workers: the returned lookup, read for the
keys `ask` (`none` = the key is not in the dict) -/
def selectAllWorkers (t : RefTable) (query : List Nat) (parents : List Parent) (keys : List Nat)
    (cutoff : Nat) (ties : Nat → Tie) (completion : List Nat) (ask : List Nat) :
    Except Err (List (Option (Except Err (List Nat)))) :=
  match selectAll t query parents cutoff ties with
  | .error e => .error e
  | .ok rs => .ok (mergeDictByKey (gather (keys.zip rs) completion) ask)

/-- with distinct keys the dict the workers fill is, whatever the completion
order, the dispatch-order association `keys[i] ↦ rs[i]` -/
theorem workers_lookup {ρ} (keys : List Nat) (rs : List ρ) (hk : keys.Nodup)
    (hlen : rs.length = keys.length) (completion : List Nat)
    (hc : completion.Perm (List.range keys.length)) (ask : List Nat) :
    mergeDictByKey (gather (keys.zip rs) completion) ask =
      ask.map (fun k => (keys.zip rs).lookup k) := by
  have hn : ((keys.zip rs).map (·.1)).Nodup := by
    rwa [List.map_fst_zip (Nat.le_of_eq hlen.symm)]
  have hp : (gather (keys.zip rs) completion).Perm (keys.zip rs) :=
    gather_perm _ _ (by rwa [List.length_zip, hlen, Nat.min_self])
  rw [C04.schedule_indep_dict _ _ hp ((hp.map _).symm.nodup hn) ask, mergeDictByKey,
    dictOfList_eq_self _ hn]
  rfl

/-- the worker count and the completion order drop out of `select_all_markers`: whatever order the
poll loop produced, the lookup is the dispatch-order association `keys[i] ↦ rs[i]` read at `ask` -/
theorem selectAllWorkers_eq {t : RefTable} {query : List Nat} {parents : List Parent}
    {keys : List Nat} (c : Nat) (ties : Nat → Tie) {p : Nat} {σ : List Nat} (hk : keys.Nodup)
    (hlen : keys.length = parents.length) (hσ : σ ∈ completionOrders parents.length p)
    (ask : List Nat) :
    selectAllWorkers t query parents keys c ties σ ask =
      (selectAll t query parents c ties).map fun rs => ask.map fun k => (keys.zip rs).lookup k := by
  unfold selectAllWorkers
  cases hs : selectAll t query parents c ties with
  | error e => rfl
  | ok rs =>
    exact congrArg Except.ok (workers_lookup keys rs hk (by rw [selectAll_length hs, hlen]) σ
      (hlen ▸ completionOrders_perm _ _ σ hσ) ask)

/-- "The selection is the same for any worker count and any threshold deciding which parents
are processed on the full table", and for every completion order of the workers: two runs
of `select_all_markers` on the same reference table, query
and parents (registered under distinct keys), with worker counts `p₁`, `p₂`,
completion orders `σ₁`, `σ₂` the poll loop can produce with that many slots
(`Procs.completionOrders`), behemoth cut-offs `c₁`, `c₂`, and tie-breaking that
looks at the utility array only.  The returned lookups have the same keys, and
under every key both runs selected the same genes (`Perm`: the order of the
forced "desperate" prefix may differ between the behemoth and the down-sampled
path, C12 `indep`). -/
theorem selection_worker_indep {t : RefTable} {query : List Nat} {parents : List Parent}
    {keys : List Nat} {c₁ c₂ p₁ p₂ : Nat} {pol : Nat → List Int → Nat} {σ₁ σ₂ ask : List Nat}
    {r₁ r₂ : List (Option (Except Err (List Nat)))}
    (ht : TableWF t) (hk : keys.Nodup) (hlen : keys.length = parents.length)
    (hσ₁ : σ₁ ∈ completionOrders parents.length p₁) (hσ₂ : σ₂ ∈ completionOrders parents.length p₂)
    (h₁ : selectAllWorkers t query parents keys c₁ (fun i _ u => pol i u) σ₁ ask = .ok r₁)
    (h₂ : selectAllWorkers t query parents keys c₂ (fun i _ u => pol i u) σ₂ ask = .ok r₂) :
    r₁.length = r₂.length ∧
    (∀ j : Nat, (r₁[j]?).map Option.isSome = (r₂[j]?).map Option.isSome) ∧
    ∀ (j : Nat) (a b : List Nat), r₁[j]? = some (some (.ok a)) → r₂[j]? = some (some (.ok b)) →
      a.Perm b := by
  rw [selectAllWorkers_eq c₁ _ hk hlen hσ₁ ask] at h₁
  rw [selectAllWorkers_eq c₂ _ hk hlen hσ₂ ask] at h₂
  match hs₁ : selectAll t query parents c₁ (fun i _ u => pol i u),
      hs₂ : selectAll t query parents c₂ (fun i _ u => pol i u) with
  | .error _, _ => rw [hs₁] at h₁; cases h₁
  | .ok _, .error _ => rw [hs₂] at h₂; cases h₂
  | .ok rs₁, .ok rs₂ =>
    rw [hs₁] at h₁
    rw [hs₂] at h₂
    cases h₁
    cases h₂
    have hl₁ : rs₁.length = keys.length := by rw [selectAll_length hs₁, hlen]
    have hl₂ : rs₂.length = keys.length := by rw [selectAll_length hs₂, hlen]
    refine ⟨by rw [List.length_map, List.length_map], fun j => ?_, fun j a b ha hb => ?_⟩
    · have key : ∀ (rs : List (Except Err (List Nat))) (k : Nat), rs.length = keys.length →
          ((keys.zip rs).lookup k).isSome = decide (k ∈ keys) := fun rs k hl => by
        rw [Bool.eq_iff_iff, decide_eq_true_eq, ListAux.lookup_isSome_iff_keys,
          List.map_fst_zip (Nat.le_of_eq hl.symm)]
      rw [List.getElem?_map, List.getElem?_map, Option.map_map, Option.map_map]
      exact congrArg (Option.map · ask[j]?)
        (funext fun k => (key rs₁ k hl₁).trans (key rs₂ k hl₂).symm)
    · rw [List.getElem?_map, Option.map_eq_some_iff] at ha hb
      obtain ⟨k, hk₁, ha⟩ := ha
      obtain ⟨k', hk₂, hb⟩ := hb
      cases hk₁.symm.trans hk₂
      obtain ⟨i, hki, hri⟩ := ListAux.exists_getElem?_of_lookup_zip ha
      obtain ⟨i', hki', hri'⟩ := ListAux.exists_getElem?_of_lookup_zip hb
      cases (List.getElem?_inj (List.getElem?_eq_some_iff.1 hki).1 hk).1 (hki.trans hki'.symm)
      exact (indep_cutoff ht hs₁ hs₂).2 i a b hri hri'

/-- with the same threshold the two lookups are equal as they stand -/
theorem selection_worker_schedule_indep {t : RefTable} {query : List Nat} {parents : List Parent}
    {keys : List Nat} {c p₁ p₂ : Nat} {ties : Nat → Tie} {σ₁ σ₂ : List Nat}
    (hk : keys.Nodup) (hlen : keys.length = parents.length)
    (hσ₁ : σ₁ ∈ completionOrders parents.length p₁) (hσ₂ : σ₂ ∈ completionOrders parents.length p₂)
    (ask : List Nat) :
    selectAllWorkers t query parents keys c ties σ₁ ask =
      selectAllWorkers t query parents keys c ties σ₂ ask :=
  (selectAllWorkers_eq c ties hk hlen hσ₁ ask).trans (selectAllWorkers_eq c ties hk hlen hσ₂ ask).symm

/-- non-vacuity, computed: three parents under the keys 40, 41, 42; two worker
slots with completion order [1, 2, 0] against one worker at a time; key 99 is
not a parent.  (A run with another cut-off does not reduce by `decide` - the
behemoth path sorts with `mergeSort`; the two paths are run on one parent by the examples
after `indep_cutoff` in `Props/C12.lean`.) -/
example : selectAllWorkers sampleTable [3, 9, 0, 2] [⟨[2], 1⟩, ⟨[], 2⟩, ⟨[1], 1⟩] [40, 41, 42] 7
      (fun _ => tieFirst) [1, 2, 0] [41, 40, 99, 42]
    = .ok [some (.ok []), some (.ok [0, 2]), none, some (.ok [3])] ∧
    selectAllWorkers sampleTable [3, 9, 0, 2] [⟨[2], 1⟩, ⟨[], 2⟩, ⟨[1], 1⟩] [40, 41, 42] 7
      (fun _ => tieFirst) [0, 1, 2] [41, 40, 99, 42]
    = .ok [some (.ok []), some (.ok [0, 2]), none, some (.ok [3])] ∧
    [1, 2, 0] ∈ completionOrders 3 2 ∧ [0, 1, 2] ∈ completionOrders 3 1 := by
  decide +kernel

end CTM.C12
