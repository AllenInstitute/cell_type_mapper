/-
  C12 — bridge to the taxonomy tree (C10).

  In `CTM/Props/C12.lean` the pairs a parent must discriminate are an INPUT
  (`leaves`: column indices of the reference-marker table, in
  `leaves_to_compare` order).  Here that input is instantiated with what the
  taxonomy really yields: `(t.leafPairs parent).map idx`, where `t.leafPairs` is
  the tree model's `leaves_to_compare` (characterised by C10 `pairs_exact`) and
  `idx` is `pair_to_idx` (`marker_array.idx_of_pair`), any function that sends
  distinct pairs of the parent to distinct columns (`Bridge.IdxInjOn`; for the model of
  `idx_of_pair` this is the last clause of `C18.names_consistent_pairs_resolve`).  The table's
  entry for a column stays an input of the theorems.

  Hypotheses on the taxonomy: accepted by the model of `validate_taxonomy_tree`,
  dict keys distinct (`DictOK`; together = C10's `WF`).  `sibs` / `cl` name
  the children of the parent and their level (`children parent = .ok sibs`,
  `levelUnder parent = some cl`), as in C10 `pairs_exact`.
-/
import CTM.Props.C10
import CTM.Props.C12
import CTM.Lemmas.BridgeWF
import CTM.Lemmas.BridgePairs

namespace CTM.C12
open CTM CTM.RawTree CTM.Selection CTM.Bridge

/-- the columns a parent hands to the selector, read on the taxonomy (C10 `pairs_exact` through
`pair_to_idx`) -/
theorem mem_map_idx_leafPairs {t : RawTree} (hval : t.validate = .ok ()) (hd : DictOK t)
    {parent : Option (Level × Node)} {sibs : List Node} {cl : Level}
    (hs : t.children parent = .ok sibs) (hcl : t.levelUnder parent = some cl)
    (idx : Node × Node → Nat) (k : Nat) :
    k ∈ (t.leafPairs parent).map idx ↔ ∃ a b s₀ s₁, k = idx (a, b) ∧ a < b ∧
      s₀ ∈ sibs ∧ s₁ ∈ sibs ∧ s₀ ≠ s₁ ∧ a ∈ t.asLeaves cl s₀ ∧ b ∈ t.asLeaves cl s₁ := by
  simp only [List.mem_map, Prod.exists,
    (C10.pairs_exact t (WF.of_validate hval hd) parent sibs cl hs hcl).2]
  constructor
  · rintro ⟨a, b, ⟨hlt, s₀, s₁, h⟩, rfl⟩
    exact ⟨a, b, s₀, s₁, rfl, hlt, h⟩
  · rintro ⟨a, b, s₀, s₁, rfl, hlt, h⟩
    exact ⟨a, b, ⟨hlt, s₀, s₁, h⟩, rfl⟩

/-- "For each parent node ... at least one leaf pair that the parent must
discriminate" — **the pair list the taxonomy yields meets what the selector
expects of its input**: for a validator-accepted taxonomy and any parent, the
list `leaves_to_compare(parent)` mapped through `pair_to_idx`
 1. has no duplicate (the selector's `dupPair` refusal cannot fire),
 2. consists of pairs `(a, b)`, `a < b`, of leaves lying under two different
    children of the parent, and
 3. contains every such pair. -/
theorem tree_pairs_meet_selector_input (t : RawTree) (hval : t.validate = .ok ())
    (hd : DictOK t) (parent : Option (Level × Node))
    (sibs : List Node) (cl : Level) (hs : t.children parent = .ok sibs)
    (hcl : t.levelUnder parent = some cl) (idx : Node × Node → Nat)
    (hinj : IdxInjOn idx (t.leafPairs parent)) :
    Selection.hasDup ((t.leafPairs parent).map idx) = false ∧
    (∀ k ∈ (t.leafPairs parent).map idx, ∃ a b s₀ s₁, k = idx (a, b) ∧ a < b ∧
      s₀ ∈ sibs ∧ s₁ ∈ sibs ∧ s₀ ≠ s₁ ∧ a ∈ t.asLeaves cl s₀ ∧ b ∈ t.asLeaves cl s₁) ∧
    (∀ a b s₀ s₁, a < b → s₀ ∈ sibs → s₁ ∈ sibs → s₀ ≠ s₁ → a ∈ t.asLeaves cl s₀ →
      b ∈ t.asLeaves cl s₁ → idx (a, b) ∈ (t.leafPairs parent).map idx) := by
  refine ⟨(selection_hasDup_false_iff _).2
      ((C10.pairs_exact t (WF.of_validate hval hd) parent sibs cl hs hcl).1.map_on hinj),
    fun k => (mem_map_idx_leafPairs hval hd hs hcl idx k).1, fun a b s₀ s₁ hlt h0 h1 hne ha hb => ?_⟩
  exact (mem_map_idx_leafPairs hval hd hs hcl idx _).2 ⟨a, b, s₀, s₁, rfl, hlt, h0, h1, hne, ha, hb⟩

/-- `pair_to_idx` of the examples (leaves 30 … 33): the pair `(a, b)` sits in
column `4 (a - 30) + (b - 30)` -/
def exIdx : Node × Node → Nat := fun ab => 4 * (ab.1 - 30) + (ab.2 - 30)

example : C10.exTree.validate = .ok () ∧ DictOK C10.exTree ∧
    C10.exTree.children (some (0, 10)) = .ok [21, 20] ∧
    C10.exTree.levelUnder (some (0, 10)) = some 1 ∧
    (C10.exTree.leafPairs (some (0, 10))).map exIdx = [1, 2] ∧
    IdxInjOn exIdx (C10.exTree.leafPairs (some (0, 10))) :=
  ⟨C10.exTree_wf_test.valid, C10.exTree_wf_test.dict, by decide +kernel, by decide +kernel,
    by decide +kernel, by unfold IdxInjOn; decide +kernel⟩

/-- "For every such leaf pair the number of selected genes that are reference
markers of the pair is at least the smaller of twice the per-direction target
and the number of the pair's reference markers available in the query" — with
"such leaf pair" spelled out on the taxonomy: EVERY pair of leaves `a < b`
lying under two different children `s₀ ≠ s₁` of the parent (C10
`pairs_exact`), `pr` being the table's column for that pair. -/
theorem coverage_on_tree (t : RawTree) (hval : t.validate = .ok ())
    (hd : DictOK t) (parent : Option (Level × Node)) (sibs : List Node) (cl : Level)
    (hs : t.children parent = .ok sibs) (hcl : t.levelUnder parent = some cl)
    (idx : Node × Node → Nat)
    {tbl : RefTable} {query : List Nat} {beh : Bool} {n : Nat} {tie : Tie}
    {th : Thinned} {names : List Nat}
    (ht : TableWF tbl) (hth : thin tbl query = .ok th)
    (h : selectParent th ((t.leafPairs parent).map idx) beh n tie = .ok names) :
    ∀ a b s₀ s₁, a < b → s₀ ∈ sibs → s₁ ∈ sibs → s₀ ≠ s₁ → a ∈ t.asLeaves cl s₀ →
      b ∈ t.asLeaves cl s₁ → ∀ pr, tbl.pairs[idx (a, b)]? = some pr →
        min (2 * n) ((pr.up ++ pr.down).countP (fun g => query.contains g))
          ≤ names.countP (fun g => (pr.up ++ pr.down).contains g) := by
  intro a b s₀ s₁ hlt h0 h1 hne ha hb pr hpr
  exact coverage ht hth h (idx (a, b)) ((mem_map_idx_leafPairs hval hd hs hcl idx _).2
    ⟨a, b, s₀, s₁, rfl, hlt, h0, h1, hne, ha, hb⟩) pr hpr

/-- a marker table for the example taxonomy `C10.exTree` and parent `(0, 10)`:
columns `1`, `2` hold the pairs `(30, 31)`, `(30, 32)`; 4 genes, 16 columns -/
def exTable : RefTable :=
  { nGenes := 4,
    pairs := (List.range 16).map (fun k =>
      if k = 1 then ⟨[0], [1, 2]⟩ else if k = 2 then ⟨[2, 3], [0]⟩ else ⟨[], []⟩) }

/-- (non-vacuity) the hypotheses of the two examples below are met: the table is
well formed, thinning succeeds and the selection for parent `(0, 10)` of
`C10.exTree` succeeds -/
example : TableWF exTable := by
  unfold TableWF
  decide +kernel

example : ((thin exTable [3, 9, 0, 2]).bind (fun th =>
    selectParent th ((C10.exTree.leafPairs (some (0, 10))).map exIdx) false 1 tieFirst)).toBool
    = true := by decide +kernel

example : ∀ th names, TableWF exTable → thin exTable [3, 9, 0, 2] = .ok th →
    selectParent th ((C10.exTree.leafPairs (some (0, 10))).map exIdx) false 1 tieFirst = .ok names →
    ∀ pr, exTable.pairs[exIdx (30, 32)]? = some pr →
      min (2 * 1) ((pr.up ++ pr.down).countP (fun g => [3, 9, 0, 2].contains g))
        ≤ names.countP (fun g => (pr.up ++ pr.down).contains g) :=
  fun th names ht hth h pr hpr =>
    coverage_on_tree C10.exTree C10.exTree_wf_test.valid C10.exTree_wf_test.dict (some (0, 10))
      [21, 20] 1 (by decide +kernel) (by decide +kernel) exIdx ht hth h 30 32 20 21 (by decide +kernel)
      (by decide +kernel) (by decide +kernel) (by decide +kernel) (by decide +kernel)
      (by decide +kernel) pr hpr

/-- "For each parent node the selected genes are free of duplicates, occur in
the query and are reference markers of at least one leaf pair that the parent
must discriminate" — the last clause on the taxonomy: a pair of leaves lying
under two different children of the parent. -/
theorem wf_on_tree (t : RawTree) (hval : t.validate = .ok ())
    (hd : DictOK t) (parent : Option (Level × Node)) (sibs : List Node) (cl : Level)
    (hs : t.children parent = .ok sibs) (hcl : t.levelUnder parent = some cl)
    (idx : Node × Node → Nat)
    {tbl : RefTable} {query : List Nat} {beh : Bool} {n : Nat} {tie : Tie}
    {th : Thinned} {names : List Nat}
    (ht : TableWF tbl) (hth : thin tbl query = .ok th)
    (h : selectParent th ((t.leafPairs parent).map idx) beh n tie = .ok names) :
    names.Nodup ∧
    (∀ g ∈ names, g ∈ query ∧ g < tbl.nGenes) ∧
    (∀ g ∈ names, ∃ a b s₀ s₁, a < b ∧ s₀ ∈ sibs ∧ s₁ ∈ sibs ∧ s₀ ≠ s₁ ∧
      a ∈ t.asLeaves cl s₀ ∧ b ∈ t.asLeaves cl s₁ ∧
      ∃ pr, tbl.pairs[idx (a, b)]? = some pr ∧ (g ∈ pr.up ∨ g ∈ pr.down)) := by
  obtain ⟨h1, h2, h3⟩ := wf ht hth h
  refine ⟨h1, h2, fun g hg => ?_⟩
  obtain ⟨k, hk, pr, hpr, hm⟩ := h3 g hg
  obtain ⟨a, b, s₀, s₁, rfl, hlt, h0, h1', hne, ha, hb⟩ :=
    (mem_map_idx_leafPairs hval hd hs hcl idx k).1 hk
  exact ⟨a, b, s₀, s₁, hlt, h0, h1', hne, ha, hb, pr, hpr, hm⟩

example : ∀ th names, TableWF exTable → thin exTable [3, 9, 0, 2] = .ok th →
    selectParent th ((C10.exTree.leafPairs (some (0, 10))).map exIdx) false 1 tieFirst = .ok names →
    names.Nodup ∧ (∀ g ∈ names, g ∈ [3, 9, 0, 2] ∧ g < exTable.nGenes) :=
  fun th names ht hth h =>
    let r := wf_on_tree C10.exTree C10.exTree_wf_test.valid C10.exTree_wf_test.dict (some (0, 10))
      [21, 20] 1 (by decide +kernel) (by decide +kernel) exIdx ht hth h
    ⟨r.1, r.2.1⟩

/-- "a parent with nothing to discriminate gets none": a parent with a single
child yields no leaf pair (C10 `pairs_single_child`), so the selector returns
the empty list for it — whatever the table, the query and `pair_to_idx`. -/
theorem single_child_parent_gets_none (t : RawTree) (parent : Option (Level × Node)) (c : Node)
    (hs : t.children parent = .ok [c]) (idx : Node × Node → Nat)
    (th : Thinned) (beh : Bool) (n : Nat) (tie : Tie) :
    selectParent th ((t.leafPairs parent).map idx) beh n tie = .ok [] := by
  rw [C10.pairs_single_child t parent c hs]
  rfl

example : selectParent sampleThin ((C10.exTree.leafPairs (some (0, 11))).map exIdx) false 2 tieFirst
    = .ok [] :=
  single_child_parent_gets_none C10.exTree (some (0, 11)) 22 (by decide +kernel) exIdx _ _ _ _

/-- "a parent with nothing to discriminate gets none": a node of the leaf level
has no leaf pair (C10 `pairs_leaf_level`), so the selector returns the empty
list for it. -/
theorem leaf_level_parent_gets_none (t : RawTree) (l : Level) (nd : Node)
    (hl : t.leafLevel = some l) (idx : Node × Node → Nat)
    (th : Thinned) (beh : Bool) (n : Nat) (tie : Tie) :
    selectParent th ((t.leafPairs (some (l, nd))).map idx) beh n tie = .ok [] := by
  rw [C10.pairs_leaf_level t l nd hl]
  rfl

example : selectParent sampleThin ((C10.exTree.leafPairs (some (2, 31))).map exIdx) true 2 tieFirst
    = .ok [] :=
  leaf_level_parent_gets_none C10.exTree 2 31 (by decide +kernel) exIdx _ _ _ _

/-- C12 `select_all_spec` ∘ C10 `pairs_cover_once`: run `select_all_markers`
over the parents of the taxonomy (`all_parents`), each with the pair list the
taxonomy yields.  Then EVERY pair of distinct leaves `a < b` of the taxonomy is
the business of exactly one parent `P` (their lowest common ancestor), and if
`P`'s selection succeeded it contains at least `min (2 n_P) (available)`
reference markers of that pair. -/
theorem every_leaf_pair_covered (t : RawTree) (hval : t.validate = .ok ())
    (hd : DictOK t) (idx : Node × Node → Nat)
    {tbl : RefTable} {query : List Nat} {cutoff : Nat} {ties : Nat → Tie}
    (nOf : Option (Level × Node) → Nat) {r : List (Except Err (List Nat))}
    (ht : TableWF tbl)
    (h : selectAll tbl query
      (t.allParents.map (fun P => (⟨(t.leafPairs P).map idx, nOf P⟩ : Parent))) cutoff ties = .ok r)
    {a b : Node}
    (ha : a ∈ t.nodesAt (t.hierarchy.getLast (hierarchy_ne_nil_of_validate hval)))
    (hb : b ∈ t.nodesAt (t.hierarchy.getLast (hierarchy_ne_nil_of_validate hval)))
    (hab : a < b) :
    ∃ (i : Nat) (P : Option (Level × Node)), t.allParents[i]? = some P ∧ (a, b) ∈ t.leafPairs P ∧
      (∀ Q, Q ∈ t.allParents → (a, b) ∈ t.leafPairs Q → Q = P) ∧
      ∀ names : List Nat, r[i]? = some (Except.ok names) → ∀ pr, tbl.pairs[idx (a, b)]? = some pr →
        min (2 * nOf P) ((pr.up ++ pr.down).countP (fun g => query.contains g))
          ≤ names.countP (fun g => (pr.up ++ pr.down).contains g) := by
  obtain ⟨P, hP, hmem, huniq⟩ := C10.pairs_cover_once t (WF.of_validate hval hd) ha hb hab
  obtain ⟨i, hi, rfl⟩ := List.getElem_of_mem hP
  refine ⟨i, _, List.getElem?_eq_getElem hi, hmem, huniq, ?_⟩
  intro names hr pr hpr
  have hp : (t.allParents.map (fun P => (⟨(t.leafPairs P).map idx, nOf P⟩ : Parent)))[i]? =
      some ⟨(t.leafPairs t.allParents[i]).map idx, nOf t.allParents[i]⟩ := by
    rw [List.getElem?_map, List.getElem?_eq_getElem hi]
    rfl
  obtain ⟨_, hall⟩ := select_all_spec ht h
  obtain ⟨_, _, _, _, hcov⟩ := hall i _ names hp hr
  exact hcov (idx (a, b)) (List.mem_map.2 ⟨(a, b), hmem, rfl⟩) pr hpr

example : 30 ∈ C10.exTree.nodesAt 2 ∧ 33 ∈ C10.exTree.nodesAt 2 ∧
    C10.exTree.hierarchy.getLast (by decide) = 2 ∧
    (selectAll sampleTable [3, 9, 0, 2]
      (C10.exTree.allParents.map (fun P => (⟨(C10.exTree.leafPairs P).map (fun _ => 0), 1⟩ : Parent)))
      7 (fun _ => tieFirst)).toBool = true := by decide +kernel

end CTM.C12
