/-
  C11 — reference markers are sound and complete for the stated criteria.

  Theorems about the executable model `CTM/Model/Holm.lean`,
  `CTM/Model/RefMarkers.lean` (mirrors of stats_utils.correct_ttest /
  approx_correct_ttest, scores.score_differential_genes and the functions below
  it, the p-value-mask route, and the merge of per-chunk sparse tables).  All
  statements are for every input (no size bound).  Raw Welch p-values are
  inputs of the model: the Student-t / normal CDF, and therefore the soundness
  of the `boring_t` shortcut, are NOT proved here (compared numerically by the
  harness on every run).  The clauses "exact transposes" and "worker count or memory budget", which
  need the sparse and the process model, are in `Props/C11/Compose.lean`.

  Reading guide: `xs[i]? = some true` = "entry i of the boolean mask exists and
  is True"; `pOrder` / `o` = the permutation `np.argsort` returned (any tie
  order); `g` = per-gene (q1, qdiff, |log2 fold|); `Strict` / `AboveFloors` =
  the strict criteria / the floors; `c.geneIdx` = `valid_gene_idx`.
-/
import CTM.Lemmas.Holm
import CTM.Lemmas.RefMarkers

namespace CTM.C11
open CTM.Holm CTM.RefMarkers

instance (o : List Nat) (p : List Rat) : Decidable (IsArgsort o p) := by
  unfold IsArgsort; infer_instance

/-! ### sample data for the non-vacuity examples -/

private def th0 : Thresholds :=
  { pTh := 1/100, q1Th := 1/2, qdiffTh := 7/10, foldTh := 1, q1Min := 1/10, qdiffMin := 1/10,
    foldMin := 4/5 }
private def p0 : List Rat := [1/1000, 1/1000, 1/2, 1/1000]
private def g0 : List GeneScore := [⟨9/10, 9/10, 2⟩, ⟨3/10, 1/2, 9/10⟩, ⟨9/10, 9/10, 2⟩, ⟨9/10, 9/10, 2⟩]
private def c0 : Config := { th := th0, nValid := 1, nValidMin := 1, geneIdx := some [0, 1, 2] }
private def m1 : List Rat := [0, 0, 0, 3]
private def m2 : List Rat := [2, 1, 2, 0]

/-! ### the Holm correction -/

/-- "its Holm-corrected Welch p-value": the Holm step-down of `correct_ttest` (sort, multiply by
`m - rank`, running maximum, un-sort, cap at 1) does not depend on the order `np.argsort` gives
to equal p-values (numpy's default sort is not stable). -/
theorem holm_perm (p : List Rat) (padding : Nat) (o₁ o₂ : List Nat)
    (h₁ : IsArgsort o₁ p) (h₂ : IsArgsort o₂ p) (h0 : ∀ x ∈ p, 0 ≤ x) :
    correctTtestWith o₁ p padding = correctTtestWith o₂ p padding :=
  correctTtestWith_argsort_irrel h₁ h₂ h0 padding

/-- non-vacuity: two different tie orders of a vector with a tie (test on a sample) -/
example : IsArgsort [1, 0, 3, 2] p0 ∧ IsArgsort [3, 0, 1, 2] p0 ∧ (∀ x ∈ p0, 0 ≤ x) ∧
    correctTtestWith [1, 0, 3, 2] p0 0 = [1/250, 1/250, 1/2, 1/250] := by decide +kernel

/-- "correcting only p-values below the threshold" (`approx_correct_ttest`): the mask
`corrected p < p_th` computed from the restricted correction (only the raw p-values `< p_th`
are corrected, the count of the others is passed as padding) equals the mask computed from the
full Holm correction. -/
theorem holm_approx_iff (p : List Rat) (th : Rat) (o o' : List Nat) (h : IsArgsort o p)
    (h' : IsArgsort o' (gather (interestingIdx p th) p))
    (h0 : ∀ x ∈ p, 0 ≤ x) (h1 : ∀ x ∈ p, x ≤ 1) :
    (approxCorrectTtestWith o' p th).map (fun x => decide (x < th))
      = (correctTtestWith o p 0).map (fun x => decide (x < th)) :=
  approxCorrectTtestWith_mask_eq h h' h0 h1

/-- the same, gene by gene. -/
theorem holm_approx_iff_pointwise (p : List Rat) (th : Rat) (o o' : List Nat) (h : IsArgsort o p)
    (h' : IsArgsort o' (gather (interestingIdx p th) p))
    (h0 : ∀ x ∈ p, 0 ≤ x) (h1 : ∀ x ∈ p, x ≤ 1) (i : Nat) (hi : i < p.length) :
    ∃ a b, (approxCorrectTtestWith o' p th)[i]? = some a ∧ (correctTtestWith o p 0)[i]? = some b ∧
      (a < th ↔ b < th) :=
  approxCorrectTtestWith_lt_iff h h' h0 h1 i hi

/-- Holm-corrected p-values lie between the raw p-value and 1: a gene whose corrected p is below
the threshold also has its raw Welch p below it. -/
theorem holm_bounds (p : List Rat) (o : List Nat) (h : IsArgsort o p) (h0 : ∀ x ∈ p, 0 ≤ x)
    (h1 : ∀ x ∈ p, x ≤ 1) (i : Nat) (hi : i < p.length) :
    ∃ y, (correctTtestWith o p 0)[i]? = some y ∧ p.getD i 0 ≤ y ∧ y ≤ 1 :=
  correctTtestWith_bounds h h0 h1 0 i hi

/-- below the threshold the restricted and the full correction return the same number. -/
theorem holm_approx_eq_below (p : List Rat) (th : Rat) (o o' : List Nat) (h : IsArgsort o p)
    (h' : IsArgsort o' (gather (interestingIdx p th) p)) (h0 : ∀ x ∈ p, 0 ≤ x)
    (i : Nat) (hi : i < p.length) (hlt : p.getD i 0 < th) :
    (approxCorrectTtestWith o' p th)[i]? = (correctTtestWith o p 0)[i]? :=
  (approxCorrectTtestWith_getElem? h h' h0 i hi).trans (if_pos hlt)

example : IsArgsort [1, 0, 3, 2] p0 ∧ IsArgsort [2, 0, 1] (gather (interestingIdx p0 (1/100)) p0) ∧
    (∀ x ∈ p0, 0 ≤ x) ∧ (∀ x ∈ p0, x ≤ 1) ∧
    approxCorrectTtestWith [2, 0, 1] p0 (1/100) = [1/250, 1/250, 1/2, 1/250] := by decide +kernel

/-! ### `score_differential_genes`: soundness and completeness -/

/-- the p-value mask of `score_differential_genes`, restated with the full Holm correction of
the model (`correctTtest`, canonical tie order) -/
theorem pValid_iff_holm (o' : List Nat) (praw : List Rat) (pTh : Rat)
    (h' : IsArgsort o' (gather (interestingIdx praw pTh) praw))
    (h0 : ∀ x ∈ praw, 0 ≤ x) (h1 : ∀ x ∈ praw, x ≤ 1) (i : Nat) :
    (pValidMask o' praw pTh)[i]? = some true ↔ ∃ y, (correctTtest praw)[i]? = some y ∧ y < pTh := by
  unfold pValidMask
  rw [holm_approx_iff praw pTh (argsort praw) o' (argsort_isArgsort praw) h' h0 h1]
  unfold correctTtest
  simp only [List.getElem?_map, Option.map_eq_some_iff, decide_eq_true_eq]

/-- "A gene is recorded as a marker for a pair of leaf clusters only if both clusters have at
least two cells [`nCellsMin`], its Holm-corrected Welch p-value is below the threshold, it lies
on or above every minimum penetrance and fold-change floor and, when a gene list is given,
belongs to it" — for the approximate and the exact penetrance test, including the single
relaxation pass.  Hypotheses: each strict threshold above its floor (`ThresholdsOK`), raw
p-values in [0,1], and `FloorsExclude` (a gene outside the list is given the scores -1, 0, -1;
some floor must lie above them — true for all non-negative floors except `qdiffMin = 0` with
negative `q1Min`, `foldMin`). -/
theorem sound (pOrder : List Nat) (c : Config) (n1 n2 : Nat) (praw : List Rat)
    (g : List GeneScore) (mean1 mean2 : List Rat) (out : Out)
    (h : scoreCoreWith pOrder c n1 n2 praw g mean1 mean2 = .ok out)
    (ho : IsArgsort pOrder (gather (interestingIdx praw c.th.pTh) praw))
    (h0 : ∀ x ∈ praw, 0 ≤ x) (h1 : ∀ x ∈ praw, x ≤ 1)
    (ht : ThresholdsOK c.th) (hx : FloorsExclude c.th)
    (i : Nat) (hi : out.valid[i]? = some true) :
    c.nCellsMin ≤ n1 ∧ c.nCellsMin ≤ n2 ∧
    (∃ y, (correctTtest praw)[i]? = some y ∧ y < c.th.pTh) ∧
    (∃ s, g[i]? = some s ∧ AboveFloors c.th s) ∧
    (∀ idx, c.geneIdx = some idx → i ∈ idx) := by
  obtain ⟨a, b, hp, hl, s, hs, hf, _⟩ := scoreCoreWith_sound h ht hx hi
  exact ⟨a, b, (pValid_iff_holm pOrder praw _ ho h0 h1 i).mp hp, ⟨s, hs, hf⟩, hl⟩

/-- "every gene that passes the strict thresholds is recorded": both clusters large enough,
Holm-corrected p below the threshold, strictly above every strict threshold, in the gene list
⇒ valid (approximate or exact test, with or without the relaxation pass). -/
theorem complete (pOrder : List Nat) (c : Config) (n1 n2 : Nat) (praw : List Rat)
    (g : List GeneScore) (mean1 mean2 : List Rat) (out : Out)
    (h : scoreCoreWith pOrder c n1 n2 praw g mean1 mean2 = .ok out)
    (ho : IsArgsort pOrder (gather (interestingIdx praw c.th.pTh) praw))
    (h0 : ∀ x ∈ praw, 0 ≤ x) (h1 : ∀ x ∈ praw, x ≤ 1)
    (i : Nat) (s : GeneScore) (y : Rat)
    (hn1 : c.nCellsMin ≤ n1) (hn2 : c.nCellsMin ≤ n2)
    (hy : (correctTtest praw)[i]? = some y) (hyp : y < c.th.pTh)
    (hs : g[i]? = some s) (hst : Strict c.th s)
    (hl : ∀ idx, c.geneIdx = some idx → i ∈ idx) :
    out.valid[i]? = some true :=
  scoreCoreWith_complete h hn1 hn2 hs hst hl
    ((pValid_iff_holm pOrder praw _ ho h0 h1 i).mpr ⟨y, hy, hyp⟩)

/-- "with exact penetrance requested nothing else is [recorded]": in exact mode validity is
*equivalent* to the conjunction of the strict criteria. -/
theorem exact_only (pOrder : List Nat) (c : Config) (n1 n2 : Nat) (praw : List Rat)
    (g : List GeneScore) (mean1 mean2 : List Rat) (out : Out)
    (h : scoreCoreWith pOrder c n1 n2 praw g mean1 mean2 = .ok out)
    (ho : IsArgsort pOrder (gather (interestingIdx praw c.th.pTh) praw))
    (h0 : ∀ x ∈ praw, 0 ≤ x) (h1 : ∀ x ∈ praw, x ≤ 1)
    (ht : ThresholdsOK c.th) (hx : FloorsExclude c.th) (hexact : c.exact = true) (i : Nat) :
    out.valid[i]? = some true ↔
      (c.nCellsMin ≤ n1 ∧ c.nCellsMin ≤ n2 ∧
       (∃ y, (correctTtest praw)[i]? = some y ∧ y < c.th.pTh) ∧
       (∃ s, g[i]? = some s ∧ Strict c.th s) ∧
       (∀ idx, c.geneIdx = some idx → i ∈ idx)) := by
  constructor
  · intro hi
    obtain ⟨a, b, hp, hl, s, hs, _, hst⟩ := scoreCoreWith_sound h ht hx hi
    exact ⟨a, b, (pValid_iff_holm pOrder praw _ ho h0 h1 i).mp hp, ⟨s, hs, hst hexact⟩, hl⟩
  · rintro ⟨a, b, ⟨y, hy, hyp⟩, ⟨s, hs, hst⟩, hl⟩
    exact complete pOrder c n1 n2 praw g mean1 mean2 out h ho h0 h1 i s y a b hy hyp hs hst hl

/-- non-vacuity (test on a sample): approximate mode, 4 genes, a gene list excluding gene 3;
gene 0 passes everything, gene 1 fails the strict thresholds, gene 2 fails the p-value test,
gene 3 is outside the list -/
example : IsArgsort [1, 0, 2] (gather (interestingIdx p0 th0.pTh) p0) ∧
    ThresholdsOK th0 ∧ FloorsExclude th0 ∧
    (scoreCoreWith [1, 0, 2] c0 5 7 p0 g0 m1 m2).toOption.map (·.valid)
      = some [true, false, false, false] := by
  unfold ThresholdsOK FloorsExclude
  decide +kernel

/-! ### direction, swapping the two clusters -/

/-- "Its direction is the sign of the difference of mean log2(CPM+1)": a valid gene is listed
as up-regulated iff `mean2 > mean1`, as down-regulated otherwise. -/
theorem direction (pOrder : List Nat) (c : Config) (n1 n2 : Nat) (praw : List Rat)
    (g : List GeneScore) (mean1 mean2 : List Rat) (out : Out)
    (h : scoreCoreWith pOrder c n1 n2 praw g mean1 mean2 = .ok out)
    (i : Nat) (a b : Rat) (ha : mean1[i]? = some a) (hb : mean2[i]? = some b)
    (hi : out.valid[i]? = some true) :
    (i ∈ (upDown out).1 ↔ a < b) ∧ (i ∈ (upDown out).2 ↔ ¬ a < b) := by
  -- a valid gene: both clusters are large enough, so `up` is `up_mask`
  obtain ⟨hn1, hn2⟩ := scoreCoreWith_large h hi
  have hu : out.up[i]? = some (decide (b > a)) := by
    rw [(scoreCoreWith_ok h hn1 hn2).1]
    exact upMask_getElem? ha hb
  obtain ⟨e1, e2⟩ := upDown_cover out i hi _ hu
  simp only [decide_eq_true_eq, decide_eq_false_iff_not, gt_iff_lt] at e1 e2
  exact ⟨e1, e2⟩

/-- "no gene both up and down for a pair"; and only valid genes are listed. -/
theorem no_both (out : Out) (i : Nat) :
    ¬ (i ∈ (upDown out).1 ∧ i ∈ (upDown out).2) ∧
    ((i ∈ (upDown out).1 ∨ i ∈ (upDown out).2) → out.valid[i]? = some true) :=
  ⟨upDown_disjoint out i, upDown_valid out i⟩

example : ((scoreCoreWith [1, 0, 2] c0 5 7 p0 g0 m1 m2).toOption.map upDown) = some ([0], []) := by
  decide +kernel

/-- "renaming clusters so that a pair swaps order swaps only the direction": the scores are
symmetric in the two clusters, validity is unchanged, and the `up` flag becomes
`mean1 > mean2` — so every valid gene with different means changes list, nothing else changes. -/
theorem swap (c : Config) (s : PairStats) :
    geneScores s.swap = geneScores s ∧
    (scoreDifferentialGenes c s.swap).map (·.valid) = (scoreDifferentialGenes c s).map (·.valid) ∧
    (∀ out', scoreDifferentialGenes c s.swap = .ok out' →
       c.nCellsMin ≤ s.n1 → c.nCellsMin ≤ s.n2 → out'.up = upMask s.mean2 s.mean1) := by
  refine ⟨geneScores_swap s, ?_, ?_⟩
  · unfold scoreDifferentialGenes scoreCore
    rw [geneScores_swap]
    exact scoreCoreWith_swap_valid _ c s.n1 s.n2 s.praw (geneScores s) s.mean1 s.mean2
  · intro out' h hn1 hn2
    unfold scoreDifferentialGenes scoreCore at h
    exact (scoreCoreWith_ok h hn2 hn1).1

/-- a gene cannot be up in both orders, nor down in both orders unless the means are equal -/
theorem swap_flips (m1 m2 : List Rat) (i : Nat) (a b : Rat) (ha : m1[i]? = some a)
    (hb : m2[i]? = some b) (hne : a ≠ b) :
    ∃ u, (upMask m1 m2)[i]? = some u ∧ (upMask m2 m1)[i]? = some (!u) := by
  refine ⟨decide (b > a), upMask_getElem? ha hb, ?_⟩
  rw [upMask_getElem? hb ha, ← decide_not]
  exact congrArg some (decide_eq_decide.mpr
    ⟨fun h => not_lt_of_gt h, fun h => lt_of_le_of_ne (not_lt.mp h) (Ne.symm hne)⟩)

example : (PairStats.swap ⟨5, 7, m1, m2, [1, 0], [0, 1], p0⟩).n1 = 7 := rfl

/-- the Welch statistic of `_calculate_tt_nu` is symmetric in the two clusters: same degrees of
freedom, same t² (the sign of t flips) — the reason the raw two-sided p-value, an input of the
model, is the same for both orders of a pair (`PairStats.swap` keeps `praw`). -/
theorem welch_symmetric (m1 v1 : Rat) (n1 : Nat) (m2 v2 : Rat) (n2 : Nat) :
    welchNu v1 n1 v2 n2 = welchNu v2 n2 v1 n1 ∧
    welchTSq m1 v1 n1 m2 v2 n2 = welchTSq m2 v2 n2 m1 v1 n1 := by
  constructor
  · unfold welchNu
    have h1 : nuDenom v1 n1 v2 n2 = nuDenom v2 n2 v1 n1 := add_comm _ _
    rw [h1, nuNum_comm]
    by_cases h : n1 < 2 ∨ n2 < 2
    · rw [if_pos h, if_pos h.symm]
    · rw [if_neg h, if_neg (fun h' => h h'.symm)]
  · unfold welchTSq
    rw [nuNum_comm]
    have : (m1 - m2) * (m1 - m2) = (m2 - m1) * (m2 - m1) := by ring
    simp only [this]

example : welchNu 1 4 2 8 = some (42/5) ∧ welchTSq 3 1 4 1 2 8 = 8 := by decide +kernel

/-! ### the p-value-mask route -/

/-- "The same soundness … hold[s] for the p-value-mask route": a gene recorded from the mask
(`_get_validity_mask ∘ _p_values_worker`) belongs to a pair whose clusters both have at least
two cells, has Holm-corrected p below the threshold, is on or above every floor and is in the
gene list.  `r16` is the float64→float16 rounding of the stored distance (any function:
soundness does not depend on it). -/
theorem mask_route_sound (pOrder : List Nat) (r16 : Rat → Rat) (t : Thresholds) (nValid : Nat)
    (geneIdx : Option (List Nat)) (n1 n2 : Nat) (praw : List Rat) (g : List GeneScore)
    (mean1 mean2 : List Rat) (out : Out)
    (h : maskRouteWith pOrder r16 t nValid geneIdx n1 n2 praw g mean1 mean2 = .ok out)
    (ho : IsArgsort pOrder (gather (interestingIdx praw t.pTh) praw))
    (h0 : ∀ x ∈ praw, 0 ≤ x) (h1 : ∀ x ∈ praw, x ≤ 1)
    (i : Nat) (hi : out.valid[i]? = some true) :
    2 ≤ n1 ∧ 2 ≤ n2 ∧
    (∃ y, (correctTtest praw)[i]? = some y ∧ y < t.pTh) ∧
    (∃ s, g[i]? = some s ∧ AboveFloors t s) ∧
    (∀ idx, geneIdx = some idx → i ∈ idx) := by
  obtain ⟨a, b, hp, hl, hs⟩ := maskRouteWith_sound h hi
  exact ⟨a, b, (pValid_iff_holm pOrder praw _ ho h0 h1 i).mp hp, hs, hl⟩

/-- "… and completeness hold for the p-value-mask route": a gene that passes every strict
criterion is stored with distance 0 → -1 (float16 represents -1 exactly: `r16 (-1) = -1`) and
is recorded whatever `n_valid` and the other genes. -/
theorem mask_route_complete (pOrder : List Nat) (r16 : Rat → Rat) (t : Thresholds) (nValid : Nat)
    (geneIdx : Option (List Nat)) (n1 n2 : Nat) (praw : List Rat) (g : List GeneScore)
    (mean1 mean2 : List Rat) (out : Out) (h16 : r16 (-1) = -1)
    (h : maskRouteWith pOrder r16 t nValid geneIdx n1 n2 praw g mean1 mean2 = .ok out)
    (ho : IsArgsort pOrder (gather (interestingIdx praw t.pTh) praw))
    (h0 : ∀ x ∈ praw, 0 ≤ x) (h1 : ∀ x ∈ praw, x ≤ 1)
    (i : Nat) (s : GeneScore) (y : Rat) (hn1 : 2 ≤ n1) (hn2 : 2 ≤ n2)
    (hy : (correctTtest praw)[i]? = some y) (hyp : y < t.pTh)
    (hs : g[i]? = some s) (hst : Strict t s)
    (hl : ∀ idx, geneIdx = some idx → i ∈ idx) :
    out.valid[i]? = some true ∧ out.up = upMask mean1 mean2 :=
  ⟨maskRouteWith_complete h16 h hn1 hn2 hs hst hl
      ((pValid_iff_holm pOrder praw _ ho h0 h1 i).mpr ⟨y, hy, hyp⟩),
   (maskRouteWith_ok h).elim fun _ hr => hr.2.2⟩

example : (maskRouteWith [1, 0, 2] id th0 1 (some [0, 1, 2]) 5 7 p0 g0 m1 m2).toOption.map (·.valid)
    = some [true, false, false, false] ∧
    (maskRouteWith [1, 0, 2] id th0 0 (some [0, 1, 2]) 1 7 p0 g0 m1 m2).toOption.map (·.valid)
    = some [false, false, false, false] := by decide +kernel

/-! ### the merged tables, the pair list -/

/-- "neither route's output depends on worker count or memory budget": in both routes the worker
count and the budget only choose `n_per`, the number of consecutive pairs per worker file; each
row is a function of its pair alone; the merge of the per-chunk sparse tables
(`_lookup_to_sparse` per chunk, `_merge_sparse_by_pair_files`) equals the table built in one
piece, for every chunk size. -/
theorem split_indep {α} (row : α → List Nat) (pairs : List α) (nPer nPer' : Nat) :
    mergeSparse ((chunksOf nPer pairs).map (fun ch => lookupToSparse (ch.map row)))
      = lookupToSparse (pairs.map row) ∧
    mergeSparse ((chunksOf nPer pairs).map (fun ch => lookupToSparse (ch.map row)))
      = mergeSparse ((chunksOf nPer' pairs).map (fun ch => lookupToSparse (ch.map row))) :=
  ⟨mergeSparse_chunks_map row nPer pairs,
    (mergeSparse_chunks_map row nPer pairs).trans (mergeSparse_chunks_map row nPer' pairs).symm⟩

example : (chunksOf 2 [[1, 2], [], [3], [4, 5, 6], [7]]).length = 3 ∧
    mergeSparse ((chunksOf 2 [[1, 2], [], [3], [4, 5, 6], [7]]).map lookupToSparse)
      = ([0, 2, 2, 3, 6, 7], [1, 2, 3, 4, 5, 6, 7]) := by decide +kernel

/-- "for a pair of leaf clusters": the tables have one row per pair of `itertools.combinations`
of the sorted leaves — for distinct sorted leaves every unordered pair occurs exactly once, as
`(a, b)` with `a < b`, and there are `n (n-1) / 2` rows. -/
theorem pairs_exact (leaves : List Nat) (hs : leaves.Pairwise (· < ·)) :
    (combos2 leaves).Nodup ∧ (∀ a b, (a, b) ∈ combos2 leaves ↔ a ∈ leaves ∧ b ∈ leaves ∧ a < b) ∧
    (combos2 leaves).length = leaves.length * (leaves.length - 1) / 2 :=
  ⟨(combos2_sorted hs).1, (combos2_sorted hs).2, length_combos2 leaves⟩

example : combos2 [0, 1, 2, 3] = [(0, 1), (0, 2), (0, 3), (1, 2), (1, 3), (2, 3)] := rfl

/-! ### no spurious failure -/

/-- "for all reference statistics …, all threshold settings with each strict threshold above its
floor, all gene lists": `score_differential_genes` returns (never raises) whenever there is at
least one gene and the arrays have one entry per gene — whatever `n_valid`, cluster sizes, gene
list, exact or approximate test. -/
theorem no_error (pOrder : List Nat) (c : Config) (n1 n2 : Nat) (praw : List Rat)
    (g : List GeneScore) (mean1 mean2 : List Rat) (ht : ThresholdsOK c.th) (hg : g ≠ [])
    (hp : praw.length = g.length) :
    ∃ out, scoreCoreWith pOrder c n1 n2 praw g mean1 mean2 = .ok out :=
  scoreCoreWith_total pOrder c n1 n2 mean1 mean2 ht hg hp

/-- the same for one pair of the p-value-mask route: no `IndexError` for `n_valid > n_genes`
(`n_valid = min(n_valid, n_genes)`), no error for clusters of one cell -/
theorem mask_no_error (pOrder : List Nat) (r16 : Rat → Rat) (t : Thresholds) (nValid : Nat)
    (geneIdx : Option (List Nat)) (n1 n2 : Nat) (praw : List Rat) (g : List GeneScore)
    (mean1 mean2 : List Rat) (ht : ThresholdsOK t) (hg : g ≠ []) :
    ∃ out, maskRouteWith pOrder r16 t nValid geneIdx n1 n2 praw g mean1 mean2 = .ok out :=
  maskRouteWith_total pOrder r16 nValid geneIdx n1 n2 praw mean1 mean2 ht hg

/-- "all worker counts": every chunk handed to a mask-route worker — a run of `k ≥ 0`
consecutive pair indices starting anywhere, in particular a single pair (the last chunk when
`n_pairs ≡ 1 mod n_per`, or a 2-leaf taxonomy) — passes the workers' consecutive-pairs test
(`len(idx_values) > 1 and …`). -/
theorem chunk_consecutive_ok (a k : Nat) : consecutiveCheck (List.range' a k) = .ok () :=
  consecutive_ok a k

/-- the chunk size of `create_sparse_by_pair_marker_file` is a positive multiple of 8 for every
number of pairs and workers (so every `col0` is a multiple of 8, as the workers insist) -/
theorem nPer_multiple_of_8 (nPairs nProc : Nat) :
    nPerMain nPairs nProc % 8 = 0 ∧ 8 ≤ nPerMain nPairs nProc :=
  nPerMain_spec nPairs nProc

example : ThresholdsOK th0 ∧ g0 ≠ [] ∧ p0.length = g0.length ∧
    consecutiveCheck [104] = .ok () ∧ nPerMain 105 4 = 8 ∧ nPerMain 105 1 = 48 := by
  unfold ThresholdsOK
  decide +kernel

end CTM.C11
