/-
  C03 × C01 × C10 — `Props/C03/Compose.lean` with the tree validator's
  acceptance of the STORED taxonomy as the only hypothesis on the taxonomy.

  `pipeline_contract` takes `wfb t0` and `NoRaiseAll P t` (run tree).  Both are
  discharged from `t0.validate = .ok ()` + `DictOK t0` (`Bridge.wfb_of_validate`,
  `Bridge.WF_runTree`, `Compose.noRaiseAll_of_validate`); what remains of
  `NoRaiseAll` is about the parameters only.
-/
import CTM.Props.C03.Compose
import CTM.Lemmas.ComposeWF

namespace CTM.C03
open CTM CTM.LevelLoop CTM.OutBridge CTM.Election CTM.Numeric CTM.Compose CTM.Bridge

/-- **All clauses of C03 for every record of the composed pipeline**, on every
taxonomy the tree validator accepts: "the bootstrapping probability is a whole
number of votes out of the iteration count and lies in (0,1]; the runner-up
lists ...; a parent with a single child yields probability 1 with no runners-up
and the correlation of the nearest level where a real choice was made; the
aggregate probability is the running product ...; inferred levels repeat the
numbers of the voted descendant without runner-up fields" — any `drop_level` /
`flatten` whose run tree `t` exists, any chunking, worker count and gather
order, any drawn subsets (≥ 1 iteration, indices into the node's gene list) and
tie orders, reported correlations in [-1,1]. -/
theorem pipeline_contract_of_validate (t0 t : RawTree) (cfg : Config) (P : ElectionParams)
    (ids : List CellId) (cells : List (List Rat)) (order : List Nat)
    (hval : t0.validate = .ok ()) (hd : RawTree.DictOK t0) (hrun : runTree t0 cfg = .ok t)
    (htie : TieOK P) (hcorr : CorrOK P)
    (hiters : ∀ p x, P.subsets p x ≠ [])
    (hrange : ∀ p x, ∀ s ∈ P.subsets p x, ∀ i ∈ s,
      i < (P.qcols p).length ∧ i < (P.rcols p).length)
    (hA : 1 ≤ P.nAssign)
    (hlen : ids.length = cells.length) (hnd : ids.Nodup)
    (hproc : 1 ≤ cfg.nProc) (hcs : 1 ≤ cfg.chunkSize)
    (horder : order.Perm (List.range
      (chunks cells.length (effChunk cells.length cfg.nProc cfg.chunkSize)).length))
    (out : List Record)
    (hout : mapPipeline t0 cfg (electionVote P) ids cells order = .ok out) :
    ∀ o ∈ out, ∃ (c : List Rat) (raw : List (Level × Entry)),
      c ∈ cells ∧ raw.map (·.1) = t.hierarchy ∧
      Linked (StepContract P t c) none raw ∧
      (∀ (k : Nat) (hk : k < raw.length), ∃ e, o.levels.lookup raw[k].1 = some e ∧
        e.assignment = raw[k].2.assignment ∧ e.prob = raw[k].2.prob ∧ e.ru = raw[k].2.ru ∧
        e.corr = (raw[k].2.corr.or (corrAbove (raw.map (fun le => toElectionRec le.2)) k)).or
          (corrBelow (raw.map (fun le => toElectionRec le.2)) k) ∧
        e.agg.getD 0 = ((raw.map (fun le => le.2.prob)).take (k + 1)).prod ∧
        e.direct.getD false = true) ∧
      (∀ cp ∈ pairsOf t0.hierarchy.reverse, cp.2 ∉ t.hierarchy →
        ∃ ec pn, o.levels.lookup cp.1 = some ec ∧
          t0.childToParent cp.1 ec.assignment = some pn ∧
          o.levels.lookup cp.2 =
            some { ec with assignment := pn, ru := none, direct := some false }) := by
  have w := WF_runTree (RawTree.WF.of_validate hval hd) hrun
  exact pipeline_contract t0 t cfg P ids cells order (wfb_of_validate hval hd) hrun htie hcorr
    (noRaiseAll_of_validate P w.valid hiters hrange hA)
    hlen hnd hproc hcs horder out hout

/-- non-vacuity: the example taxonomy (accepted by the validator) with the
parameters `exP` -/
example := pipeline_contract_of_validate exTree exTree { chunkSize := 1, nProc := 2 } exP [7, 3]
  [[2, 4, 1], [2, 9, 2]] [1, 0] exTree_accepted.1 exTree_accepted.2 rfl exP_tie exP_corr
  exP_iters exP_range (Nat.le_succ 1) rfl (by decide) (by decide) (by decide) (by decide) _
  (exRun_ok exP exP_tie)

end CTM.C03
