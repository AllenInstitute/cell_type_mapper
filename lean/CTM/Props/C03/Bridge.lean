/-
  C03 × C01 × C15 — the confidence fields, from `choose_node` to the records of
  the pipeline output.

  `Props/C03.lean` states the arithmetic contract about the election model of
  `choose_node` / the post-loops / `backfill_assignments` for ONE cell, with the
  vote arithmetic interpreted.  The level-loop model of the mapping loop
  (`Model/LevelLoop.lean`) keeps the vote as an uninterpreted oracle.  Here:

   * the per-node result of `Election.chooseCell`, turned into an oracle answer
     (`OutBridge.voteOfChoice`), returns a child of the parent (`VoteOK`) and
     satisfies `PayloadOK` — so `OutBridge.outInv_of_cells` and the
     theorems of `Props/C15/Bridge.lean` apply to the interpreted oracle;
   * the record-level clauses of C03 (directly assigned levels carry runner-up
     lists of equal length ≤ the requested number; inferred levels repeat the
     numbers of the level below without runner-up fields and are flagged
     `directly_assigned = False`) hold for EVERY record of EVERY successful
     pipeline run (plain, flatten, drop_level, any chunking / gather order);
   * every record of a successful run is the election model applied to the
     votes along the cell's walk (`pipeline_record_is_election_model`:
     `Election.finishCell` of the raw votes, then `Election.inferLevels`), so
     the one-cell theorems of `Props/C03.lean` hold of it; what the level loop
     records at a parent with a single child (`single_child_vote`) and the
     running product of its probabilities (`aggregate_running_product`).
-/
import CTM.Lemmas.OutBridge
import CTM.Props.C03

namespace CTM.C03
open CTM CTM.LevelLoop CTM.OutBridge

/-- "name distinct siblings of the winner under the same parent": the winner
itself is one of the `reference_types`, i.e. (when these are children of the
parent) a child of the parent — the level-loop model's `VoteOK` for the interpreted vote -/
theorem chooseCell_winner_mem (types votes : List Nat) (corr : List Rat) (iters nAssign : Nat)
    (order : List Nat) (ch : Election.Choice)
    (hlen : votes.length = types.length)
    (hv : Election.ValidOrder (Election.columns types votes corr).1 order)
    (h : Election.chooseCell types votes corr iters nAssign order = .ok ch) :
    ch.winner ∈ types := by
  obtain ⟨w, hw, hwin, _⟩ := Election.chooseCols_winner hv h
  rw [← Election.columns_types_mem types votes corr, hwin]
  have hw' : w < (Election.columns types votes corr).2.2.length := by
    rw [Election.columns_length types votes corr hlen]; exact hw
  have hget : (Election.columns types votes corr).2.2.getD w 0 =
      (Election.columns types votes corr).2.2[w] := by simp [hw']
  rw [hget]
  exact List.getElem_mem hw'

example : (Election.chooseCell [7, 5, 9] [2, 3, 1] [1, 2, 1 / 2] 6 3 [1, 0, 2]).toOption.map
    (·.winner) = some 5 := by decide +kernel

/-- "the runner-up lists have equal length not exceeding the requested number,
name distinct siblings of the winner under the same parent": the answer
`choose_node` gives for one cell satisfies the payload contract the bridge to
the serialisers needs (`PayloadOKVote`, requested number = `nAssign - 1`):
correlation present, at most `nAssign - 1` valid runner-up tuples, all of them
children of the parent (`kids` ⊇ the reference types). -/
theorem chooseCell_payloadOK (types votes : List Nat) (corr : List Rat) (iters nAssign : Nat)
    (order : List Nat) (ch : Election.Choice) (kids : List Node)
    (hlen : votes.length = types.length)
    (hv : Election.ValidOrder (Election.columns types votes corr).1 order)
    (htypes : ∀ a ∈ types, a ∈ kids)
    (h : Election.chooseCell types votes corr iters nAssign order = .ok ch) :
    PayloadOKVote (nAssign - 1) kids (voteOfChoice ch) := by
  obtain ⟨_, _, h3, _, _, h6, _, _⟩ := runners types votes corr iters nAssign order ch hlen hv h
  refine ⟨rfl, ?_⟩
  intro r hr
  simp only [voteOfChoice, Option.some.injEq] at hr
  subst hr
  refine ⟨?_, ?_⟩
  · simp only [Election.keepRunners, List.length_map] at h3
    simpa [List.filter_map, Function.comp_def] using h3
  · intro x hx hval
    simp only [List.mem_map] at hx
    obtain ⟨r0, hr0, rfl⟩ := hx
    apply htypes
    apply h6
    simp only [Election.keepRunners, List.mem_map, List.mem_filter]
    exact ⟨r0, ⟨hr0, hval⟩, rfl⟩

example : PayloadOKVote 2 [5, 7, 9] (voteOfChoice
    ⟨5, 1 / 2, 2 / 3, [⟨7, true, 1 / 2, 1 / 3⟩, ⟨9, true, 1 / 2, 1 / 6⟩]⟩) :=
  chooseCell_payloadOK [7, 5, 9] [2, 3, 1] [1, 2, 1 / 2] 6 3 [1, 0, 2] _ [5, 7, 9] rfl
    (by decide +kernel) (by decide) (by decide +kernel)

/-- an oracle every answer of which is some result of `choose_node` on
reference types that are children of the parent asked about (any tally, any
iteration count, any tie order) satisfies both hypotheses of the pipeline
theorems: `VoteOK` (C01 / C06 / C17) and `PayloadOK` (C15 bridge), with
`n_runners_up = n_assignments - 1` -/
theorem interpreted_oracle_ok {κ} (t : RawTree) (vote : Oracle κ) (nAssign : Nat)
    (h : ∀ (p : Parent) (cl : Level) (kids : List Node) (c : κ), 2 ≤ kids.length →
      ∃ types votes corr iters order ch,
        votes.length = types.length ∧
        Election.ValidOrder (Election.columns types votes corr).1 order ∧
        (∀ a ∈ types, a ∈ kids) ∧
        Election.chooseCell types votes corr iters nAssign order = .ok ch ∧
        vote p (kidsOf t cl kids) c = voteOfChoice ch) :
    VoteOK t vote ∧ PayloadOK (nAssign - 1) t vote := by
  refine ⟨?_, ?_⟩
  · intro p cl kids c hk
    obtain ⟨types, votes, corr, iters, order, ch, hlen, hv, htypes, hch, heq⟩ := h p cl kids c hk
    rw [heq]
    exact htypes _ (chooseCell_winner_mem types votes corr iters nAssign order ch hlen hv hch)
  · intro p cl kids c hk
    obtain ⟨types, votes, corr, iters, order, ch, hlen, hv, htypes, hch, heq⟩ := h p cl kids c hk
    rw [heq]
    exact chooseCell_payloadOK types votes corr iters nAssign order ch kids hlen hv htypes hch

/-- the hypothesis of `interpreted_oracle_ok` is satisfiable: an oracle that
answers with a `choose_node` result whatever it is asked (3 iterations, all
votes on the first child) -/
example : ∀ (p : Parent) (cl : Level) (kids : List Node) (c : Nat), 2 ≤ kids.length →
    ∃ types votes corr iters order ch,
      votes.length = types.length ∧
      Election.ValidOrder (Election.columns types votes corr).1 order ∧
      (∀ a ∈ types, a ∈ kids) ∧
      Election.chooseCell types votes corr iters 1 order = .ok ch ∧
      (fun (_ : Parent) (ks : List (Node × List Node)) (_ : Nat) =>
        voteOfChoice ⟨((ks.head?).map (·.1)).getD 0, 1, 1, []⟩) p (kidsOf exTree cl kids) c =
        voteOfChoice ch := by
  intro p cl kids c hk
  rcases kids with _ | ⟨a, _ | ⟨b, rest⟩⟩
  · cases hk
  · exact absurd hk (by decide : ¬2 ≤ 1)
  · refine ⟨[a], [3], [3], 3, [0], ⟨a, 1, 1, []⟩, rfl, ?_,
      List.forall_mem_singleton.2 List.mem_cons_self, ?_, rfl⟩
    -- a single type does not repeat: `columns` leaves `([3], [3], [a])` as they are
    · show Election.ValidOrder [3] [0]
      decide
    · show Election.chooseCols [3] [3] [a] 3 1 [0] = _
      rw [← (by decide +kernel : (3 : ℚ) / 3 = 1)]
      rfl

/-- "a parent with a single child yields probability 1 with no runners-up ...
and inferred levels repeat the numbers of the voted descendant without
runner-up fields" / "at every directly assigned level ... the runner-up lists
have equal length not exceeding the requested number" — as facts about EVERY
record of EVERY successful run of the whole pipeline (stored tree `t0`, run
tree `t` after `drop_level` / `flatten`, any chunking, worker count and gather
order).  For each record and each level `l` of the stored hierarchy the dict
exists, names a node of level `l`, has `avg_correlation` and
`aggregate_probability` present, and
 * if the run voted on `l`: `directly_assigned = True` and the three
   runner-up lists are present, of equal length ≤ `nR`, naming nodes of `l`;
 * otherwise: `directly_assigned = False` and the runner-up keys are absent;
and every level the run did not vote on is the copy of the dict of the level
right below it — same probability, correlation and aggregate probability —
with the parent (in the stored tree) of that level's assignment. -/
theorem pipeline_record_clauses {κ} (t0 t : RawTree) (cfg : Config) (vote : Oracle κ) (nR : Nat)
    (ids : List CellId) (cells : List κ) (order : List Nat)
    (hwf0 : wfb t0 = true) (hrun : runTree t0 cfg = .ok t)
    (hv : VoteOK t vote) (hpay : PayloadOK nR t vote) (hch : hasChoice t = true)
    (hlen : ids.length = cells.length) (hnd : ids.Nodup)
    (hproc : 1 ≤ cfg.nProc) (hcs : 1 ≤ cfg.chunkSize)
    (horder : order.Perm (List.range
      (chunks cells.length (effChunk cells.length cfg.nProc cfg.chunkSize)).length))
    (out : List Record) (hout : mapPipeline t0 cfg vote ids cells order = .ok out) :
    ∀ o ∈ out,
      (∀ l ∈ t0.hierarchy, ∃ e, o.levels.lookup l = some e ∧
        e.assignment ∈ t0.nodesAt l ∧ e.corr.isSome = true ∧ e.agg.isSome = true ∧
        (l ∈ t.hierarchy → e.direct = some true ∧
          ∃ ra rc rp, e.ru = some (ra, rc, rp) ∧ ra.length = rc.length ∧
            ra.length = rp.length ∧ ra.length ≤ nR ∧ ∀ a ∈ ra, a ∈ t0.nodesAt l) ∧
        (l ∉ t.hierarchy → e.direct = some false ∧ e.ru = none)) ∧
      (∀ cp ∈ pairsOf t0.hierarchy.reverse, cp.2 ∉ t.hierarchy →
        ∃ ec pn, o.levels.lookup cp.1 = some ec ∧
          t0.childToParent cp.1 ec.assignment = some pn ∧
          o.levels.lookup cp.2 =
            some { ec with assignment := pn, ru := none, direct := some false }) := by
  have rt := runTree_reduces hwf0 hrun
  intro o ho
  obtain ⟨_, id, c, _, _, hc⟩ :=
    (mapPipeline_mem hrun rt.wf hv hlen hnd hproc hcs horder hout).2 o ho
  refine ⟨?_, ?_⟩
  · intro l hl
    obtain ⟨e, he, hg⟩ := (cellResult_good rt hv hpay hch id c o hc).2 l hl
    refine ⟨e, he, hg.node, hg.corr, hg.agg, ?_, ?_⟩
    · intro hm
      have hcont : t.hierarchy.contains l = true := List.contains_iff_mem.mpr hm
      rw [hcont] at hg
      exact ⟨hg.direct, hg.voted rfl⟩
    · intro hm
      have hcont : t.hierarchy.contains l = false := by
        cases hb : t.hierarchy.contains l with
        | false => rfl
        | true => exact absurd (List.contains_iff_mem.mp hb) hm
      rw [hcont] at hg
      exact ⟨hg.direct, hg.inferred rfl⟩
  · exact (cellResult_spec rt hv id c o hc).2.2.2

/-- a flattened run of the example taxonomy: levels 0 and 1 are inferred, they
repeat the numbers of the leaf level and have no runner-up fields -/
example : ((mapPipeline exTree { flatten := true } (exVoteP 2) [7] [1] [0]).toOption.getD []).flatMap
    (fun r => r.levels.map
      (fun le => ((le.1 : Nat), (le.2.assignment : Nat), le.2.prob, le.2.ru.isSome, le.2.direct))) =
    [(2, 31, 1 / 2, true, some true), (1, 21, 1 / 2, false, some false),
      (0, 10, 1 / 2, false, some false)] := by decide +kernel

/-- **every record of the pipeline output is the election model applied to the
votes along the cell's walk.**  For each record `o` of a successful run there
are the cell's raw per-level votes `raw` (one per level of the run's tree: the
oracle's answer, or the constants of the single-child branch) such that
 * the flagged walk — which `o` keeps unchanged at every level the run voted
   on — is `Election.finishCell` of `raw`: so *"the aggregate probability is
   the running product of the bootstrapping probabilities of the directly
   assigned levels from the top"* (`C03.aggregate`, `C03.finished_level`) and
   *"a parent with a single child yields probability 1 with no runners-up and
   the correlation of the nearest level where a real choice was made"*
   (`C03.single_child`) hold for it verbatim;
 * `o` is `Election.inferLevels` of the flagged walk with the parents of the
   stored tree: so *"inferred levels repeat the numbers of the voted
   descendant without runner-up fields"* (`C03.inferred`) holds for it. -/
theorem pipeline_record_is_election_model {κ} (t0 t : RawTree) (cfg : Config) (vote : Oracle κ)
    (nR : Nat) (ids : List CellId) (cells : List κ) (order : List Nat)
    (hwf0 : wfb t0 = true) (hrun : runTree t0 cfg = .ok t)
    (hv : VoteOK t vote) (hpay : PayloadOK nR t vote)
    (hlen : ids.length = cells.length) (hnd : ids.Nodup)
    (hproc : 1 ≤ cfg.nProc) (hcs : 1 ≤ cfg.chunkSize)
    (horder : order.Perm (List.range
      (chunks cells.length (effChunk cells.length cfg.nProc cfg.chunkSize)).length))
    (out : List Record) (hout : mapPipeline t0 cfg vote ids cells order = .ok out) :
    ∀ o ∈ out, ∃ (c : κ) (raw : List (Level × Entry)) (flagged : Record),
      walkFrom t vote c t.hierarchy none = .ok raw ∧
      raw.map (·.1) = t.hierarchy ∧ flagged.levels.map (·.1) = t.hierarchy ∧
      flagged.levels.map (fun le => toElectionOut le.2) =
        Election.finishCell (raw.map (fun le => toElectionRec le.2)) ∧
      (∀ l ∈ t.hierarchy, o.levels.lookup l = flagged.levels.lookup l) ∧
      Election.inferLevels t0.childToParent t0.hierarchy (toElectionCell flagged) =
        .ok (toElectionCell o) := by
  have rt := runTree_reduces hwf0 hrun
  intro o ho
  obtain ⟨_, id, c, _, _, hc⟩ :=
    (mapPipeline_mem hrun rt.wf hv hlen hnd hproc hcs horder hout).2 o ho
  obtain ⟨raw, h1, h2, h3, h4, h5⟩ := cellResult_election rt hv id c o hc
  exact ⟨c, raw, _, h1, h2, h3, h4,
    fun l hl => (cellResult_spec rt hv id c o hc).2.2.1 l (Or.inl hl), h5⟩

example : ∀ o ∈ (List.zipWith (mkRecord exTree (exVoteP 1)) [7, 3, 9] [0, 1, 2]).map
      (markDirect exTree.hierarchy),
    ∃ (c : Nat) (raw : List (Level × Entry)) (flagged : Record),
      walkFrom exTree (exVoteP 1) c exTree.hierarchy none = .ok raw ∧
      raw.map (·.1) = exTree.hierarchy ∧ flagged.levels.map (·.1) = exTree.hierarchy ∧
      flagged.levels.map (fun le => toElectionOut le.2) =
        Election.finishCell (raw.map (fun le => toElectionRec le.2)) ∧
      (∀ l ∈ exTree.hierarchy, o.levels.lookup l = flagged.levels.lookup l) ∧
      Election.inferLevels exTree.childToParent exTree.hierarchy (toElectionCell flagged) =
        .ok (toElectionCell o) :=
  pipeline_record_is_election_model exTree exTree { chunkSize := 2, nProc := 2 } (exVoteP 1) 1
    [7, 3, 9] [0, 1, 2] [1, 0] exTree_wf rfl (exVoteP_ok _ _) (exVoteP_payload _ _) rfl
    (by decide) (by decide) (by decide) (by decide) _
    (mapPipeline_plain_ok exTree { chunkSize := 2, nProc := 2 } (exVoteP 1) [7, 3, 9]
      [0, 1, 2] [1, 0] rfl rfl exTree_wf (exVoteP_ok _ _) rfl (by decide) (by decide)
      (by decide) (by decide))

/-- "a parent with a single child yields probability 1 with no runners-up":
what the level loop records at such a parent — the hypotheses `hp`, `hc`, `hr`
of `C03.single_child`, here read off the level-loop model of the loop -/
theorem single_child_vote {κ} (t : RawTree) (vote : Oracle κ) (p : Parent) (cl : Level)
    (only : Node) (c : κ) :
    entryOf (voteFn t vote p cl [only] c) =
      { assignment := only, prob := 1, corr := none, ru := some ([], [], []) } ∧
    (toElectionRec (entryOf (voteFn t vote p cl [only] c))).prob = 1 ∧
    (toElectionRec (entryOf (voteFn t vote p cl [only] c))).avgCorr = none ∧
    (toElectionRec (entryOf (voteFn t vote p cl [only] c))).runnerAssignment = [] ∧
    (toElectionRec (entryOf (voteFn t vote p cl [only] c))).runnerCorrelation = [] ∧
    (toElectionRec (entryOf (voteFn t vote p cl [only] c))).runnerProbability = [] :=
  ⟨rfl, rfl, rfl, rfl, rfl, rfl⟩

example : (entryOf (voteFn exTree (exVoteP 1) (some (1, 20)) 2 [30] 0)).prob = 1 :=
  (congrArg Entry.prob (single_child_vote exTree (exVoteP 1) (some (1, 20)) 2 30 0).1)

/-- "the aggregate probability is the running product of the bootstrapping
probabilities of the directly assigned levels from the top" — on the level-loop model's
loop: after the post-loops the `aggregate_probability` entries of a cell are
the running products of the `bootstrapping_probability` entries the level loop
wrote, top level first (`OutBridge.finishCell_aggs`; the hypothesis is not used) -/
theorem aggregate_running_product (es : List (Level × Entry))
    (h : ∀ le ∈ es, le.2.ru.isSome = true) :
    (LevelLoop.finishCell es).map (fun le => le.2.agg) =
      (Election.runningProduct 1 (es.map (fun le => le.2.prob))).map some :=
  finishCell_aggs es

example : (LevelLoop.finishCell [(0, ⟨1, 1 / 2, some (1 / 3), some ([], [], []), none, none⟩),
    (1, ⟨2, 1 / 2, none, some ([], [], []), none, none⟩)]).map (fun le => le.2.agg) =
    [some (1 / 2), some (1 / 4)] := by decide +kernel

end CTM.C03
