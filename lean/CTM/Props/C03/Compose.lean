/-
  C03 × C01 — the arithmetic contract for EVERY record of the composed pipeline
  (`mapPipeline` with the interpreted oracle `Compose.electionVote`).
-/
import CTM.Lemmas.Compose

namespace CTM.C03
open CTM CTM.LevelLoop CTM.OutBridge CTM.Election CTM.Numeric CTM.Compose

/-- one level of a walk, as C03 sees it: under a single-child parent
"probability 1 with no runners-up" and no correlation of its own; otherwise
the whole contract of a voted level (`NodeContract`) -/
def StepContract (P : ElectionParams) (t : RawTree) (c : List Rat) (p : Parent) (l : Level)
    (e : Entry) : Prop :=
  ∃ kids, Asked t p l kids ∧
    ((∃ only, kids = [only] ∧
        e = { assignment := only, prob := 1, corr := none, ru := some ([], [], []) }) ∨
     (2 ≤ kids.length ∧
        NodeContract P.nAssign (P.subsets p c).length (kidsOf t l kids) e))

/-- the contract of one voted level, from the model of `choose_node`:
"the bootstrapping probability is a whole number of votes out of the iteration
count and lies in (0,1]; the runner-up lists have equal length not exceeding
the requested number, name distinct siblings of the winner under the same
parent, carry strictly positive probabilities in non-increasing order none
larger than the winner's, and winner plus runners-up sum to at most 1 (exactly 1
when all siblings could be listed). Correlations lie in [-1,1]" -/
theorem node_contract (P : ElectionParams) (htie : TieOK P) (hcorr : CorrOK P) (p : Parent)
    (kl : List (Node × List Node)) (x : List Rat) (hnr : NoRaise P p kl x) :
    NodeContract P.nAssign (P.subsets p x).length kl (entryOf (electionVote P p kl x)) :=
  nodeRecompute_contract P hcorr p kl x _ (electionVote_nodeRecompute P htie p kl x hnr)

/-- **All clauses of C03 for every record of the composed pipeline.**  Stored
tree `t0` well-formed, `t` the run's tree (any `drop_level` / `flatten`), any
chunking, worker count and gather order; any drawn subsets and tie orders; the
reported per-iteration correlations in [-1,1] (`CorrOK`); no Python `raise` on
the questions asked.  Every record `o` comes with a list `raw` of one dict per level of
the run's tree (the proof takes the cell's raw walk; the statement keeps its levels and the
contract of each step, not the `walkFrom` equation) with
 1. every step satisfying `StepContract`: single child ⇒ probability 1, no
    runners-up; real choice ⇒ `NodeContract` (prob_whole, runners, sum_le_one,
    correlation range), the winner and the runners-up being children of the
    parent the walk had reached;
 2. at every directly assigned level `raw[k].1` the record holds the step's
    assignment, probability and runner-up lists; its correlation is the step's
    own, else that of the nearest voted level above, else below ("a parent
    with a single child yields ... the correlation of the nearest level where a
    real choice was made"); "the aggregate probability is the running product
    of the bootstrapping probabilities of the directly assigned levels from the
    top"; `directly_assigned = True`;
 3. "inferred levels repeat the numbers of the voted descendant without
    runner-up fields": every stored level the run did not vote on holds the copy
    of the dict of the level right below it, with that node's parent in the
    stored tree, no runner-up keys, `directly_assigned = False`. -/
theorem pipeline_contract (t0 t : RawTree) (cfg : Config) (P : ElectionParams)
    (ids : List CellId) (cells : List (List Rat)) (order : List Nat)
    (hwf0 : wfb t0 = true) (hrun : runTree t0 cfg = .ok t)
    (htie : TieOK P) (hcorr : CorrOK P) (hnr : NoRaiseAll P t)
    (hlen : ids.length = cells.length) (hnd : ids.Nodup)
    (hproc : 1 ≤ cfg.nProc) (hcs : 1 ≤ cfg.chunkSize)
    (horder : order.Perm (List.range
      (chunks cells.length (effChunk cells.length cfg.nProc cfg.chunkSize)).length))
    (out : List Record)
    (hout : mapPipeline t0 cfg (electionVote P) ids cells order = .ok out) :
    ∀ o ∈ out, ∃ (c : List Rat) (raw : List (Level × Entry)),
      c ∈ cells ∧ raw.map (·.1) = t.hierarchy ∧
      Linked (StepContract P t c) none raw ∧
      (∀ (k : Nat) (hk : k < raw.length), ∃ e, o.levels.lookup raw[k].1 = some e ∧
        e.assignment = raw[k].2.assignment ∧ e.prob = raw[k].2.prob ∧ e.ru = raw[k].2.ru ∧
        e.corr = (raw[k].2.corr.or (corrAbove (raw.map (fun le => toElectionRec le.2)) k)).or
          (corrBelow (raw.map (fun le => toElectionRec le.2)) k) ∧
        e.agg.getD 0 = ((raw.map (fun le => le.2.prob)).take (k + 1)).prod ∧
        e.direct.getD false = true) ∧
      (∀ cp ∈ pairsOf t0.hierarchy.reverse, cp.2 ∉ t.hierarchy →
        ∃ ec pn, o.levels.lookup cp.1 = some ec ∧
          t0.childToParent cp.1 ec.assignment = some pn ∧
          o.levels.lookup cp.2 =
            some { ec with assignment := pn, ru := none, direct := some false }) := by
  have rt := runTree_reduces hwf0 hrun
  have hv := (electionVote_ok t P htie).1
  intro o ho
  obtain ⟨_, _, c, _, hi2, hc⟩ :=
    (mapPipeline_mem hrun rt.wf hv hlen hnd hproc hcs horder hout).2 o ho
  obtain ⟨raw, _, h1, h2, hlev, hinf⟩ := cellResult_raw rt hv hc
  refine ⟨c, raw, List.mem_of_getElem? hi2, h2, Linked.imp ?_ none raw
    (walk_stepOK P htie rt.wf hnr c raw h1), fun k hk => ?_, hinf⟩
  · rintro p l e ⟨kids, hask, hcase⟩
    exact ⟨kids, hask, hcase.imp_right fun ⟨h2k, hnode⟩ =>
      ⟨h2k, nodeRecompute_contract P hcorr p _ c e hnode⟩⟩
  · obtain ⟨e, he, ha, hp, hr, hc, hg, hd⟩ := hlev k hk
    exact ⟨e, he, ha, hp, hr, hc, by rw [hg]; rfl, by rw [hd]; rfl⟩

/-- non-vacuity: the example taxonomy with the parameters `exP` -/
example := pipeline_contract exTree exTree { chunkSize := 1, nProc := 2 } exP [7, 3]
  [[2, 4, 1], [2, 9, 2]] [1, 0] exTree_wf rfl exP_tie exP_corr
  exP_noRaise rfl (by decide) (by decide) (by decide) (by decide) _
  (exRun_ok exP exP_tie)

/-- a flattened run of the composed model: levels 0 and 1 are inferred from the
leaf level, which was voted among the three leaves with one runner-up kept -/
example : ((mapPipeline exTree { flatten := true } (electionVote exP) [3] [[2, 9, 2]]
      [0]).toOption.getD []).flatMap
    (fun r => r.levels.map (fun le =>
      ((le.1 : Nat), (le.2.assignment : Nat), le.2.prob, le.2.ru.isSome, le.2.direct))) =
    [(2, 30, 1 / 2, true, some true), (1, 20, 1 / 2, false, some false),
     (0, 10, 1 / 2, false, some false)] := by decide +kernel

end CTM.C03
