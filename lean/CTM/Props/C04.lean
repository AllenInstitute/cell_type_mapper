/-
  C04 — results depend only on inputs and seed, never on scheduling.

  "For fixed input files and configuration (including the random seed) every
  pipeline stage - reference statistics, reference markers, query marker
  selection, cell type mapping - produces the same result on every run, for
  every interleaving and completion order of its worker processes and under
  any Python hash seed.  The number of worker processes changes the result
  only through the documented chunking of cells, so two worker counts that
  induce the same chunks give bitwise identical mappings."

  Model: CTM/Model/Procs.lean, section "merging worker results".  A worker is
  a pure function of its work item (and seed); the *completion order* is any
  permutation of the dispatch-order list of the workers' records and the
  theorems quantify over all of them (the orders the poll loop can actually
  produce are a subset: `forced_orders_are_instances`, `C04/Feasible.lean`).  Keys (cell ids, scratch paths, first pair index,
  parents) are distinct: `Nodup` hypotheses, as `range(0, n, step)`,
  `mkstemp` and `started_parents` provide.
-/
import CTM.Lemmas.ProcsMerge
import CTM.Generated.Skeleton

namespace CTM.C04
open CTM.Procs

/-! ## record-level interleavings and file order -/

/-- stronger than chunk-wise (`schedule_indep_append_rekey` below): *any*
interleaving of the workers' appends (any permutation of the individual cell
records, as if there were no lock at all) is neutralised by `re_order_blob`,
as long as every cell id is reported once -/
theorem interleaving_indep_rekey {ν} (blob₁ blob₂ : List (Nat × ν)) (hp : blob₁.Perm blob₂)
    (hn : (blob₁.map (·.1)).Nodup) (cellOrder : List Nat) :
    reorderBlob blob₁ cellOrder = reorderBlob blob₂ cellOrder := by
  simp only [reorderBlob, dictGet_dictOfList_perm hp hn]

example : reorderBlob [(7, "b"), (5, "c"), (3, "a")] [3, 5, 7]
    = reorderBlob [(3, "a"), (7, "b"), (5, "c")] [3, 5, 7] := by decide +kernel

/-- whatever the workers delivered and in whatever order: if `re_order_blob`
returns at all, it returns exactly one record per cell of the query file, in
file order (a missing cell is a `KeyError`, never a silently shorter list) -/
theorem rekey_follows_file_order {ν} (blob : List (Nat × ν)) (cellOrder : List Nat)
    (r : List (Nat × ν)) (h : reorderBlob blob cellOrder = some r) :
    r.map (·.1) = cellOrder :=
  collect_map_fst cellOrder (dictGet (dictOfList blob)) r (by simpa [reorderBlob] using h)

example : reorderBlob [(3, "a")] [3, 5] = none := by decide +kernel

/-! ## schedule independence of the five merge disciplines -/

/-- "worker results gathered under a lock or in per-chunk files, then
re-ordered by cell id" (mapping): whatever order the chunks' records were
appended in (`done₁`, `done₂`: two permutations of the same per-chunk record
lists), `re_order_blob` returns the same list - provided every cell id is
reported once. -/
theorem schedule_indep_append_rekey {ν} (done₁ done₂ : List (List (Nat × ν)))
    (hp : done₁.Perm done₂) (hn : (done₁.flatten.map (·.1)).Nodup) (cellOrder : List Nat) :
    mergeAppendRekey done₁ cellOrder = mergeAppendRekey done₂ cellOrder :=
  interleaving_indep_rekey _ _ hp.flatten hn cellOrder

/-- … and that list is the query's cell order with each cell's own record:
with the chunks in dispatch order `perChunk`, distinct cell ids and
`cellOrder` = the ids in file order, the result is exactly the dispatch-order
concatenation (so nothing of the completion order survives). -/
theorem append_rekey_exact {ν} (perChunk done : List (List (Nat × ν)))
    (hp : done.Perm perChunk) (hn : (perChunk.flatten.map (·.1)).Nodup) :
    mergeAppendRekey done (perChunk.flatten.map (·.1)) = some perChunk.flatten := by
  rw [schedule_indep_append_rekey done perChunk hp ((hp.flatten.map _).symm.nodup hn)]
  simp only [mergeAppendRekey, reorderBlob]
  rw [dictOfList_eq_self _ hn, List.map_map]
  refine (collect_map_eq_some (g := id) fun e he => ?_).trans (congrArg some (List.map_id _))
  exact congrArg (Option.map _) (ListAux.lookup_of_mem_nodup hn he)

example : mergeAppendRekey [[(7, "b"), (3, "a")], [(5, "c")]] [3, 5, 7]
    = mergeAppendRekey [[(5, "c")], [(7, "b"), (3, "a")]] [3, 5, 7] := by decide +kernel

/-- why the key hypothesis matters: a cell reported twice makes the answer
depend on which record was appended last -/
example : mergeAppendRekey [[(3, "a")], [(3, "x")]] [3] ≠ mergeAppendRekey [[(3, "x")], [(3, "a")]] [3] := by
  decide +kernel

/-- "per-worker partial sums written to files that are merged in creation
order, not completion order" (reference statistics): the buffers are read
back by path in creation order, so the completion order (`done₁`, `done₂`)
does not enter the sum - not even its association order. -/
theorem schedule_indep_sum {β} (add : β → β → β) (zero : β) (paths : List Nat)
    (done₁ done₂ : List (Nat × β)) (hp : done₁.Perm done₂) (hn : (done₁.map (·.1)).Nodup) :
    mergeSumCreationOrder add zero paths done₁ = mergeSumCreationOrder add zero paths done₂ := by
  rw [mergeSumCreationOrder, dictGet_dictOfList_perm hp hn]
  rfl

/-- the sum is the left fold over the buffers in creation order, whatever the
completion order -/
theorem sum_exact {β} (add : β → β → β) (zero : β) (jobs done : List (Nat × β))
    (hp : done.Perm jobs) (hn : (jobs.map (·.1)).Nodup) :
    mergeSumCreationOrder add zero (jobs.map (·.1)) done
      = some ((jobs.map (·.2)).foldl add zero) := by
  rw [schedule_indep_sum add zero _ done jobs hp ((hp.map _).symm.nodup hn)]
  unfold mergeSumCreationOrder
  rw [dictOfList_eq_self _ hn, collect_lookup_self jobs hn]
  rfl

/-- non-vacuity, with a non-associative, non-commutative `add` -/
example : mergeSumCreationOrder (fun a b => 2 * a + b) 0 [10, 11, 12] [(12, 5), (10, 1), (11, 3)]
    = some ((([1, 3, 5] : List Nat)).foldl (fun a b => 2 * a + b) 0) := by decide +kernel

/-- "per-chunk marker files keyed by first pair index and merged in sorted key
order" (reference markers, p-value mask): the merged sequence of chunks does
not depend on the completion order. -/
theorem schedule_indep_sorted_keys {ρ} (done₁ done₂ : List (Nat × ρ)) (hp : done₁.Perm done₂)
    (hn : (done₁.map (·.1)).Nodup) : mergeSortedKeys done₁ = mergeSortedKeys done₂ := by
  have hn₂ : (done₂.map (·.1)).Nodup := (hp.map _).nodup hn
  simp only [mergeSortedKeys, dictOfList_eq_self _ hn, dictOfList_eq_self _ hn₂]
  rw [sortKeys_eq_of_perm (hp.map _)]
  congr 1
  apply List.map_congr_left
  intro k _
  exact lookup_perm hp hn k

/-- when the keys grow with the dispatch index (`range(0, n_pairs, n_per)`),
sorted key order *is* dispatch order: the merge sees the chunks exactly as
dispatched -/
theorem sorted_keys_exact {ρ} (jobs done : List (Nat × ρ)) (hp : done.Perm jobs)
    (hs : (jobs.map (·.1)).Pairwise (· < ·)) :
    mergeSortedKeys done = some (jobs.map (·.2)) := by
  have hn : (jobs.map (·.1)).Nodup := hs.imp (fun h => Nat.ne_of_lt h)
  rw [schedule_indep_sorted_keys done jobs hp ((hp.map _).symm.nodup hn)]
  simp only [mergeSortedKeys, dictOfList_eq_self _ hn]
  rw [sortKeys_of_sorted (hs.imp (fun h => Nat.le_of_lt h))]
  exact collect_lookup_self jobs hn

example : mergeSortedKeys [(16, "c"), (0, "a"), (8, "b")] = some ["a", "b", "c"] := by decide +kernel

/-- parallel transposition: chunk files in a list filled at dispatch,
concatenated in that order -/
theorem schedule_indep_concat {ρ} (paths : List Nat) (done₁ done₂ : List (Nat × ρ))
    (hp : done₁.Perm done₂) (hn : (done₁.map (·.1)).Nodup) :
    mergeConcatCreationOrder paths done₁ = mergeConcatCreationOrder paths done₂ := by
  rw [mergeConcatCreationOrder, dictGet_dictOfList_perm hp hn]
  rfl

example : mergeConcatCreationOrder [4, 9] [(9, "y"), (4, "x")] = some ["x", "y"] := by decide +kernel

/-- "per-parent results stored in a dict keyed by parent" (query marker
selection): the mapping parent ↦ markers does not depend on the completion
order (the dict's *iteration* order does - callers must not rely on it) -/
theorem schedule_indep_dict {ρ} (done₁ done₂ : List (Nat × ρ)) (hp : done₁.Perm done₂)
    (hn : (done₁.map (·.1)).Nodup) (ask : List Nat) :
    mergeDictByKey done₁ ask = mergeDictByKey done₂ ask := by
  rw [mergeDictByKey, dictGet_dictOfList_perm hp hn]
  rfl

example : mergeDictByKey [(2, "m2"), (1, "m1")] [1, 2, 3] = [some "m1", some "m2", none] := by decide +kernel

/-- the completion orders the harness forces on the real stages (enumerated by
`completionOrders nWorkers nProc`: what the start / poll loop can produce with
`nProc` slots) are permutations of the workers, and gathering the workers'
records in such an order is a permutation of the dispatch-order list - so
every forced schedule is an instance of the theorems above -/
theorem forced_orders_are_instances {ρ} (results : List ρ) (nProc : Nat) :
    ∀ o ∈ completionOrders results.length nProc, (gather results o).Perm results :=
  fun o ho => gather_perm results o (completionOrders_perm _ _ o ho)

example : completionOrders 3 2 = [[0, 1, 2], [1, 0, 2], [1, 2, 0], [0, 2, 1]] := by decide +kernel
example : gather ["a", "b", "c"] [1, 2, 0] = ["b", "c", "a"] := by decide +kernel

/-! ## seeds -/

/-- "one child generator per chunk, seeded from the parent generator in
dispatch order before the worker starts": chunk `k`'s seed is the `k`-th draw
of the parent generator -/
theorem seed_by_dispatch {σ} (cs : List (Nat × Nat)) (draws : Nat → σ) (k : Nat) :
    (dispatchSeeds cs draws)[k]? = cs[k]?.map (fun c => (c, draws k)) := by
  simp only [dispatchSeeds, List.getElem?_map, List.getElem?_zipIdx]
  cases cs[k]? <;> simp

example : dispatchSeeds [(0, 4), (4, 8), (8, 9)] (fun k => 100 + k)
    = [((0, 4), 100), ((4, 8), 101), ((8, 9), 102)] := by decide +kernel

/-- the same on the stage machine, for the skeleton the translator extracts
from `run_type_assignment_on_h5ad_cpu`: for every number of chunks, every
`n_processors`, every schedule and every exit-code assignment - whether the
stage succeeds, fails or spins - worker `k` was seeded with draw `k`,
irrespective of who completed when -/
theorem seed_by_dispatch_machine (env : Env) (sched : List Poll) :
    let s := (exec CTM.Generated.mapping.container env CTM.Generated.mapping.prog
      { sched := sched }).state
    s.seeds = (List.range s.started).map (fun k => (k, k)) := by
  have hprog : CTM.Generated.mapping.prog = [.dispatch seededBody, .drain] := rfl
  simp only [hprog]
  exact (seededProg_inv _ env sched).2

example : (exec .list { nItems := 3, nProc := 2, keyOf := id, exit := fun _ => 0 }
    CTM.Generated.mapping.prog { sched := [[1], [0], [2]] }).state.seeds = [(0, 0), (1, 1), (2, 2)] := by
  decide +kernel

/-! ## number of processes -/

/-- "The number of worker processes changes the result only through the
documented chunking of cells, so two worker counts that induce the same chunks
give bitwise identical mappings": if `n_processors = p₁` and `p₂` give the
same effective chunk size, then for any completion orders of the two runs the
merged, re-ordered results are equal -/
theorem nproc_only_via_chunks {σ ν} (nRows p₁ p₂ chunkSize : Nat) (draws : Nat → σ)
    (worker : (Nat × Nat) → σ → List (Nat × ν))
    (h : effChunk nRows p₁ chunkSize = effChunk nRows p₂ chunkSize)
    (done₁ done₂ : List (List (Nat × ν)))
    (h₁ : done₁.Perm (mapStageResults nRows p₁ chunkSize draws worker))
    (h₂ : done₂.Perm (mapStageResults nRows p₂ chunkSize draws worker))
    (hn : ((mapStageResults nRows p₁ chunkSize draws worker).flatten.map (·.1)).Nodup)
    (cellOrder : List Nat) :
    mergeAppendRekey done₁ cellOrder = mergeAppendRekey done₂ cellOrder := by
  have heq : mapStageResults nRows p₁ chunkSize draws worker
      = mapStageResults nRows p₂ chunkSize draws worker := by
    unfold mapStageResults
    rw [h]
  apply schedule_indep_append_rekey
  · exact h₁.trans (heq ▸ h₂.symm)
  · exact (h₁.flatten.map _).symm.nodup hn

/-- the documented chunking: as long as `chunk_size ≤ ceil(n_rows/p)` the
number of processes `p` does not enter the chunk size at all -/
theorem chunk_size_indep_of_nproc (nRows p₁ p₂ chunkSize : Nat) (hp₁ : 0 < p₁) (hp₂ : 0 < p₂)
    (h₁ : chunkSize * p₁ ≤ nRows + p₁ - 1) (h₂ : chunkSize * p₂ ≤ nRows + p₂ - 1) :
    effChunk nRows p₁ chunkSize = effChunk nRows p₂ chunkSize := by
  rw [effChunk_eq_chunkSize hp₁ h₁, effChunk_eq_chunkSize hp₂ h₂]

example : effChunk 20 2 5 = effChunk 20 4 5 ∧ effChunk 20 4 5 ≠ effChunk 20 5 5 := by decide +kernel
example : chunks 10 (effChunk 10 3 100) = [(0, 4), (4, 8), (8, 10)] := by decide +kernel

/-! ## hash seed (set enumeration order) -/

/-- "marker lists sorted by reference gene index before use" / sets sorted
before they are written: whatever order a `set` is enumerated in
(`enum₁`, `enum₂`: two enumerations of the same elements), the sorted array
is the same.

This is the lemma every `set → list` site relies on; the sites themselves are
treated one by one, on the model functions that own them, in
`CTM/Props/C04/Enum.lean`. -/
theorem enum_indep_sorted (enum₁ enum₂ : List Nat) (hp : enum₁.Perm enum₂) :
    sortKeys enum₁ = sortKeys enum₂ :=
  sortKeys_eq_of_perm hp

example : sortKeys [5, 1, 3] = sortKeys [3, 5, 1] := by decide +kernel

/-! ## the regenerated skeletons -/

/-- every parallel stage found in the source merges its workers' results by
one of the disciplines above (the translator re-derives this on every run) -/
theorem generated_merge_disciplines :
    CTM.Generated.stages.map (fun s => (s.name, s.merge)) =
      [("mapping", .appendRekey), ("stats", .sumCreationOrder), ("refMarkers", .sortedKeys),
       ("pMask", .sortedKeys), ("pMarkers", .sortedKeys), ("selection", .dictByKey),
       ("transpose", .concatCreationOrder)] := rfl

end CTM.C04
