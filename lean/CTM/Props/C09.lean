/-
  Property C09: "Reference statistics equal direct computation and are additive".

  Theorems about the executable model `CTM.Model.Stats` of the statistics
  writers (`precompute_from_anndata.py`, `stats_utils.py`,
  `truncate_precompute.py`, `precompute_utils.py`, `score_utils.py`).
  Helper lemmas live in `CTM.Lemmas.Stats` (the writer) and `CTM.Lemmas.StatsFiles`
  (the name table, the files read back, the merge of files).

  The theorems about a run of the writer share four side conditions: `hrows` and
  `hproc` (chunk size and worker count at least 1), `hntr` (the name → row table
  has its rows inside the output; `name_table_ok` proves it of the table the front
  end builds) and `hw` (some file holds a named cell; without it the source fails,
  `direct_needs_wanted`).
-/
import CTM.Lemmas.StatsFiles

namespace CTM.C09
open CTM.Stats

/-- "The values do not depend on how cells are spread over files, encodings,
chunks or workers" (additivity): the accumulated statistics of a block of
cells `A ++ B` are the sum of the statistics of `A` and of `B`, for any
per-cell contribution `f` (in particular `fun c => cellStat c.vals`). -/
theorem stat_append {α : Type} (f : α → Row) (A B : List α) :
    rowSum ((A ++ B).map f) = (rowSum (A.map f)).add (rowSum (B.map f)) := by
  rw [List.map_append, rowSum_append]

example : rowSum ((([[1, 2], [3, 4]] : List (List Rat)) ++ [[5, 6]]).map cellStat)
    = (rowSum ([[1, 2], [3, 4]].map cellStat)).add (rowSum ([[5, 6]].map cellStat)) := by
  decide +kernel

/-- "The values do not depend on how cells are spread over files ... chunks or
workers" (order): the accumulated statistics of a block of cells do not depend
on the order in which the cells are visited. -/
theorem stat_perm {α : Type} (f : α → Row) {A B : List α} (h : A.Perm B) :
    rowSum (A.map f) = rowSum (B.map f) :=
  rowSum_perm (h.map f)

example : rowSum (([[1, 2], [3, 4], [5, 6]] : List (List Rat)).map cellStat)
    = rowSum (([[5, 6], [1, 2], [3, 4]] : List (List Rat)).map cellStat) := by
  decide +kernel

/-- "the sum and sum of squares of log2(CPM+1)" determine mean and variance:
with `n` values of sum `s` and sum of squares `q`, `meanOf n s` is the mean
(`n ≥ 1`) and `varOf n s q` the unbiased sample variance (`n ≥ 2`), as used by
`aggregate_stats`. -/
theorem mean_var (xs : List Rat) :
    (1 ≤ xs.length → meanOf xs.length xs.sum * (xs.length : Rat) = xs.sum) ∧
    (2 ≤ xs.length →
      varOf xs.length xs.sum (xs.map (fun x => x * x)).sum * ((xs.length : Rat) - 1)
        = (xs.map (fun x => (x - meanOf xs.length xs.sum) ^ 2)).sum) :=
  ⟨meanOf_mul_n _ _, varOf_mul_pred_eq_sum_sq_dev xs⟩

example : meanOf 3 ([1, 2, 6].sum) = 3 ∧ varOf 3 ([1, 2, 6].sum) (([1, 2, 6].map (fun x => x * x)).sum) = 7 := by
  decide +kernel

/-- "the reference-statistics file holds the number of member cells, the sum
and sum of squares of log2(CPM+1), and the numbers of member cells with CPM
above 0, above 1, and at least 1": for a block of cells with `g` genes each, the
`n` field of `summary_stats_for_chunk` is the number of cells and the entry of
gene `j < g` holds the plain column sums of the values, of their squares, and
of the three threshold indicators.  Stated for the block added into a zeroed
row (what the file holds, also right for an empty block) and, for a non-empty
block, for `summaryStats` itself. -/
theorem summary_fields (g : Nat) (cells : List (List Rat))
    (hlen : ∀ c ∈ cells, c.length = g) (j : Nat) (hj : j < g) :
    ((Row.zero g).add (summaryStats cells)).n = cells.length ∧
    (summaryStats cells).n = cells.length ∧
    ∃ s, ((Row.zero g).add (summaryStats cells)).genes[j]? = some s ∧
      (cells ≠ [] → (summaryStats cells).genes[j]? = some s) ∧
      s.sum = (cells.map (fun c => c.getD j 0)).sum ∧
      s.sumsq = (cells.map (fun c => c.getD j 0 * c.getD j 0)).sum ∧
      s.gt0 = (cells.map (fun c => (geneStat (c.getD j 0)).gt0)).sum ∧
      s.gt1 = (cells.map (fun c => (geneStat (c.getD j 0)).gt1)).sum ∧
      s.ge1 = (cells.map (fun c => (geneStat (c.getD j 0)).ge1)).sum := by
  refine ⟨?_, summaryStats_n cells, cellsColumn cells j,
    zero_add_summaryStats_genes g cells hlen j hj, ?_, cellsColumn_fields cells j⟩
  · simp [Row.add, Row.zero, summaryStats_n]
  · exact fun hne => summaryStats_genes g cells hne hlen j hj

example : (summaryStats [[0, 2], [1, 3]]).n = 2 ∧
    (summaryStats [[0, 2], [1, 3]]).genes[1]? = some ⟨5, 13, 2, 2, 2⟩ := by
  decide +kernel

/-- "the numbers of member cells with CPM above 0, above 1, and at least 1":
`log2` itself is not modelled; for ANY strictly increasing `log2p1` with
`log2p1 0 = 0` and `log2p1 1 = 1` the indicator bits computed in log2 space
are: `gt0 ↔ cpm > 0`, `gt1 ↔ cpm > 1`, `ge1 ↔ log2p1 cpm > ge1Cut` (the
source's `1 - eps`); every `cpm ≥ 1` is counted in `ge1`, and a value below 1
is counted only inside the documented tolerance window
`ge1Cut < log2p1 cpm < 1`, whose width is at most `2e-6`.  The closed facts
are about the constants regenerated from `stats_utils.py`. -/
theorem thresholds (log2p1 : Rat → Rat) (hmono : ∀ a b, a < b → log2p1 a < log2p1 b)
    (h0 : log2p1 0 = 0) (h1 : log2p1 1 = 1) (cpm : Rat) :
    (geneStat (log2p1 cpm)).gt0 = (if 0 < cpm then 1 else 0) ∧
    (geneStat (log2p1 cpm)).gt1 = (if 1 < cpm then 1 else 0) ∧
    (geneStat (log2p1 cpm)).ge1 = (if Generated.ge1Cut < log2p1 cpm then 1 else 0) ∧
    (1 ≤ cpm → (geneStat (log2p1 cpm)).ge1 = 1) ∧
    ((geneStat (log2p1 cpm)).ge1 = 1 ∧ cpm < 1 →
      Generated.ge1Cut < log2p1 cpm ∧ log2p1 cpm < 1) ∧
    Generated.ge1Cut < 1 ∧ 1 - Generated.ge1Cut ≤ 2 / 1000000 ∧
    Generated.gt0Strict = true ∧ Generated.gt1Strict = true ∧ Generated.ge1Strict = true ∧
    Generated.gt0Cut = 0 ∧ Generated.gt1Cut = 1 := by
  have hm : StrictMono log2p1 := fun a b => hmono a b
  have hcut : Generated.ge1Cut < 1 := by decide +kernel
  have e0 : 0 < log2p1 cpm ↔ 0 < cpm := by rw [← hm.lt_iff_lt (a := 0) (b := cpm), h0]
  have e1 : 1 < log2p1 cpm ↔ 1 < cpm := by rw [← hm.lt_iff_lt (a := 1) (b := cpm), h1]
  have g2 : (geneStat (log2p1 cpm)).ge1 = (if Generated.ge1Cut < log2p1 cpm then 1 else 0) := by
    simp only [geneStat, above, Generated.ge1Strict, if_true, gt_iff_lt]
  refine ⟨?_, ?_, g2, fun h => ?_, fun ⟨h, hlt⟩ => ⟨?_, h1 ▸ hm hlt⟩, hcut,
    by decide +kernel, rfl, rfl, rfl, rfl, rfl⟩
  · simp only [geneStat, above, Generated.gt0Strict, Generated.gt0Cut, if_true, gt_iff_lt, e0]
  · simp only [geneStat, above, Generated.gt1Strict, Generated.gt1Cut, if_true, gt_iff_lt, e1]
  · rw [g2, if_pos (hcut.trans_le (h1 ▸ hm.monotone h))]
  · by_contra hn
    rw [g2, if_neg hn] at h
    exact absurd h (by decide)

example : (geneStat 0).gt0 = 0 ∧ (geneStat (1/2)).gt0 = 1 ∧ (geneStat 1).gt1 = 0 ∧
    (geneStat 1).ge1 = 1 ∧ (geneStat (999999/1000000)).ge1 = 1 ∧
    (geneStat (99999/100000)).ge1 = 0 := by
  decide +kernel

/-- "The values do not depend on how cells are spread over ... chunks": for
`rows_at_a_time ≥ 1` the chunks `(data_path, r0, r1)` of one file tile its
rows: their cells concatenate to the file's cells, in order, and every chunk is
a non-empty in-range slice `r0 < r1 ≤ n` of that file holding `r1 - r0`
cells. -/
theorem fileChunks_tile (rows f : Nat) (cells : List CellRec) (hrows : 1 ≤ rows) :
    (fileChunks rows f cells).flatMap (·.cells) = cells ∧
    ∀ c ∈ fileChunks rows f cells,
      c.r0 < c.r1 ∧ c.r1 ≤ cells.length ∧ c.cells.length = c.r1 - c.r0 ∧ c.file = f := by
  refine ⟨fileChunks_cells rows f cells hrows, fun c hc => ?_⟩
  have := fileChunks_mem rows f cells hrows c hc
  exact ⟨this.1, this.2.1, this.2.2.1, this.2.2.2.1⟩

example : (fileChunks 2 7 [⟨0, [1]⟩, ⟨1, [2]⟩, ⟨2, [3]⟩]).map (fun c => (c.file, c.r0, c.r1))
    = [(7, 0, 2), (7, 2, 3)] := by
  decide +kernel

/-- "work split into at most n_processors lists of (file, r0, r1)": for
`rows_at_a_time ≥ 1` and `n_processors ≥ 1` the assignment loop never fails;
in particular the worker index of `work_load[i_worker]` never reaches
`n_processors` (no IndexError), whatever the files and chunk size. -/
theorem worksplit_in_range (files : List (Nat × List CellRec)) (rows nProc : Nat)
    (hrows : 1 ≤ rows) (hproc : 1 ≤ nProc) :
    ∃ loads, workSplit files rows nProc = .ok loads :=
  workSplit_ok files rows nProc hrows hproc

example : (workSplit [(0, [⟨0, [1]⟩, ⟨1, [2]⟩, ⟨2, [3]⟩]), (1, [⟨3, [4]⟩])] 1 2).toOption.map
      (fun loads => loads.map List.length) = some [3, 1] := by
  decide +kernel

/-- "The values do not depend on how cells are spread over ... chunks or
workers": the work loads handed to the workers are a partition of all chunks
of all files: concatenated in worker order they are exactly the chunks
`(data_path, r0, r1)` of the files in loop order, each once; there are at most
`n_processors` loads and none is empty. -/
theorem worksplit_partition (files : List (Nat × List CellRec)) (rows nProc : Nat)
    (loads : List (List Chunk)) (h : workSplit files rows nProc = .ok loads) :
    loads.flatten = files.flatMap (fun f => fileChunks rows f.1 f.2) ∧
      loads.length ≤ nProc ∧ ∀ l ∈ loads, l ≠ [] :=
  workSplit_spec files rows nProc loads h

example : (workSplit [(0, [⟨0, [1]⟩, ⟨1, [2]⟩, ⟨2, [3]⟩]), (1, [⟨3, [4]⟩])] 1 3).toOption.map
      (fun loads => loads.map (fun l => l.map (fun c => (c.file, c.r0, c.r1))))
    = some [[(0, 0, 1), (0, 1, 2), (0, 2, 3)], [(1, 0, 1)]] := by
  decide +kernel

/-- "merging per-dataset files keeps, per cluster, the row of the dataset with
the most cells": for a non-empty list of per-dataset arrays with the same
`nC` rows, `merge_precompute_files` succeeds, and each output row `r` is,
whole, row `r` of one of the input files, and no input file has more cells in
row `r` than that one. -/
theorem merge_max (nC : Nat) (files : List Buffer) (hne : files ≠ [])
    (hlen : ∀ f ∈ files, f.length = nC) :
    ∃ out, mergeMax files = .ok out ∧ out.length = nC ∧
      ∀ r, r < nC → ∃ (k : Nat) (fk : Buffer) (row : Row), files[k]? = some fk ∧
        fk[r]? = some row ∧ out[r]? = some row ∧
        ∀ f' ∈ files, ∀ row', f'[r]? = some row' → row'.n ≤ row.n := by
  obtain ⟨k, start, out, hk, hout, hl, hrow⟩ := mergeMax_tie_rule nC files hne hlen
  -- the start file followed by the others is the list of files, reordered
  have hperm : (start :: files.eraseIdx k).Perm files := by
    have := List.getElem_cons_eraseIdx_perm hk.lt_length
    rwa [(List.getElem?_eq_some_iff.mp hk.1).2] at this
  refine ⟨out, hout, hl, fun r hr => ?_⟩
  obtain ⟨p, fp, row, hp, hfr, hor, hmax⟩ := hrow r hr
  obtain ⟨i, hi⟩ := List.getElem?_of_mem (hperm.subset (List.mem_of_getElem? hp))
  refine ⟨i, fp, row, hi, hfr, hor, fun f' hf' row' hrow' => ?_⟩
  obtain ⟨q, hq⟩ := List.getElem?_of_mem (hperm.symm.subset hf')
  exact (hmax q f' row' hq hrow').1

example : mergeMax [[⟨1, []⟩, ⟨5, []⟩, ⟨2, []⟩], [⟨3, []⟩, ⟨4, []⟩, ⟨2, [GStat.zero]⟩],
      [⟨0, []⟩, ⟨9, []⟩, ⟨0, []⟩]]
    = .ok [⟨3, []⟩, ⟨9, []⟩, ⟨2, [GStat.zero]⟩] := by
  decide +kernel

/-- "merging per-dataset files keeps, per cluster, the row of the dataset with
the most cells" - the exact tie rule of `merge_precompute_files`: the merge
starts from the FIRST file (sorted-path order) with the largest total number
of cells; the other files are then visited in order and replace a row only if
they hold STRICTLY more cells.  So with `seq` = the start file followed by the
other files in order, output row `r` is row `r` of the first file of `seq`
that attains the largest `n_cells[r]`. -/
theorem merge_tie_rule (nC : Nat) (files : List Buffer) (hne : files ≠ [])
    (hlen : ∀ f ∈ files, f.length = nC) :
    ∃ (k : Nat) (start out : Buffer), files[k]? = some start ∧
      (∀ f ∈ files, totalCells f ≤ totalCells start) ∧
      (∀ (i : Nat) (fi : Buffer), i < k → files[i]? = some fi →
        totalCells fi < totalCells start) ∧
      mergeMax files = .ok out ∧
      ∀ r : Nat, r < nC → ∃ (p : Nat) (fp : Buffer) (row : Row),
        (start :: files.eraseIdx k)[p]? = some fp ∧ fp[r]? = some row ∧ out[r]? = some row ∧
        ∀ (q : Nat) (fq : Buffer) (row' : Row), (start :: files.eraseIdx k)[q]? = some fq →
          fq[r]? = some row' → row'.n ≤ row.n ∧ (q < p → row'.n < row.n) := by
  obtain ⟨k, start, out, hk, hout, _, hrow⟩ := mergeMax_tie_rule nC files hne hlen
  exact ⟨k, start, out, hk.1, fun f hf => (hk.le_of_mem hf), fun i fi hi hfi => (hk.2 i fi hfi).2 hi,
    hout, hrow⟩

/- totals 8, 9, 9: the merge starts from the second file (first of the two with 9); in row 2
the start file's row wins the tie 2 = 2 against the first file; in row 1 the third file (9)
replaces the first file's 5, which had replaced the start's 4 -/
example : mergeMax [[⟨1, []⟩, ⟨5, []⟩, ⟨2, []⟩], [⟨3, []⟩, ⟨4, []⟩, ⟨2, [GStat.zero]⟩],
      [⟨0, []⟩, ⟨9, []⟩, ⟨0, []⟩]]
    = .ok [⟨3, []⟩, ⟨9, []⟩, ⟨2, [GStat.zero]⟩] ∧
    mostIdx [[⟨3, []⟩, ⟨4, []⟩, ⟨2, [GStat.zero]⟩], [⟨0, []⟩, ⟨9, []⟩, ⟨0, []⟩]] 1 0 8 = 1 := by
  decide +kernel

/-- "For each leaf cluster and gene the reference-statistics file holds the
number of member cells, the sum and sum of squares ..., and the numbers of
member cells with CPM above 0, above 1, and at least 1 ...; cells not named by
the taxonomy contribute nothing.  The values do not depend on how cells are
spread over files, ... chunks or workers."  For every chunk size
`rows ≥ 1`, every worker count `nProc ≥ 1`, every list of files, and every
name → row table with rows inside the output (at least one file holding a
named cell, as the source requires): the writer succeeds and row `c` of the
written arrays is the zero row plus the sum of `cellStat` over exactly the
cells of all files whose name the table sends to `c`.  Cells the table does
not name (`rowOf = none`) appear in no row. -/
theorem direct (nClusters g : Nat) (nameToRow : List (Nat × Nat))
    (files : List (Nat × List CellRec)) (rows nProc : Nat)
    (hrows : 1 ≤ rows) (hproc : 1 ≤ nProc) (hntr : ∀ p ∈ nameToRow, p.2 < nClusters)
    (hw : ∃ f ∈ files, wanted nameToRow f.2 = true) :
    ∃ buf, precompute nClusters g nameToRow files rows nProc = .ok buf ∧
      buf.length = nClusters ∧
      ∀ c : Nat, c < nClusters → buf[c]? = some ((Row.zero g).add (rowSum
        (((files.flatMap (·.2)).filter (fun cell => rowOf nameToRow cell == some c)).map
          (fun cell => cellStat cell.vals)))) :=
  ⟨_, precompute_eq_direct nClusters g nameToRow files rows nProc hrows hproc hntr hw,
    directBuf_length .., fun _ hc => directBuf_getElem? g nameToRow _ hc⟩

example : precompute 2 1 [(10, 0), (11, 1), (12, 0)]
      [(0, [⟨10, [1]⟩, ⟨99, [7]⟩]), (1, [⟨98, [5]⟩]), (2, [⟨11, [2]⟩, ⟨12, [3]⟩])] 1 2
    = .ok [⟨2, [⟨4, 10, 2, 1, 2⟩]⟩, ⟨1, [⟨2, 4, 1, 1, 1⟩]⟩] := by
  decide +kernel

/-- The side condition of `direct` ("at least one file holds a named cell") is
needed: when no file holds a cell named by the table, no worker buffer is ever
created and the source fails (`final_output` stays `None`) instead of writing
an all-zero file. -/
theorem direct_needs_wanted (nClusters g : Nat) (nameToRow : List (Nat × Nat))
    (files : List (Nat × List CellRec)) (rows nProc : Nat) (hproc : 1 ≤ nProc)
    (hw : ∀ f ∈ files, wanted nameToRow f.2 = false) :
    precompute nClusters g nameToRow files rows nProc = .error .noBuffers :=
  precompute_no_wanted nClusters g nameToRow files rows nProc hproc hw

example : precompute 2 1 [(10, 0), (11, 1)] [(0, [⟨98, [1]⟩, ⟨99, [7]⟩])] 1 2
    = .error .noBuffers := by
  decide +kernel

/-- "The values do not depend on how cells are spread over files, encodings,
chunks or workers; cells not named by the taxonomy contribute nothing": two
runs with the same name → row table whose files hold, up to order, the same
named cells (the unnamed cells, the split into files, the chunk sizes and the
worker counts may all differ) write identical arrays. -/
theorem partition_indep (nClusters g : Nat) (nameToRow : List (Nat × Nat))
    (files₁ files₂ : List (Nat × List CellRec)) (rows₁ nProc₁ rows₂ nProc₂ : Nat)
    (hrows₁ : 1 ≤ rows₁) (hproc₁ : 1 ≤ nProc₁) (hrows₂ : 1 ≤ rows₂) (hproc₂ : 1 ≤ nProc₂)
    (hntr : ∀ p ∈ nameToRow, p.2 < nClusters)
    (hw₁ : ∃ f ∈ files₁, wanted nameToRow f.2 = true)
    (hw₂ : ∃ f ∈ files₂, wanted nameToRow f.2 = true)
    (hperm : ((files₁.flatMap (·.2)).filter (fun cell => (rowOf nameToRow cell).isSome)).Perm
      ((files₂.flatMap (·.2)).filter (fun cell => (rowOf nameToRow cell).isSome))) :
    precompute nClusters g nameToRow files₁ rows₁ nProc₁
      = precompute nClusters g nameToRow files₂ rows₂ nProc₂ := by
  rw [precompute_eq_direct nClusters g nameToRow files₁ rows₁ nProc₁ hrows₁ hproc₁ hntr hw₁,
    precompute_eq_direct nClusters g nameToRow files₂ rows₂ nProc₂ hrows₂ hproc₂ hntr hw₂,
    directBuf_congr nClusters g fun c _ => S_perm_of_named nameToRow c _ _ hperm]

example : precompute 2 1 [(10, 0), (11, 1), (12, 0)]
      [(0, [⟨10, [1]⟩, ⟨99, [7]⟩]), (1, [⟨98, [5]⟩]), (2, [⟨11, [2]⟩, ⟨12, [3]⟩])] 1 2
    = precompute 2 1 [(10, 0), (11, 1), (12, 0)]
      [(5, [⟨12, [3]⟩, ⟨11, [2]⟩, ⟨10, [1]⟩])] 2 3 := by
  decide +kernel

/-- The writer is "deal the chunks to the workers with `workSplit`, then run
the workers and add up their buffers" (`precomputeLoads` on that assignment). -/
theorem precompute_is_loads (nClusters g : Nat) (nameToRow : List (Nat × Nat))
    (files : List (Nat × List CellRec)) (rows nProc : Nat) :
    precompute nClusters g nameToRow files rows nProc
      = (match workSplit (files.filter (fun f => wanted nameToRow f.2)) rows nProc with
          | .error e => .error e
          | .ok loads => precomputeLoads nClusters g nameToRow loads) :=
  precompute_eq_loads nClusters g nameToRow files rows nProc

example : precompute 2 1 [(10, 0), (11, 1), (12, 0)]
      [(0, [⟨10, [1]⟩, ⟨99, [7]⟩]), (2, [⟨11, [2]⟩, ⟨12, [3]⟩])] 1 2
    = precomputeLoads 2 1 [(10, 0), (11, 1), (12, 0)]
      [[⟨0, 0, 1, [⟨10, [1]⟩]⟩, ⟨0, 1, 2, [⟨99, [7]⟩]⟩, ⟨2, 0, 1, [⟨11, [2]⟩]⟩],
       [⟨2, 1, 2, [⟨12, [3]⟩]⟩]] := by
  decide +kernel

/-- "The values (counts exactly, sums to rounding) do not depend on how cells
are spread over files, encodings, chunks or workers": ANY assignment `loads`
of the chunks to workers that deals every chunk `(data_path, r0, r1)` of the
wanted files out exactly once - in any order, to any number of workers, empty
work loads allowed (`loads.flatten` is a permutation of `allChunks`) - gives
the arrays of `direct`: row `c` is the zero row plus the sum of `cellStat`
over exactly the cells of all files named for `c`.  (Contiguous blocks, as
`workSplit` deals them, or round-robin, or anything else.) -/
theorem split_independent (nClusters g : Nat) (nameToRow : List (Nat × Nat))
    (files : List (Nat × List CellRec)) (rows : Nat) (loads : List (List Chunk))
    (hrows : 1 ≤ rows) (hntr : ∀ p ∈ nameToRow, p.2 < nClusters) (hne : loads ≠ [])
    (hperm : loads.flatten.Perm (allChunks nameToRow files rows)) :
    ∃ buf, precomputeLoads nClusters g nameToRow loads = .ok buf ∧
      buf.length = nClusters ∧
      ∀ c : Nat, c < nClusters → buf[c]? = some ((Row.zero g).add (rowSum
        (((files.flatMap (·.2)).filter (fun cell => rowOf nameToRow cell == some c)).map
          (fun cell => cellStat cell.vals)))) :=
  ⟨_, precomputeLoads_perm nClusters g nameToRow files rows loads hrows hntr hne hperm,
    directBuf_length .., fun _ hc => directBuf_getElem? g nameToRow _ hc⟩

/- five chunks of one row dealt round-robin to two workers (chunks 0, 2, 4 and 1, 3), with an
idle third worker: the hypothesis holds and the result is the direct one -/
example :
    let ntr := [(10, 0), (11, 1), (12, 0), (13, 1)]
    let files : List (Nat × List CellRec) :=
      [(0, [⟨10, [1]⟩, ⟨99, [7]⟩, ⟨11, [2]⟩]), (1, [⟨98, [5]⟩]), (2, [⟨12, [3]⟩, ⟨13, [4]⟩])]
    let chunks := allChunks ntr files 1
    let loads := [(chunks.zipIdx.filter (fun p => p.2 % 2 == 0)).map (·.1), [],
      (chunks.zipIdx.filter (fun p => p.2 % 2 == 1)).map (·.1)]
    loads.map (fun l => l.map (fun c => (c.file, c.r0))) = [[(0, 0), (0, 2), (2, 1)], [], [(0, 1), (2, 0)]] ∧
    loads.flatten.Perm chunks ∧
    precomputeLoads 2 1 ntr loads = .ok [⟨2, [⟨4, 10, 2, 1, 2⟩]⟩, ⟨2, [⟨6, 20, 2, 2, 2⟩]⟩] := by
  decide +kernel

/-- "... do not depend on how cells are spread over ... chunks or workers":
under the hypotheses of `direct`, any such assignment writes exactly what the
writer with its own (contiguous) assignment writes. -/
theorem split_independent_eq (nClusters g : Nat) (nameToRow : List (Nat × Nat))
    (files : List (Nat × List CellRec)) (rows nProc : Nat) (loads : List (List Chunk))
    (hrows : 1 ≤ rows) (hproc : 1 ≤ nProc) (hntr : ∀ p ∈ nameToRow, p.2 < nClusters)
    (hw : ∃ f ∈ files, wanted nameToRow f.2 = true) (hne : loads ≠ [])
    (hperm : loads.flatten.Perm (allChunks nameToRow files rows)) :
    precomputeLoads nClusters g nameToRow loads
      = precompute nClusters g nameToRow files rows nProc := by
  rw [precomputeLoads_perm nClusters g nameToRow files rows loads hrows hntr hne hperm,
    precompute_eq_direct nClusters g nameToRow files rows nProc hrows hproc hntr hw]

example :
    let ntr := [(10, 0), (11, 1), (12, 0), (13, 1)]
    let files : List (Nat × List CellRec) :=
      [(0, [⟨10, [1]⟩, ⟨99, [7]⟩, ⟨11, [2]⟩]), (1, [⟨98, [5]⟩]), (2, [⟨12, [3]⟩, ⟨13, [4]⟩])]
    let chunks := allChunks ntr files 1
    let loads := [(chunks.zipIdx.filter (fun p => p.2 % 2 == 0)).map (·.1),
      (chunks.zipIdx.filter (fun p => p.2 % 2 == 1)).map (·.1)]
    precomputeLoads 2 1 ntr loads = precompute 2 1 ntr files 1 2 := by
  decide +kernel

/-- "the reference-statistics file holds the number of member cells": under
the hypotheses of `direct`, `n_cells[c]` is the number of cells, over all
files, whose name the table sends to row `c` (the first field of
`direct_fields`, without its hypothesis on the number of gene values). -/
theorem cell_count (nClusters g : Nat) (nameToRow : List (Nat × Nat))
    (files : List (Nat × List CellRec)) (rows nProc : Nat)
    (hrows : 1 ≤ rows) (hproc : 1 ≤ nProc) (hntr : ∀ p ∈ nameToRow, p.2 < nClusters)
    (hw : ∃ f ∈ files, wanted nameToRow f.2 = true) :
    ∃ buf, precompute nClusters g nameToRow files rows nProc = .ok buf ∧
      ∀ c : Nat, c < nClusters → ∃ row, buf[c]? = some row ∧
        row.n = ((files.flatMap (·.2)).filter
          (fun cell => rowOf nameToRow cell == some c)).length := by
  obtain ⟨buf, e, _, r⟩ := direct nClusters g nameToRow files rows nProc hrows hproc hntr hw
  refine ⟨buf, e, fun c hc => ⟨_, r c hc, ?_⟩⟩
  simp only [Row.add, Row.zero, rowSum_cellStat_n, Nat.zero_add]

example : (precompute 2 1 [(10, 0), (11, 1), (12, 0)]
      [(0, [⟨10, [1]⟩, ⟨99, [7]⟩]), (1, [⟨98, [5]⟩]), (2, [⟨11, [2]⟩, ⟨12, [3]⟩])] 1 2).toOption.map
      (fun buf => buf.map (·.n)) = some [2, 1] := by
  decide +kernel

/-- "For each leaf cluster and gene the reference-statistics file holds the
number of member cells, the sum and sum of squares of log2(CPM+1), and the
numbers of member cells with CPM above 0, above 1, and at least 1" - `direct`
spelled out field by field: if every cell has `g` gene values then, for every
output row `c` and gene `j`, with `members` = the cells of all files that the
table names for `c`: `n_cells[c]` is their number and `sum[c, j]`,
`sumsq[c, j]`, `gt0[c, j]`, `gt1[c, j]`, `ge1[c, j]` are the plain sums over
`members` of the value, its square and the three threshold indicators
(`thresholds` says what the indicators mean in CPM). -/
theorem direct_fields (nClusters g : Nat) (nameToRow : List (Nat × Nat))
    (files : List (Nat × List CellRec)) (rows nProc : Nat)
    (hrows : 1 ≤ rows) (hproc : 1 ≤ nProc) (hntr : ∀ p ∈ nameToRow, p.2 < nClusters)
    (hw : ∃ f ∈ files, wanted nameToRow f.2 = true)
    (hg : ∀ f ∈ files, ∀ cell ∈ f.2, cell.vals.length = g) :
    ∃ buf, precompute nClusters g nameToRow files rows nProc = .ok buf ∧
      ∀ (c j : Nat), c < nClusters → j < g → ∃ (row : Row) (s : GStat),
        buf[c]? = some row ∧ row.genes[j]? = some s ∧
        row.n = (cellsOfRow nameToRow c (files.flatMap (·.2))).length ∧
        s.sum = ((cellsOfRow nameToRow c (files.flatMap (·.2))).map
          (fun cell => cell.vals.getD j 0)).sum ∧
        s.sumsq = ((cellsOfRow nameToRow c (files.flatMap (·.2))).map
          (fun cell => cell.vals.getD j 0 * cell.vals.getD j 0)).sum ∧
        s.gt0 = ((cellsOfRow nameToRow c (files.flatMap (·.2))).map
          (fun cell => (geneStat (cell.vals.getD j 0)).gt0)).sum ∧
        s.gt1 = ((cellsOfRow nameToRow c (files.flatMap (·.2))).map
          (fun cell => (geneStat (cell.vals.getD j 0)).gt1)).sum ∧
        s.ge1 = ((cellsOfRow nameToRow c (files.flatMap (·.2))).map
          (fun cell => (geneStat (cell.vals.getD j 0)).ge1)).sum := by
  refine ⟨_, precompute_eq_direct nClusters g nameToRow files rows nProc hrows hproc hntr hw,
    fun c j hc hj => ?_⟩
  obtain ⟨s, hs, hf⟩ := zero_add_rowSum_cellStat_genes g
    (cellsOfRow nameToRow c (files.flatMap (·.2)))
    (fun cell hcell => by
      obtain ⟨f, hf, hcf⟩ := List.mem_flatMap.mp (List.mem_filter.mp hcell).1
      exact hg f hf cell hcf) j hj
  exact ⟨_, s, directBuf_getElem? g nameToRow _ hc, hs,
    by simp [Row.add, Row.zero, S, rowSum_cellStat_n], hf⟩

example : (precompute 2 2 [(10, 0), (11, 1), (12, 0)]
      [(0, [⟨10, [1, 0]⟩, ⟨99, [7, 7]⟩]), (2, [⟨11, [2, 1/2]⟩, ⟨12, [3, 1]⟩])] 1 2).toOption.map
      (fun buf => buf.map (fun row => row.genes.map (fun s => (s.sum, s.gt0, s.gt1, s.ge1))))
    = some [[(4, 2, 1, 2), (1, 1, 0, 1)], [(2, 1, 1, 1), (1/2, 1, 0, 0)]] := by
  decide +kernel

/-- "Collapsing the file to a coarser hierarchy ..." (`_convert_to_new_leaves`):
`anc` sends every old leaf to its ancestor at the new leaf level.  If every old
leaf has a row (through the file's `cluster_to_row`) inside the old arrays and
every ancestor is one of the new leaves, the collapse succeeds, has one row per
new leaf, and the row of new leaf `L` (at its position `i` in
`new_tree.all_leaves`) is: the zero row if no old leaf lies under `L`,
otherwise the sum of the old rows of the old leaves under `L`, taken in
ascending row order (`Stats.newRow` of `Lemmas/StatsFiles.lean`, written out). -/
theorem truncate_rows (g : Nat) (data : Buffer) (oldLeafToRow : List (Nat × Nat))
    (newLeaves : List Nat) (anc : List (Nat × Nat))
    (hlook : ∀ p ∈ anc, ∃ r, oldLeafToRow.lookup p.1 = some r ∧ r < data.length)
    (hanc : ∀ p ∈ anc, p.2 ∈ newLeaves) :
    ∃ out, truncate g data oldLeafToRow newLeaves anc = .ok out ∧
      out.length = newLeaves.length ∧
      ∀ (L i : Nat), indexIn newLeaves L = some i →
        out[i]? = some (if anc.filter (fun p => p.2 == L) = [] then Row.zero g
          else rowSum (((((anc.filter (fun p => p.2 == L)).map (·.1)).filterMap
            (fun k => oldLeafToRow.lookup k)).mergeSort).filterMap (fun r => data[r]?))) :=
  truncate_spec g data oldLeafToRow newLeaves anc hlook hanc

/- a concrete instance of the hypotheses: four old leaves (rows 2, 0, 3, 1) under the new
leaves 30, 31, 30, 30; new leaf 32 has no old leaf -/
example : ∃ out, truncate 0 [⟨1, []⟩, ⟨2, []⟩, ⟨4, []⟩, ⟨8, []⟩]
      [(20, 2), (21, 0), (22, 3), (23, 1)] [31, 30, 32]
      [(20, 30), (21, 31), (22, 30), (23, 30)] = .ok out ∧ out.length = 3 ∧
      out[2]? = some (Row.zero 0) := by
  obtain ⟨out, h1, h2, h3⟩ := truncate_rows 0 [⟨1, []⟩, ⟨2, []⟩, ⟨4, []⟩, ⟨8, []⟩]
    [(20, 2), (21, 0), (22, 3), (23, 1)] [31, 30, 32]
    [(20, 30), (21, 31), (22, 30), (23, 30)] (by decide) (by decide)
  exact ⟨out, h1, h2, h3 32 2 rfl⟩

/-- "Collapsing the file to a coarser hierarchy gives the statistics of that
hierarchy": if moreover the old row of every old leaf `ℓ` is the zero row plus
the accumulated statistics of some list `S ℓ` (of cells' contributions), then
the row of every new leaf `L` is the zero row plus the accumulated statistics
of the concatenation of the `S ℓ` over the old leaves `ℓ` under `L`, i.e. what
direct computation with the coarser labelling gives (`rowSum` does not depend
on the order, `stat_perm`). -/
theorem truncate_direct (g : Nat) (data : Buffer) (oldLeafToRow : List (Nat × Nat))
    (newLeaves : List Nat) (anc : List (Nat × Nat)) (S : Nat → List Row)
    (hlook : ∀ p ∈ anc, ∃ r, oldLeafToRow.lookup p.1 = some r ∧ r < data.length ∧
      data[r]? = some ((Row.zero g).add (rowSum (S p.1))))
    (hanc : ∀ p ∈ anc, p.2 ∈ newLeaves) :
    ∃ out, truncate g data oldLeafToRow newLeaves anc = .ok out ∧
      out.length = newLeaves.length ∧
      ∀ (L i : Nat), indexIn newLeaves L = some i →
        out[i]? = some ((Row.zero g).add (rowSum
          (((anc.filter (fun p => p.2 == L)).map (fun p => S p.1)).flatten))) :=
  truncate_direct_spec g data oldLeafToRow newLeaves anc S hlook hanc

/- a concrete instance: two old leaves with one and two cells under one new leaf -/
example : ∃ out, truncate 1 [(Row.zero 1).add (rowSum [cellStat [1]]),
        (Row.zero 1).add (rowSum [cellStat [2], cellStat [3]])] [(20, 1), (21, 0)]
      [30] [(20, 30), (21, 30)] = .ok out ∧
      out[0]? = some ((Row.zero 1).add (rowSum [cellStat [2], cellStat [3], cellStat [1]])) := by
  obtain ⟨out, h1, _, h3⟩ := truncate_direct 1 [(Row.zero 1).add (rowSum [cellStat [1]]),
        (Row.zero 1).add (rowSum [cellStat [2], cellStat [3]])] [(20, 1), (21, 0)]
      [30] [(20, 30), (21, 30)]
      (fun l => if l = 20 then [cellStat [2], cellStat [3]] else [cellStat [1]])
    (by decide +kernel) (by decide)
  exact ⟨out, h1, h3 30 0 rfl⟩

/-- "Collapsing the file to a coarser hierarchy gives the statistics of that
hierarchy" end to end: write the file for the fine labelling `nameToRow`
(rows of the old leaves through `oldLeafToRow`), then collapse it along `anc`
(old leaf ↦ ancestor at the new leaf level).  The result is identical to the
file written directly - with any chunk size and worker count - for the coarser
labelling `nameToRow'`, where a cell is sent to new row `i` exactly when the
fine labelling sends it to the row of an old leaf whose ancestor is the new
leaf at position `i` (`hnew`).  Side conditions: the old leaves are listed
once and have distinct rows inside the file, the new leaves are distinct and
contain every ancestor, and (as for any run) each table has its rows inside the
output and names at least one cell of some file. -/
theorem truncate_coarser (nClusters g : Nat) (nameToRow nameToRow' : List (Nat × Nat))
    (files : List (Nat × List CellRec)) (rows nProc rows' nProc' : Nat)
    (oldLeafToRow : List (Nat × Nat)) (newLeaves : List Nat) (anc : List (Nat × Nat))
    (hrows : 1 ≤ rows) (hproc : 1 ≤ nProc) (hrows' : 1 ≤ rows') (hproc' : 1 ≤ nProc')
    (hntr : ∀ p ∈ nameToRow, p.2 < nClusters)
    (hw : ∃ f ∈ files, wanted nameToRow f.2 = true)
    (hntr' : ∀ p ∈ nameToRow', p.2 < newLeaves.length)
    (hw' : ∃ f ∈ files, wanted nameToRow' f.2 = true)
    (hnd : newLeaves.Nodup) (hkeys : (anc.map (·.1)).Nodup)
    (hlook : ∀ p ∈ anc, ∃ r, oldLeafToRow.lookup p.1 = some r ∧ r < nClusters)
    (hinj : ∀ p ∈ anc, ∀ q ∈ anc,
      oldLeafToRow.lookup p.1 = oldLeafToRow.lookup q.1 → p.1 = q.1)
    (hanc : ∀ p ∈ anc, p.2 ∈ newLeaves)
    (hnew : ∀ (cell : CellRec) (i : Nat), rowOf nameToRow' cell = some i ↔
      ∃ p ∈ anc, ∃ r, oldLeafToRow.lookup p.1 = some r ∧ rowOf nameToRow cell = some r ∧
        indexIn newLeaves p.2 = some i) :
    ∃ buf, precompute nClusters g nameToRow files rows nProc = .ok buf ∧
      truncate g buf oldLeafToRow newLeaves anc
        = precompute newLeaves.length g nameToRow' files rows' nProc' :=
  ⟨_, precompute_eq_direct nClusters g nameToRow files rows nProc hrows hproc hntr hw, by
    rw [precompute_eq_direct _ g nameToRow' files rows' nProc' hrows' hproc' hntr' hw',
      truncate_directBuf nClusters g nameToRow nameToRow' _ oldLeafToRow newLeaves anc hnd hkeys
        hlook hinj hanc hnew]⟩

/- a concrete instance of the hypotheses: cells 10, 12 in old leaf 20 (row 1), cell 11 in old
leaf 21 (row 0), cell 99 unnamed; both old leaves under the single new leaf 30 -/
example : ∃ buf, precompute 2 1 [(10, 1), (11, 0), (12, 1)]
      [(0, [⟨10, [1]⟩, ⟨99, [7]⟩]), (1, [⟨11, [2]⟩, ⟨12, [3]⟩])] 1 2 = .ok buf ∧
    truncate 1 buf [(20, 1), (21, 0)] [30] [(20, 30), (21, 30)]
      = precompute 1 1 [(10, 0), (11, 0), (12, 0)]
          [(0, [⟨10, [1]⟩, ⟨99, [7]⟩]), (1, [⟨11, [2]⟩, ⟨12, [3]⟩])] 5 1 := by
  apply truncate_coarser <;> try decide
  intro cell i
  -- the coarse table is the fine one with every row set to 0
  have e : rowOf [(10, 0), (11, 0), (12, 0)] cell
      = (rowOf [(10, 1), (11, 0), (12, 1)] cell).map (fun _ => 0) :=
    ListAux.lookup_map_snd (fun _ => 0) cell.name [(10, 1), (11, 0), (12, 1)]
  rw [e]
  constructor
  · intro hi
    obtain ⟨r, h, rfl⟩ := Option.map_eq_some_iff.mp hi
    have hr := ListAux.mem_of_lookup h
    simp only [List.mem_cons, Prod.mk.injEq, List.not_mem_nil, or_false] at hr
    rcases hr with ⟨_, rfl⟩ | ⟨_, rfl⟩ | ⟨_, rfl⟩
    exacts [⟨(20, 30), by decide, 1, rfl, h, rfl⟩, ⟨(21, 30), by decide, 0, rfl, h, rfl⟩,
      ⟨(20, 30), by decide, 1, rfl, h, rfl⟩]
  · rintro ⟨p, hp, r, -, h, hi⟩
    rw [h]
    simp only [List.mem_cons, List.not_mem_nil, or_false] at hp
    rcases hp with rfl | rfl <;> exact hi

/-- Front end `precompute_summary_stats_from_h5ad_list_and_tree`
(`leaf_to_cells` ↦ `cell_name_to_output_row`): building the table never fails
and every output row it hands out lies inside the output arrays, whose number
of rows `n_clusters` is the number of distinct clusters.  This discharges the
hypothesis "rows inside the output" of `direct` for the real front end. -/
theorem name_table_ok (l2c : List (Nat × List Nat)) :
    ∃ tbl, nameToRowOfTree l2c = .ok tbl ∧
      ∀ p ∈ tbl, p.2 < (uniqueSorted (l2c.map (·.1))).length := by
  obtain ⟨tbl, h1, h2, _⟩ := nameToRowOfTree_spec l2c
  exact ⟨tbl, h1, h2⟩

example : nameToRowOfTree [(5, [10, 12]), (3, [11]), (5, [13])]
    = .ok [(10, 1), (12, 1), (11, 0), (13, 1)] := by
  decide +kernel

/-- "addressed through its own cluster-to-row ... tables; cells not named by
the taxonomy contribute nothing": when the cell lists of the leaves are
pairwise disjoint (what `validate_taxonomy_tree` guarantees), every cell of
leaf `leaf` is sent to the rank of `leaf` in the sorted list of distinct
clusters (the file's `cluster_to_row`), and a cell in no list is not in the
table at all (so `rowOf = none`: it contributes to no row). -/
theorem name_table_lookup (l2c : List (Nat × List Nat))
    (hdisj : l2c.Pairwise (fun a b => ∀ c ∈ a.2, c ∉ b.2)) :
    ∃ tbl, nameToRowOfTree l2c = .ok tbl ∧
      (∀ q ∈ l2c, ∀ c ∈ q.2, ∃ r, tbl.lookup c = some r ∧
        indexIn (uniqueSorted (l2c.map (·.1))) q.1 = some r ∧
        r < (uniqueSorted (l2c.map (·.1))).length) ∧
      (∀ c, (∀ q ∈ l2c, c ∉ q.2) → tbl.lookup c = none) := by
  obtain ⟨tbl, h1, _, h3, h4⟩ := nameToRowOfTree_spec l2c
  refine ⟨tbl, h1, fun q hq c hc => ?_, h3⟩
  have hmem : q.1 ∈ uniqueSorted (l2c.map (·.1)) := by
    rw [mem_uniqueSorted]; exact List.mem_map_of_mem hq
  obtain ⟨r, hr⟩ := indexIn_of_mem _ _ hmem
  exact ⟨r, by rw [h4 hdisj q hq c hc, hr], hr, indexIn_lt _ _ _ hr⟩

example : (nameToRowOfTree [(5, [10, 12]), (3, [11])]).toOption.map
      (fun tbl => (tbl.lookup 12, tbl.lookup 11, tbl.lookup 99))
    = some (some 1, some 0, none) := by
  decide +kernel

/-- "addressed through its own cluster-to-row ... tables" and additivity on the
reading side (`read_precomputed_stats` / `aggregate_stats`): if every leaf of
the population has a row of the file (through `cluster_to_row`), aggregation
succeeds; `n` is the sum of `n_cells` over the addressed rows, and for every
gene `j` (rows of `g` genes) mean and variance are `meanOf` / `varOf` of the
summed `n`, `sum`, `sumsq`, and the three counts are the sums of the rows'
counts: leaves combine additively.  (`mean_var` says that `meanOf`/`varOf` of
`(n, Σx, Σx²)` are the mean and the sample variance.) -/
theorem aggregate_spec (g : Nat) (data : Buffer) (clusterToRow : List (Nat × Nat))
    (leaves : List Nat)
    (hlook : ∀ l ∈ leaves, ∃ i, clusterToRow.lookup l = some i ∧ i < data.length) :
    ∃ a, aggregateStats g data clusterToRow leaves = .ok a ∧
      (addressedRows data clusterToRow leaves).length = leaves.length ∧
      a.n = ((addressedRows data clusterToRow leaves).map (·.n)).sum ∧
      ((∀ r ∈ addressedRows data clusterToRow leaves, r.genes.length = g) →
        ∀ j : Nat, j < g →
        a.mean[j]? = some (meanOf a.n ((addressedRows data clusterToRow leaves).map
          (fun r => (r.genes.getD j GStat.zero).sum)).sum) ∧
        a.var[j]? = some (varOf a.n
          ((addressedRows data clusterToRow leaves).map
            (fun r => (r.genes.getD j GStat.zero).sum)).sum
          ((addressedRows data clusterToRow leaves).map
            (fun r => (r.genes.getD j GStat.zero).sumsq)).sum) ∧
        a.gt0[j]? = some ((addressedRows data clusterToRow leaves).map
          (fun r => (r.genes.getD j GStat.zero).gt0)).sum ∧
        a.gt1[j]? = some ((addressedRows data clusterToRow leaves).map
          (fun r => (r.genes.getD j GStat.zero).gt1)).sum ∧
        a.ge1[j]? = some ((addressedRows data clusterToRow leaves).map
          (fun r => (r.genes.getD j GStat.zero).ge1)).sum) := by
  refine ⟨_, aggregateStats_eq g data clusterToRow leaves hlook,
    (mapMExcept_readRow_eq_addressedRows data clusterToRow leaves hlook).2,
    by simp [aggOf, Row.add, Row.zero, rowSum_n], fun hlen j hj => ?_⟩
  obtain ⟨f1, f2, f3, f4, f5⟩ := rowsColumn_fields (addressedRows data clusterToRow leaves) j
  rw [← f1, ← f2, ← f3, ← f4, ← f5]
  exact aggOf_getElem? _ j _ (zero_add_rowSum_genes g _ hlen j hj)

example : aggregateStats 1 [⟨2, [⟨4, 10, 2, 1, 2⟩]⟩, ⟨5, [⟨9, 9, 9, 9, 9⟩]⟩, ⟨1, [⟨2, 4, 1, 1, 1⟩]⟩]
      [(30, 0), (31, 2), (32, 1)] [31, 30]
    = .ok ⟨3, [2], [1], [3], [2], [3]⟩ := by
  decide +kernel

/-- Writing side and reading side together: aggregate a population of leaves
over a file written by `precompute` (every cell with `g` gene values, every
leaf with a row of the file).  With `members` = all cells the name table sends
to the rows of those leaves, leaf after leaf: `n` is their number, and for
every gene `j` the mean, variance and the three counts are those computed
from the plain sums over `members` of the value, its square and the threshold
indicators. -/
theorem aggregate_direct (nClusters g : Nat) (nameToRow : List (Nat × Nat))
    (files : List (Nat × List CellRec)) (rows nProc : Nat)
    (hrows : 1 ≤ rows) (hproc : 1 ≤ nProc) (hntr : ∀ p ∈ nameToRow, p.2 < nClusters)
    (hw : ∃ f ∈ files, wanted nameToRow f.2 = true)
    (hg : ∀ f ∈ files, ∀ cell ∈ f.2, cell.vals.length = g)
    (clusterToRow : List (Nat × Nat)) (leaves : List Nat)
    (hlook : ∀ l ∈ leaves, ∃ i, clusterToRow.lookup l = some i ∧ i < nClusters) :
    ∃ buf a, precompute nClusters g nameToRow files rows nProc = .ok buf ∧
      aggregateStats g buf clusterToRow leaves = .ok a ∧
      a.n = (leaves.flatMap (fun l =>
        cellsOfRow nameToRow ((clusterToRow.lookup l).getD 0) (files.flatMap (·.2)))).length ∧
      ∀ j : Nat, j < g →
        a.mean[j]? = some (meanOf a.n ((leaves.flatMap (fun l =>
          cellsOfRow nameToRow ((clusterToRow.lookup l).getD 0) (files.flatMap (·.2)))).map
            (fun cell => cell.vals.getD j 0)).sum) ∧
        a.var[j]? = some (varOf a.n
          ((leaves.flatMap (fun l =>
            cellsOfRow nameToRow ((clusterToRow.lookup l).getD 0) (files.flatMap (·.2)))).map
              (fun cell => cell.vals.getD j 0)).sum
          ((leaves.flatMap (fun l =>
            cellsOfRow nameToRow ((clusterToRow.lookup l).getD 0) (files.flatMap (·.2)))).map
              (fun cell => cell.vals.getD j 0 * cell.vals.getD j 0)).sum) ∧
        a.gt0[j]? = some ((leaves.flatMap (fun l =>
          cellsOfRow nameToRow ((clusterToRow.lookup l).getD 0) (files.flatMap (·.2)))).map
            (fun cell => (geneStat (cell.vals.getD j 0)).gt0)).sum ∧
        a.gt1[j]? = some ((leaves.flatMap (fun l =>
          cellsOfRow nameToRow ((clusterToRow.lookup l).getD 0) (files.flatMap (·.2)))).map
            (fun cell => (geneStat (cell.vals.getD j 0)).gt1)).sum ∧
        a.ge1[j]? = some ((leaves.flatMap (fun l =>
          cellsOfRow nameToRow ((clusterToRow.lookup l).getD 0) (files.flatMap (·.2)))).map
            (fun cell => (geneStat (cell.vals.getD j 0)).ge1)).sum := by
  refine ⟨_, _, precompute_eq_direct nClusters g nameToRow files rows nProc hrows hproc hntr hw,
    aggregateStats_directBuf nClusters g nameToRow _ clusterToRow leaves hlook,
    by simp [aggOf, Row.add, Row.zero, rowSum_cellStat_n], fun j hj => ?_⟩
  obtain ⟨s, hs, f1, f2, f3, f4, f5⟩ := zero_add_rowSum_cellStat_genes g
    (leaves.flatMap (fun l =>
      cellsOfRow nameToRow ((clusterToRow.lookup l).getD 0) (files.flatMap (·.2))))
    (fun cell hcell => by
      obtain ⟨l, _, hcl⟩ := List.mem_flatMap.mp hcell
      obtain ⟨f, hf, hcf⟩ := List.mem_flatMap.mp (List.mem_filter.mp hcl).1
      exact hg f hf cell hcf) j hj
  rw [← f1, ← f2, ← f3, ← f4, ← f5]
  exact aggOf_getElem? _ j s hs

example : (match precompute 2 1 [(10, 0), (11, 1), (12, 0)]
      [(0, [⟨10, [1]⟩, ⟨99, [7]⟩]), (2, [⟨11, [2]⟩, ⟨12, [6]⟩])] 1 2 with
    | .ok buf => aggregateStats 1 buf [(30, 0), (31, 1)] [31, 30]
    | .error e => .error e)
    = .ok ⟨3, [3], [7], [3], [2], [3]⟩ := by
  decide +kernel

/-- `aggregate_direct` with `mean_var`: the mean the reader reports for gene
`j` IS the arithmetic mean of the values `xs` of the member cells
(`mean * n = Σ xs`, `n ≥ 1`) and the variance IS their unbiased sample variance
(`var * (n - 1) = Σ (x - mean)²`, `n ≥ 2`). -/
theorem aggregate_mean_var (nClusters g : Nat) (nameToRow : List (Nat × Nat))
    (files : List (Nat × List CellRec)) (rows nProc : Nat)
    (hrows : 1 ≤ rows) (hproc : 1 ≤ nProc) (hntr : ∀ p ∈ nameToRow, p.2 < nClusters)
    (hw : ∃ f ∈ files, wanted nameToRow f.2 = true)
    (hg : ∀ f ∈ files, ∀ cell ∈ f.2, cell.vals.length = g)
    (clusterToRow : List (Nat × Nat)) (leaves : List Nat)
    (hlook : ∀ l ∈ leaves, ∃ i, clusterToRow.lookup l = some i ∧ i < nClusters) :
    ∃ buf a, precompute nClusters g nameToRow files rows nProc = .ok buf ∧
      aggregateStats g buf clusterToRow leaves = .ok a ∧
      ∀ j : Nat, j < g → ∃ (xs : List Rat) (m v : Rat),
        xs = (leaves.flatMap (fun l =>
          cellsOfRow nameToRow ((clusterToRow.lookup l).getD 0) (files.flatMap (·.2)))).map
            (fun cell => cell.vals.getD j 0) ∧
        a.n = xs.length ∧ a.mean[j]? = some m ∧ a.var[j]? = some v ∧
        (1 ≤ xs.length → m * (xs.length : Rat) = xs.sum) ∧
        (2 ≤ xs.length → v * ((xs.length : Rat) - 1) = (xs.map (fun x => (x - m) ^ 2)).sum) := by
  obtain ⟨buf, a, e, ha, hn, hj⟩ := aggregate_direct nClusters g nameToRow files rows nProc hrows
    hproc hntr hw hg clusterToRow leaves hlook
  refine ⟨buf, a, e, ha, fun j hjg => ?_⟩
  obtain ⟨m1, m2, _⟩ := hj j hjg
  rw [← List.length_map (f := fun cell : CellRec => cell.vals.getD j 0)] at hn
  rw [hn] at m1 m2
  refine ⟨_, _, _, rfl, hn, m1, m2, meanOf_mul_n _ _, fun h2 => ?_⟩
  have := varOf_mul_pred_eq_sum_sq_dev _ h2
  rwa [List.map_map] at this

/- values 1, 6 (cluster 0) and 2 (cluster 1): mean 3, sample variance ((−2)² + 3² + (−1)²)/2 = 7 -/
example : (3 : Rat) * 3 = [1, 6, 2].sum ∧
    (7 : Rat) * (3 - 1) = ([1, 6, 2].map (fun x => (x - 3) ^ 2)).sum := by
  decide +kernel

/-- "the reference-statistics file holds the number of member cells ... and the
numbers of member cells with CPM above 0, above 1, and at least 1" also when
the per-worker results are added up in integer accumulators of finite width:
if the exact totals (the arrays `precompute` writes) all lie below `2^bits`,
the reduction with accumulators of `bits` value bits (`precomputeW`, in-place
adds modulo `2^bits`) writes exactly the same arrays - no partial sum can
wrap, because every partial sum is entrywise at most the final one. -/
theorem no_wrap (bits nClusters g : Nat) (nameToRow : List (Nat × Nat))
    (files : List (Nat × List CellRec)) (rows nProc : Nat) (buf : Buffer)
    (h : precompute nClusters g nameToRow files rows nProc = .ok buf)
    (hfit : fitsBits bits buf = true) :
    precomputeW bits nClusters g nameToRow files rows nProc = .ok buf :=
  precomputeW_eq bits nClusters g nameToRow files rows nProc buf h hfit

/- 4 + 2 cells of one cluster over two workers: the totals (6) fit 3 bits -/
example : precomputeW 3 1 1 [(0, 0), (1, 0), (2, 0), (3, 0), (4, 0), (5, 0)]
      [(0, [⟨0, [1]⟩, ⟨1, [1]⟩, ⟨2, [1]⟩]), (1, [⟨3, [1]⟩, ⟨4, [1]⟩, ⟨5, [1]⟩])] 1 2
    = .ok [⟨6, [⟨6, 6, 6, 0, 6⟩]⟩] ∧
    fitsBits 3 [⟨6, [⟨6, 6, 6, 0, 6⟩]⟩] = true := by
  decide +kernel

/-- `no_wrap` for the width the CURRENT source gives the accumulators
(`Generated.statsBufferIntBits`, regenerated from `precompute_from_anndata.py`:
the scratch buffers are `np.zeros(.., dtype=int)` and the accumulators take the
dtype of the first buffer): whenever the exact totals fit that width, the
written arrays are the exact ones, so `direct`, `partition_indep`, ... apply
to the real reduction. -/
theorem no_wrap_int64 (nClusters g : Nat) (nameToRow : List (Nat × Nat))
    (files : List (Nat × List CellRec)) (rows nProc : Nat) (buf : Buffer)
    (h : precompute nClusters g nameToRow files rows nProc = .ok buf)
    (hfit : fitsBits Generated.statsBufferIntBits buf = true) :
    precomputeW Generated.statsBufferIntBits nClusters g nameToRow files rows nProc
      = precompute nClusters g nameToRow files rows nProc := by
  rw [h]
  exact precomputeW_eq _ nClusters g nameToRow files rows nProc buf h hfit

example : Generated.statsBufferIntBits = 63 ∧
    fitsBits Generated.statsBufferIntBits [⟨6, [⟨6, 6, 6, 0, 6⟩]⟩] = true := by
  decide +kernel

/-- A sufficient condition for `no_wrap`: every integer entry of the written
arrays is at most the total number of cells in the files (a row counts only
its member cells, and each count is at most the row's number of cells), so
under the hypotheses of `direct` fewer than `2^bits` cells in total means that
everything fits - in particular fewer than `2^Generated.statsBufferIntBits` cells
for the source as it is. -/
theorem fits_of_few_cells (bits nClusters g : Nat) (nameToRow : List (Nat × Nat))
    (files : List (Nat × List CellRec)) (rows nProc : Nat)
    (hrows : 1 ≤ rows) (hproc : 1 ≤ nProc) (hntr : ∀ p ∈ nameToRow, p.2 < nClusters)
    (hw : ∃ f ∈ files, wanted nameToRow f.2 = true)
    (hfew : (files.flatMap (·.2)).length < 2 ^ bits) :
    ∃ buf, precompute nClusters g nameToRow files rows nProc = .ok buf ∧
      fitsBits bits buf = true ∧
      precomputeW bits nClusters g nameToRow files rows nProc = .ok buf := by
  have e := precompute_eq_direct nClusters g nameToRow files rows nProc hrows hproc hntr hw
  have hfit := directBuf_fits bits nClusters g nameToRow _ hfew
  exact ⟨_, e, hfit, precomputeW_eq bits nClusters g nameToRow files rows nProc _ e hfit⟩

example : ((([(0, [⟨0, [1]⟩, ⟨1, [1]⟩, ⟨2, [1]⟩]), (1, [⟨3, [1]⟩, ⟨4, [1]⟩, ⟨5, [1]⟩])] :
      List (Nat × List CellRec)).flatMap (·.2)).length) < 2 ^ 3 := by
  decide

/-- The width matters: with accumulators too narrow for the totals the
reduction wraps.  Four and two cells of one cluster handled by two workers,
accumulators of 2 value bits: the exact writer gives `n_cells = 6`, the
narrow reduction `6 mod 4 = 2` (and likewise for the three counts). -/
theorem wrap_is_real :
    precompute 1 1 [(0, 0), (1, 0), (2, 0), (3, 0), (4, 0), (5, 0)]
      [(0, [⟨0, [1]⟩, ⟨1, [1]⟩, ⟨2, [1]⟩]), (1, [⟨3, [1]⟩, ⟨4, [1]⟩, ⟨5, [1]⟩])] 1 2
      = .ok [⟨6, [⟨6, 6, 6, 0, 6⟩]⟩] ∧
    precomputeW 2 1 1 [(0, 0), (1, 0), (2, 0), (3, 0), (4, 0), (5, 0)]
      [(0, [⟨0, [1]⟩, ⟨1, [1]⟩, ⟨2, [1]⟩]), (1, [⟨3, [1]⟩, ⟨4, [1]⟩, ⟨5, [1]⟩])] 1 2
      = .ok [⟨2, [⟨6, 6, 2, 0, 2⟩]⟩] := by
  decide +kernel

/- the same with 200 + 200 cells (all carrying the one name the table knows), three
processors, and 8-bit accumulators: 400 mod 256 = 144 -/
example : (precomputeW 8 1 0 [(0, 0)]
      [(0, List.replicate 200 ⟨0, []⟩), (1, List.replicate 200 ⟨0, []⟩)] 200 3).toOption.map
        (fun buf => buf.map (·.n)) = some [144] ∧
    (precompute 1 0 [(0, 0)]
      [(0, List.replicate 200 ⟨0, []⟩), (1, List.replicate 200 ⟨0, []⟩)] 200 3).toOption.map
        (fun buf => buf.map (·.n)) = some [400] := by
  decide +kernel

/-- "The values ... do not depend on how cells are spread over files": the
arrays are accumulated column by column under the FIRST file's `col_names`, so
a list of files is only worked on when every file lists the same genes in the
same order; a file whose ordered gene list differs from the first one's (even
if it holds the same genes in another column order) is refused before any work
(`geneMismatch`, the source's "has gene_names ... which does not match"), and
when the census passes the result is that of `precompute` (hence `direct`). -/
theorem var_order_checked (geneLists : List (List Nat)) (nClusters g : Nat)
    (nameToRow : List (Nat × Nat)) (files : List (Nat × List CellRec)) (rows nProc : Nat) :
    ((∃ g0 rest, geneLists = g0 :: rest ∧ ∃ x ∈ rest, x ≠ g0) →
      precomputeChecked geneLists nClusters g nameToRow files rows nProc = .error .geneMismatch) ∧
    ((∀ g0 rest, geneLists = g0 :: rest → ∀ x ∈ rest, x = g0) →
      precomputeChecked geneLists nClusters g nameToRow files rows nProc
        = precompute nClusters g nameToRow files rows nProc) := by
  constructor
  · rintro ⟨g0, rest, rfl, x, hx, hne⟩
    have : genesAgree (g0 :: rest) = false := by
      simp only [genesAgree, List.all_eq_false]
      exact ⟨x, hx, by simpa using hne⟩
    simp [precomputeChecked, this]
  · intro h
    have : genesAgree geneLists = true := by
      cases geneLists with
      | nil => rfl
      | cons g0 rest =>
        simp only [genesAgree, List.all_eq_true]
        intro x hx
        simpa using h g0 rest rfl x hx
    simp [precomputeChecked, this]

/- same genes, other column order in the second file: refused; same order: worked on -/
example : precomputeChecked [[7, 5], [5, 7]] 1 2 [(10, 0)] [(0, [⟨10, [1, 2]⟩]), (1, [⟨10, [2, 1]⟩])] 1 1
      = .error .geneMismatch ∧
    precomputeChecked [[7, 5], [7, 5]] 1 2 [(10, 0)] [(0, [⟨10, [1, 2]⟩]), (1, [⟨11, [2, 1]⟩])] 1 1
      = .ok [⟨1, [⟨1, 1, 1, 0, 1⟩, ⟨2, 4, 1, 1, 1⟩]⟩] := by
  decide +kernel

end CTM.C09
