/-
  C17 — bridge to the tree validator and to C10's `drop_commutes_build`.

  (a) The theorems of `CTM/Props/C17.lean` restated with the acceptance of the
      stored taxonomy by the model of `validate_taxonomy_tree` as the
      only hypothesis on the taxonomy, besides the modelling convention
      `DictOK` (see `CTM/Lemmas/BridgeWF.lean`).
  (b) `drop_eq_reference_without_level`: C17 `drop_runs` ∘ C10
      `drop_commutes_build` (`RawTree.dropLevel_build`).  "A reference whose
      taxonomy never had that level" is made literal: the taxonomy
      `get_taxonomy_tree` builds from the label columns with column `l` erased.  The tree C10 relates it to (the
      dropped tree) is equal to it only UP TO THE ORDER of child / row lists
      (`TreeEquiv`), so the combined statement needs an oracle that does not
      look at that order (`Bridge.OrderBlind`); the level loop itself only
      passes the order on (`Bridge.mapPipeline_equiv`).
  (c) `flatten_eq_reference_leaf_column`: C17 `flatten_runs` ∘ "flatten = build from the leaf
      column" (`Bridge.flatten_fromRecords_eq`, an equality, so no hypothesis on the oracle).
  (d) flatten together with `drop_level`, on a validated stored taxonomy.
-/
import CTM.Props.C17
import CTM.Lemmas.BridgeWF

namespace CTM.C17
open CTM CTM.LevelLoop CTM.RawTree CTM.Bridge

/-- "Mapping with a level dropped gives, at all other levels, exactly the result
of mapping against a reference whose taxonomy never had that level, and the
dropped level is the ancestor of the finer assignment" — for every stored
taxonomy the validator accepts (run B's stored taxonomy is `drop_level`'s result
`t'`). -/
theorem drop_eq_of_validate {κ} (t0 t' : RawTree) (cfg : Config) (vote : Oracle κ) (l cl : Level)
    (pre post : List Level) (ids : List CellId) (cells : List κ) (order : List Nat)
    (hdrop : t0.dropLevel l = .ok t') (hs : t0.hierarchy = pre ++ l :: cl :: post)
    (hval : t0.validate = .ok ()) (hd : DictOK t0)
    (hv : VoteOK t' vote)
    (hlen : ids.length = cells.length) (hnd : ids.Nodup)
    (hproc : 1 ≤ cfg.nProc) (hcs : 1 ≤ cfg.chunkSize)
    (horder : order.Perm (List.range
      (chunks cells.length (effChunk cells.length cfg.nProc cfg.chunkSize)).length))
    (outA outB : List Record)
    (hA : mapPipeline t0 { cfg with dropLevel := some l, flatten := false } vote ids cells order
      = .ok outA)
    (hB : mapPipeline t' { cfg with dropLevel := none, flatten := false } vote ids cells order
      = .ok outB)
    (i : Nat) (id : CellId) (c : κ) (hid : ids[i]? = some id) (hc : cells[i]? = some c) :
    ∃ a b, outA[i]? = some a ∧ outB[i]? = some b ∧ a.cellId = b.cellId ∧
      (∀ l', l' ≠ l → a.levels.lookup l' = b.levels.lookup l') ∧
      b.levels.lookup l = none ∧
      ∃ ec pn, b.levels.lookup cl = some ec ∧
        t0.childToParent cl ec.assignment = some pn ∧
        a.levels.lookup l = some (inferred ec pn) :=
  drop_eq t0 t' cfg vote l cl pre post ids cells order hdrop hs (wfb_of_validate hval hd)
    hv hlen hnd hproc hcs horder outA outB hA hB i id c hid hc

example : ∀ outA outB,
    mapPipeline exTree { dropLevel := some 1, flatten := false, chunkSize := 2, nProc := 2 } exVote
      [7, 3, 9] [0, 1, 2] [1, 0] = .ok outA →
    mapPipeline exDropped { dropLevel := none, flatten := false, chunkSize := 2, nProc := 2 } exVote
      [7, 3, 9] [0, 1, 2] [1, 0] = .ok outB →
    ∃ a b, outA[1]? = some a ∧ outB[1]? = some b ∧ a.cellId = b.cellId ∧
      (∀ l', l' ≠ 1 → a.levels.lookup l' = b.levels.lookup l') ∧
      b.levels.lookup 1 = none ∧
      ∃ ec pn, b.levels.lookup 2 = some ec ∧
        exTree.childToParent 2 ec.assignment = some pn ∧
        a.levels.lookup 1 = some (inferred ec pn) :=
  fun outA outB hA hB =>
    drop_eq_of_validate exTree exDropped { chunkSize := 2, nProc := 2 } exVote 1 2 [0] [] [7, 3, 9]
      [0, 1, 2] [1, 0] exTree_dropLevel rfl exTree_accepted.1 exTree_accepted.2 (exVote_ok _) rfl exIds_nodup (by decide +kernel)
      (by decide +kernel) exOrder_perm outA outB hA hB 1 3 1 rfl rfl

/-- "Mapping with flattening gives at the leaf level exactly the result of
mapping against a one-level taxonomy of the leaves ..., and every coarser level
is the leaf's ancestor" — for every stored taxonomy the validator accepts. -/
theorem flatten_eq_of_validate {κ} (t0 : RawTree) (cfg : Config) (vote : Oracle κ) (ll : Level)
    (ids : List CellId) (cells : List κ) (order : List Nat)
    (hleaf : t0.leafLevel = some ll)
    (hval : t0.validate = .ok ()) (hd : DictOK t0)
    (hv : VoteOK t0.flatten vote)
    (hlen : ids.length = cells.length) (hnd : ids.Nodup)
    (hproc : 1 ≤ cfg.nProc) (hcs : 1 ≤ cfg.chunkSize)
    (horder : order.Perm (List.range
      (chunks cells.length (effChunk cells.length cfg.nProc cfg.chunkSize)).length))
    (outA outB : List Record)
    (hA : mapPipeline t0 { cfg with dropLevel := none, flatten := true } vote ids cells order
      = .ok outA)
    (hB : mapPipeline t0.flatten { cfg with dropLevel := none, flatten := false } vote ids cells order
      = .ok outB)
    (i : Nat) (id : CellId) (c : κ) (hid : ids[i]? = some id) (hc : cells[i]? = some c) :
    ∃ a b, outA[i]? = some a ∧ outB[i]? = some b ∧ a.cellId = b.cellId ∧
      a.levels.lookup ll = b.levels.lookup ll ∧ (b.levels.lookup ll).isSome ∧
      ∀ cp ∈ pairsOf t0.hierarchy.reverse,
        ∃ ec pn, a.levels.lookup cp.1 = some ec ∧
          t0.childToParent cp.1 ec.assignment = some pn ∧
          a.levels.lookup cp.2 = some (inferred ec pn) :=
  flatten_eq t0 cfg vote ll ids cells order hleaf (wfb_of_validate hval hd) hv hlen hnd
    hproc hcs horder outA outB hA hB i id c hid hc

example : ∀ outA outB,
    mapPipeline exTree { dropLevel := none, flatten := true, chunkSize := 2, nProc := 2 } exVote
      [7, 3, 9] [0, 1, 2] [1, 0] = .ok outA →
    mapPipeline exTree.flatten { dropLevel := none, flatten := false, chunkSize := 2, nProc := 2 } exVote
      [7, 3, 9] [0, 1, 2] [1, 0] = .ok outB →
    ∃ a b, outA[2]? = some a ∧ outB[2]? = some b ∧ a.cellId = b.cellId ∧
      a.levels.lookup 2 = b.levels.lookup 2 ∧ (b.levels.lookup 2).isSome ∧
      ∀ cp ∈ pairsOf exTree.hierarchy.reverse,
        ∃ ec pn, a.levels.lookup cp.1 = some ec ∧
          exTree.childToParent cp.1 ec.assignment = some pn ∧
          a.levels.lookup cp.2 = some (inferred ec pn) :=
  fun outA outB hA hB =>
    flatten_eq_of_validate exTree { chunkSize := 2, nProc := 2 } exVote 2 [7, 3, 9] [0, 1, 2] [1, 0]
      (by decide +kernel) exTree_accepted.1 exTree_accepted.2
      (exVote_ok _) rfl exIds_nodup (by decide +kernel)
      (by decide +kernel) exOrder_perm outA outB hA hB 2 9 2 rfl rfl

/-- both runs of `drop_eq_of_validate` succeed on every validator-accepted
stored taxonomy (so the statement is not vacuous); the split of the hierarchy
around `l` is derived from the success of `drop_level`. -/
theorem drop_both_succeed_of_validate {κ} (t0 t' : RawTree) (cfg : Config) (vote : Oracle κ)
    (l : Level) (ids : List CellId) (cells : List κ) (order : List Nat)
    (hdrop : t0.dropLevel l = .ok t')
    (hval : t0.validate = .ok ()) (hd : DictOK t0)
    (hv : VoteOK t' vote)
    (hlen : ids.length = cells.length) (hnd : ids.Nodup)
    (hproc : 1 ≤ cfg.nProc) (hcs : 1 ≤ cfg.chunkSize)
    (horder : order.Perm (List.range
      (chunks cells.length (effChunk cells.length cfg.nProc cfg.chunkSize)).length)) :
    (∃ outA, mapPipeline t0 { cfg with dropLevel := some l, flatten := false } vote ids cells order
      = .ok outA) ∧
    (∃ outB, mapPipeline t' { cfg with dropLevel := none, flatten := false } vote ids cells order
      = .ok outB) :=
  let ⟨outA, outB, hA, hB, _⟩ := drop_runs t0 t' cfg vote l ids cells order hdrop
    (wfb_of_validate hval hd) hv hlen hnd hproc hcs horder
  ⟨⟨outA, hA⟩, ⟨outB, hB⟩⟩

example : (∃ outA, mapPipeline exTree { dropLevel := some 1, flatten := false, chunkSize := 2, nProc := 2 }
      exVote [7, 3, 9] [0, 1, 2] [1, 0] = .ok outA) ∧
    (∃ outB, mapPipeline exDropped { dropLevel := none, flatten := false, chunkSize := 2, nProc := 2 }
      exVote [7, 3, 9] [0, 1, 2] [1, 0] = .ok outB) :=
  drop_both_succeed_of_validate exTree exDropped { chunkSize := 2, nProc := 2 } exVote 1 [7, 3, 9]
    [0, 1, 2] [1, 0] exTree_dropLevel exTree_accepted.1 exTree_accepted.2 (exVote_ok _) rfl exIds_nodup (by decide +kernel) (by decide +kernel) exOrder_perm

/-- both runs of `flatten_eq_of_validate` succeed on every validator-accepted
stored taxonomy -/
theorem flatten_both_succeed_of_validate {κ} (t0 : RawTree) (cfg : Config) (vote : Oracle κ)
    (ll : Level) (ids : List CellId) (cells : List κ) (order : List Nat)
    (hleaf : t0.leafLevel = some ll)
    (hval : t0.validate = .ok ()) (hd : DictOK t0)
    (hv : VoteOK t0.flatten vote)
    (hlen : ids.length = cells.length) (hnd : ids.Nodup)
    (hproc : 1 ≤ cfg.nProc) (hcs : 1 ≤ cfg.chunkSize)
    (horder : order.Perm (List.range
      (chunks cells.length (effChunk cells.length cfg.nProc cfg.chunkSize)).length)) :
    (∃ outA, mapPipeline t0 { cfg with dropLevel := none, flatten := true } vote ids cells order
      = .ok outA) ∧
    (∃ outB, mapPipeline t0.flatten { cfg with dropLevel := none, flatten := false } vote ids cells
      order = .ok outB) :=
  flatten_both_succeed t0 cfg vote ll ids cells order hleaf (wfb_of_validate hval hd) hv
    hlen hnd hproc hcs horder

example : (∃ outA, mapPipeline exTree { dropLevel := none, flatten := true, chunkSize := 2, nProc := 2 }
      exVote [7, 3, 9] [0, 1, 2] [1, 0] = .ok outA) ∧
    (∃ outB, mapPipeline exTree.flatten { dropLevel := none, flatten := false, chunkSize := 2, nProc := 2 }
      exVote [7, 3, 9] [0, 1, 2] [1, 0] = .ok outB) :=
  flatten_both_succeed_of_validate exTree { chunkSize := 2, nProc := 2 } exVote 2 [7, 3, 9]
    [0, 1, 2] [1, 0] (by decide +kernel) exTree_accepted.1 exTree_accepted.2 (exVote_ok _) rfl exIds_nodup (by decide +kernel) (by decide +kernel) exOrder_perm

/-! ### C17 `drop_runs` ∘ C10 `drop_commutes_build` -/

/-- "Mapping with a level dropped gives, at all other levels, exactly the result
of mapping against A REFERENCE WHOSE TAXONOMY NEVER HAD THAT LEVEL, and the
dropped level is the ancestor of the finer assignment."

Reference A: the taxonomy built (`get_taxonomy_tree`) from the per-cell label
columns `cols` (nested, ≥ 1 cell), mapped with `drop_level = cols[i]` (any
non-leaf column).  Reference B: the taxonomy built from the same cells with
column `i` erased — it never had the level — mapped without `drop_level`.
Both runs SUCCEED, return the same cells in the same order, every level other
than `cols[i]` carries the identical dict, run B has no level `cols[i]`, and in
run A level `cols[i]` is the copy of the level below it whose assignment is the
parent (in taxonomy A) of the finer assignment, flagged not directly assigned.

Hypotheses on the oracle: `VoteChild` (it returns one of the children it is
given; tree independent form of `VoteOK`) and `OrderBlind` (it reads the
children and their leaves as sets): the dropped tree and tree B have the same
nodes and edges but list children in different orders (C10's `TreeEquiv`; see
the example in `Props/C10.lean`: `[30, 33, 31]` against `[30, 31, 33]`). -/
theorem drop_eq_reference_without_level {κ} (cols : List Level) (recs : List (List Node))
    (cfg : Config) (vote : Oracle κ) (i : Nat) (ids : List CellId) (cells : List κ)
    (order : List Nat)
    (hc : cols.Nodup) (hr : RecsOK cols recs) (hn : Nested cols recs) (hrec : recs ≠ [])
    (hi1 : i + 1 < cols.length)
    (hvc : VoteChild vote) (hob : OrderBlind vote)
    (hlen : ids.length = cells.length) (hnd : ids.Nodup)
    (hproc : 1 ≤ cfg.nProc) (hcs : 1 ≤ cfg.chunkSize)
    (horder : order.Perm (List.range
      (chunks cells.length (effChunk cells.length cfg.nProc cfg.chunkSize)).length)) :
    ∃ outA outB,
      mapPipeline (fromRecordsRaw cols recs)
        { cfg with dropLevel := some (cols[i]'(by omega)), flatten := false } vote ids cells order
        = .ok outA ∧
      mapPipeline (fromRecordsRaw (cols.eraseIdx i) (recs.map (·.eraseIdx i)))
        { cfg with dropLevel := none, flatten := false } vote ids cells order = .ok outB ∧
      ∀ (j : Nat) (id : CellId) (c : κ), ids[j]? = some id → cells[j]? = some c →
        ∃ a b, outA[j]? = some a ∧ outB[j]? = some b ∧ a.cellId = b.cellId ∧
          (∀ l', l' ≠ cols[i]'(by omega) → a.levels.lookup l' = b.levels.lookup l') ∧
          b.levels.lookup (cols[i]'(by omega)) = none ∧
          ∃ ec pn, b.levels.lookup cols[i+1] = some ec ∧
            (fromRecordsRaw cols recs).childToParent cols[i+1] ec.assignment = some pn ∧
            a.levels.lookup (cols[i]'(by omega)) = some (inferred ec pn) := by
  have hi : i < cols.length := by omega
  obtain ⟨t', hd, w', wE, e⟩ := dropLevel_build hc hr hn hrec hi (by omega) false (Or.inr hi1)
  have hv' := voteOK_of_voteChild hvc t'
  obtain ⟨outA, outB, hA, hB, h⟩ := drop_runs _ t' cfg vote _ ids cells order hd
    (WF_wfb (fromRecordsRaw_wf hc (List.ne_nil_of_length_pos (by omega)) hr hn hrec)) hv' hlen hnd
    hproc hcs horder
  -- run B on the tree built without the column: the same output, the oracle being order blind
  rw [mapPipeline_equiv e w' wE hob hv' (voteOK_of_voteChild hvc _)
    { cfg with dropLevel := none, flatten := false } rfl rfl ids cells order order hlen hnd hproc
    hcs horder horder] at hB
  refine ⟨outA, outB, hA, hB, fun j id c hid hcell => ?_⟩
  obtain ⟨a, b, ha, hb, hida, hsame, hnone, hinf⟩ := h j id c hid hcell
  exact ⟨a, b, ha, hb, hida, hsame, hnone, hinf _ _ _ (ListAux.split_at_idx cols hi1)⟩

/-- (non-vacuity) three label columns, four reference cells, the middle column
dropped; `exVote` is not order blind, so the oracle of the example is the
order-blind "smallest child" (`Bridge.minVote`) -/
example : ∃ outA outB,
    mapPipeline (fromRecordsRaw [0, 1, 2] [[10, 20, 30], [10, 21, 31], [11, 22, 32], [10, 20, 33]])
      { dropLevel := some 1, flatten := false, chunkSize := 2, nProc := 2 } minVote [7, 3] [0, 1] [1, 0]
      = .ok outA ∧
    mapPipeline (fromRecordsRaw [0, 2] [[10, 30], [10, 31], [11, 32], [10, 33]])
      { dropLevel := none, flatten := false, chunkSize := 2, nProc := 2 } minVote [7, 3] [0, 1] [1, 0]
      = .ok outB ∧
    ∀ (j : Nat) (id : CellId) (c : Nat), [7, 3][j]? = some id → [0, 1][j]? = some c →
      ∃ a b, outA[j]? = some a ∧ outB[j]? = some b ∧ a.cellId = b.cellId ∧
        (∀ l', l' ≠ 1 → a.levels.lookup l' = b.levels.lookup l') ∧
        b.levels.lookup 1 = none ∧
        ∃ ec pn, b.levels.lookup 2 = some ec ∧
          (fromRecordsRaw [0, 1, 2] [[10, 20, 30], [10, 21, 31], [11, 22, 32], [10, 20, 33]]).childToParent
            2 ec.assignment = some pn ∧
          a.levels.lookup 1 = some (inferred ec pn) :=
  drop_eq_reference_without_level [0, 1, 2] [[10, 20, 30], [10, 21, 31], [11, 22, 32], [10, 20, 33]]
    { chunkSize := 2, nProc := 2 } minVote 1 [7, 3] [0, 1] [1, 0] (by decide +kernel)
    (by decide +kernel) (by decide +kernel)
    (List.cons_ne_nil _ _) (by decide +kernel) minVote_child minVote_orderBlind rfl (by decide +kernel) (by decide +kernel) (by decide +kernel)
    (by decide +kernel)

/-! ### C17 `flatten_runs` ∘ C10 "flatten = build from the leaf column" -/

/-- "Mapping with flattening gives at the leaf level exactly the result of
mapping against A ONE-LEVEL TAXONOMY OF THE LEAVES ..., and every coarser level
is the leaf's ancestor."

Reference A: the taxonomy built (`get_taxonomy_tree`) from the per-cell label
columns `cols` (nested, ≥ 1 cell), mapped with `flatten = True`.  Reference B:
the one-level taxonomy built from the LEAF COLUMN ALONE (same cells, all other
columns removed), mapped without flattening.  `flatten()` of taxonomy A IS
taxonomy B (`Bridge.flatten_fromRecords_eq`: equal, not only up to order — so,
unlike `drop_eq_reference_without_level`, no hypothesis on the order
sensitivity of the oracle is needed).  Both runs SUCCEED, return the same cells
in the same order with the identical leaf-level dict, and in run A every coarser
level is the copy of the level below whose assignment is its parent in taxonomy
A, flagged not directly assigned. -/
theorem flatten_eq_reference_leaf_column {κ} (cols : List Level) (recs : List (List Node))
    (cfg : Config) (vote : Oracle κ) (ids : List CellId) (cells : List κ) (order : List Nat)
    (hc : cols.Nodup) (hne : cols ≠ []) (hr : RecsOK cols recs) (hn : Nested cols recs)
    (hrec : recs ≠ [])
    (hv : VoteOK (fromRecordsRaw [cols.getLast hne] (recs.map (fun r => [r.getLastD 0]))) vote)
    (hlen : ids.length = cells.length) (hnd : ids.Nodup)
    (hproc : 1 ≤ cfg.nProc) (hcs : 1 ≤ cfg.chunkSize)
    (horder : order.Perm (List.range
      (chunks cells.length (effChunk cells.length cfg.nProc cfg.chunkSize)).length)) :
    ∃ outA outB,
      mapPipeline (fromRecordsRaw cols recs) { cfg with dropLevel := none, flatten := true } vote
        ids cells order = .ok outA ∧
      mapPipeline (fromRecordsRaw [cols.getLast hne] (recs.map (fun r => [r.getLastD 0])))
        { cfg with dropLevel := none, flatten := false } vote ids cells order = .ok outB ∧
      ∀ (j : Nat) (id : CellId) (c : κ), ids[j]? = some id → cells[j]? = some c →
        ∃ a b, outA[j]? = some a ∧ outB[j]? = some b ∧ a.cellId = b.cellId ∧
          a.levels.lookup (cols.getLast hne) = b.levels.lookup (cols.getLast hne) ∧
          (b.levels.lookup (cols.getLast hne)).isSome ∧
          ∀ cp ∈ pairsOf cols.reverse,
            ∃ ec pn, a.levels.lookup cp.1 = some ec ∧
              (fromRecordsRaw cols recs).childToParent cp.1 ec.assignment = some pn ∧
              a.levels.lookup cp.2 = some (inferred ec pn) := by
  have w0 : WF (fromRecordsRaw cols recs) := fromRecordsRaw_wf hc hne hr hn hrec
  have hwf0 := WF_wfb w0
  have hleaf : (fromRecordsRaw cols recs).leafLevel = some (cols.getLast hne) :=
    List.getLast?_eq_some_getLast hne
  have e := flatten_fromRecords_eq hc hne hr (recs := recs)
  rw [← e] at hv ⊢
  exact flatten_runs _ cfg vote _ ids cells order hleaf hwf0 hv hlen hnd hproc hcs horder

example : ∃ outA outB,
    mapPipeline (fromRecordsRaw [0, 1, 2] [[10, 20, 30], [10, 21, 31], [11, 22, 32], [10, 20, 33]])
      { dropLevel := none, flatten := true, chunkSize := 2, nProc := 2 } exVote [7, 3] [0, 1] [1, 0]
      = .ok outA ∧
    mapPipeline (fromRecordsRaw [2] [[30], [31], [32], [33]])
      { dropLevel := none, flatten := false, chunkSize := 2, nProc := 2 } exVote [7, 3] [0, 1] [1, 0]
      = .ok outB ∧
    ∀ (j : Nat) (id : CellId) (c : Nat), [7, 3][j]? = some id → [0, 1][j]? = some c →
      ∃ a b, outA[j]? = some a ∧ outB[j]? = some b ∧ a.cellId = b.cellId ∧
        a.levels.lookup 2 = b.levels.lookup 2 ∧ (b.levels.lookup 2).isSome ∧
        ∀ cp ∈ pairsOf [0, 1, 2].reverse,
          ∃ ec pn, a.levels.lookup cp.1 = some ec ∧
            (fromRecordsRaw [0, 1, 2] [[10, 20, 30], [10, 21, 31], [11, 22, 32],
              [10, 20, 33]]).childToParent cp.1 ec.assignment = some pn ∧
            a.levels.lookup cp.2 = some (inferred ec pn) :=
  flatten_eq_reference_leaf_column [0, 1, 2] [[10, 20, 30], [10, 21, 31], [11, 22, 32], [10, 20, 33]]
    { chunkSize := 2, nProc := 2 } exVote [7, 3] [0, 1] [1, 0] (by decide +kernel) (by decide +kernel)
    (by decide +kernel) (by decide +kernel)
    (List.cons_ne_nil _ _) (exVote_ok _) rfl (by decide +kernel) (by decide +kernel) (by decide +kernel) (by decide +kernel)

/-! ### flatten together with drop_level (`C17.flatten_ignores_drop`, `C17.flatten_drop_eq`) -/

/-- flatten TOGETHER with drop_level on a validator-accepted stored taxonomy:
the whole output equals that of the run with flatten alone ("flattening ...
equals mapping on the reduced taxonomy": the reduced taxonomy is the one-level
taxonomy of the leaves either way). -/
theorem flatten_ignores_drop_of_validate {κ} (t0 t' : RawTree) (cfg : Config) (vote : Oracle κ)
    (l : Level) (ids : List CellId) (cells : List κ) (order : List Nat)
    (hdrop : t0.dropLevel l = .ok t')
    (hval : t0.validate = .ok ()) (hd : DictOK t0) (hv : VoteOK t0.flatten vote)
    (hlen : ids.length = cells.length) (hnd : ids.Nodup)
    (hproc : 1 ≤ cfg.nProc) (hcs : 1 ≤ cfg.chunkSize)
    (horder : order.Perm (List.range
      (chunks cells.length (effChunk cells.length cfg.nProc cfg.chunkSize)).length)) :
    mapPipeline t0 { cfg with dropLevel := some l, flatten := true } vote ids cells order =
      mapPipeline t0 { cfg with dropLevel := none, flatten := true } vote ids cells order := by
  obtain ⟨pre, cl, post, hs⟩ := dropLevel_split hdrop
  exact flatten_ignores_drop t0 t' cfg vote l cl pre post ids cells order hdrop hs
    (wfb_of_validate hval hd) hv hlen hnd hproc hcs horder

example : mapPipeline exTree { dropLevel := some 1, flatten := true, chunkSize := 2, nProc := 2 } exVote
      [7, 3, 9] [0, 1, 2] [1, 0] =
    mapPipeline exTree { dropLevel := none, flatten := true, chunkSize := 2, nProc := 2 } exVote
      [7, 3, 9] [0, 1, 2] [1, 0] :=
  flatten_ignores_drop_of_validate exTree exDropped { chunkSize := 2, nProc := 2 } exVote 1 [7, 3, 9]
    [0, 1, 2] [1, 0] exTree_dropLevel exTree_accepted.1 exTree_accepted.2 (exVote_ok _) rfl exIds_nodup
    (by decide +kernel) (by decide +kernel) exOrder_perm

/-- the C17 statement for flatten AND drop_level on a validator-accepted stored
taxonomy: "at the leaf level exactly the result of mapping against a one-level
taxonomy of the leaves, and every coarser level is the leaf's ancestor" — the
dropped level included. -/
theorem flatten_drop_eq_of_validate {κ} (t0 t' : RawTree) (cfg : Config) (vote : Oracle κ)
    (l ll : Level) (ids : List CellId) (cells : List κ) (order : List Nat)
    (hdrop : t0.dropLevel l = .ok t') (hleaf : t0.leafLevel = some ll)
    (hval : t0.validate = .ok ()) (hd : DictOK t0) (hv : VoteOK t0.flatten vote)
    (hlen : ids.length = cells.length) (hnd : ids.Nodup)
    (hproc : 1 ≤ cfg.nProc) (hcs : 1 ≤ cfg.chunkSize)
    (horder : order.Perm (List.range
      (chunks cells.length (effChunk cells.length cfg.nProc cfg.chunkSize)).length))
    (outA outB : List Record)
    (hA : mapPipeline t0 { cfg with dropLevel := some l, flatten := true } vote ids cells order
      = .ok outA)
    (hB : mapPipeline t0.flatten { cfg with dropLevel := none, flatten := false } vote ids cells order
      = .ok outB)
    (i : Nat) (id : CellId) (c : κ) (hid : ids[i]? = some id) (hc : cells[i]? = some c) :
    ∃ a b, outA[i]? = some a ∧ outB[i]? = some b ∧ a.cellId = b.cellId ∧
      a.levels.lookup ll = b.levels.lookup ll ∧ (b.levels.lookup ll).isSome ∧
      ∀ cp ∈ pairsOf t0.hierarchy.reverse,
        ∃ ec pn, a.levels.lookup cp.1 = some ec ∧
          t0.childToParent cp.1 ec.assignment = some pn ∧
          a.levels.lookup cp.2 = some (inferred ec pn) := by
  obtain ⟨pre, cl, post, hs⟩ := dropLevel_split hdrop
  exact flatten_drop_eq t0 t' cfg vote l cl ll pre post ids cells order hdrop hs hleaf
    (wfb_of_validate hval hd) hv hlen hnd hproc hcs horder outA outB hA hB i id c hid hc

example : ∀ outA outB,
    mapPipeline exTree { dropLevel := some 1, flatten := true, chunkSize := 2, nProc := 2 } exVote
      [7, 3, 9] [0, 1, 2] [1, 0] = .ok outA →
    mapPipeline exTree.flatten { dropLevel := none, flatten := false, chunkSize := 2, nProc := 2 } exVote
      [7, 3, 9] [0, 1, 2] [1, 0] = .ok outB →
    ∃ a b, outA[2]? = some a ∧ outB[2]? = some b ∧ a.cellId = b.cellId ∧
      a.levels.lookup 2 = b.levels.lookup 2 ∧ (b.levels.lookup 2).isSome ∧
      ∀ cp ∈ pairsOf exTree.hierarchy.reverse,
        ∃ ec pn, a.levels.lookup cp.1 = some ec ∧
          exTree.childToParent cp.1 ec.assignment = some pn ∧
          a.levels.lookup cp.2 = some (inferred ec pn) :=
  fun outA outB hA hB =>
    flatten_drop_eq_of_validate exTree exDropped { chunkSize := 2, nProc := 2 } exVote 1 2 [7, 3, 9]
      [0, 1, 2] [1, 0] exTree_dropLevel (by decide +kernel) exTree_accepted.1 exTree_accepted.2 (exVote_ok _) rfl
      exIds_nodup (by decide +kernel) (by decide +kernel) exOrder_perm outA outB hA hB 2 9 2 rfl rfl

/-- both runs of `flatten_drop_eq_of_validate` succeed (non-vacuity of the
statement above, for every validator-accepted stored taxonomy) -/
theorem flatten_drop_both_succeed_of_validate {κ} (t0 t' : RawTree) (cfg : Config)
    (vote : Oracle κ) (l ll : Level) (ids : List CellId) (cells : List κ) (order : List Nat)
    (hdrop : t0.dropLevel l = .ok t') (hleaf : t0.leafLevel = some ll)
    (hval : t0.validate = .ok ()) (hd : DictOK t0) (hv : VoteOK t0.flatten vote)
    (hlen : ids.length = cells.length) (hnd : ids.Nodup)
    (hproc : 1 ≤ cfg.nProc) (hcs : 1 ≤ cfg.chunkSize)
    (horder : order.Perm (List.range
      (chunks cells.length (effChunk cells.length cfg.nProc cfg.chunkSize)).length)) :
    (∃ outA, mapPipeline t0 { cfg with dropLevel := some l, flatten := true } vote ids cells order
      = .ok outA) ∧
    (∃ outB, mapPipeline t0.flatten { cfg with dropLevel := none, flatten := false } vote ids cells
      order = .ok outB) := by
  obtain ⟨pre, cl, post, hs⟩ := dropLevel_split hdrop
  exact flatten_drop_both_succeed t0 t' cfg vote l cl ll pre post ids cells order hdrop hs hleaf
    (wfb_of_validate hval hd) hv hlen hnd hproc hcs horder

example : (∃ outA, mapPipeline exTree { dropLevel := some 1, flatten := true, chunkSize := 2, nProc := 2 }
      exVote [7, 3, 9] [0, 1, 2] [1, 0] = .ok outA) ∧
    (∃ outB, mapPipeline exTree.flatten { dropLevel := none, flatten := false, chunkSize := 2, nProc := 2 }
      exVote [7, 3, 9] [0, 1, 2] [1, 0] = .ok outB) :=
  flatten_drop_both_succeed_of_validate exTree exDropped { chunkSize := 2, nProc := 2 } exVote 1 2
    [7, 3, 9] [0, 1, 2] [1, 0] exTree_dropLevel (by decide +kernel) exTree_accepted.1 exTree_accepted.2 (exVote_ok _)
    rfl exIds_nodup (by decide +kernel) (by decide +kernel) exOrder_perm

end CTM.C17
