/-
  C14 — a failed worker fails the run; no partial result passes as success.

  "If any worker process of any parallel stage terminates abnormally - killed,
  exiting non-zero, or raising, before, during or after its work - the call
  that started it raises an error.  A mapping run in that situation writes no
  result records, no CSV and no success message, though it still writes its
  log, and the other stages leave no file at the requested output location that
  a later stage would accept as complete."

  Model: CTM/Model/Procs.lean.  The operating system is a parameter: `exit w`
  (the code worker `w` ends with: non-zero for a kill, `os._exit(3)`, an
  uncaught exception - before, during or after its work makes no difference to
  the code the parent sees) and the schedule (which exit codes each poll sees).
  `CTM/Generated/Skeleton.lean` is re-extracted from the source on every run.
  Trusted: `KeysOK` (distinct dict keys) is a hypothesis on the abstract `keyOf`; the translator
  establishes its syntactic counterpart, the flag `Stage.keysDistinct` checked by `Stage.ok`, and
  no theorem links the two.
-/
import CTM.Lemmas.Procs
import CTM.Generated.Skeleton

namespace CTM.C14
open CTM.Procs

/-! ## `winnow_process_list` / `winnow_process_dict` (exact models) -/

/-- "exit codes inspected whenever the pool is drained; non-zero raises":
`winnow_process_list` raises iff some finished process has a non-zero exit
code, and then reports the code of the *last* such process in the list;
otherwise it returns exactly the processes still running, in order.
(`lastBad ps` = first finished non-zero code of `ps.reverse`.) -/
theorem winnow_list_exact {α} (ps : List (α × ExitCode)) :
    winnowList ps =
      match lastBad ps with
      | some c => .error c
      | none => .ok (ps.filter (fun p => p.2.isNone)) :=
  winnowList_eq ps

example : winnowList [(10, some 0), (11, none), (12, some 0), (13, none)]
    = .ok [(11, none), (13, none)] := by rfl
example : winnowList [(10, some 1), (11, none), (12, some (-9))] = .error (-9) := by rfl

/-- `winnow_process_list` succeeds iff every finished process exited with 0,
and then keeps exactly the running ones -/
theorem winnow_list_ok_iff {α} (ps r : List (α × ExitCode)) :
    winnowList ps = .ok r ↔
      (∀ p ∈ ps, p.2 = none ∨ p.2 = some 0) ∧ r = ps.filter (fun p => p.2.isNone) := by
  rw [winnowList_eq_ok_iff, lastBad_none_iff]
  simp only [badCode_none_iff]

example : winnowList [((), some 0), ((), none)] = .ok [((), none)] := by rfl

/-- `winnow_process_dict`: raises iff some finished process has a non-zero exit
code, reporting the *first* such key in dict order; otherwise returns exactly
the entries still running, in order -/
theorem winnow_dict_exact {κ} (ps : List (κ × ExitCode)) :
    winnowDict ps =
      match firstBadKey ps with
      | some e => .error e
      | none => .ok (ps.filter (fun p => p.2.isNone)) :=
  winnowDict_eq ps

example : winnowDict [(8, some 0), (0, none), (16, some 3), (24, some 1)] = .error (16, 3) := by
  rfl
example : winnowDict [(8, some 0), (0, none), (16, some 0)] = .ok [(0, none)] := by rfl

/-- `winnow_process_dict` succeeds iff every finished process exited with 0,
and then keeps exactly the running entries -/
theorem winnow_dict_ok_iff {κ} (ps r : List (κ × ExitCode)) :
    winnowDict ps = .ok r ↔
      (∀ p ∈ ps, p.2 = none ∨ p.2 = some 0) ∧ r = ps.filter (fun p => p.2.isNone) := by
  rw [winnowDict_eq_ok_iff, firstBadKey_none_iff]
  simp only [badCode_none_iff]

example : winnowDict [(3, some 0), (5, none)] = .ok [(5, none)] := by rfl

/-! ## the start / poll / drain loop -/

/-- "If any worker process … terminates abnormally … the call that started it
raises an error" - contrapositive, for the common loop: for every number of
work items, every `n_processors`, **every schedule** of exit-code visibility
(no fairness, no monotonicity assumed: a worker that never shows an exit code
makes the loop spin, never succeed) and every assignment of exit codes, if the
loop returns normally then it started every item and every worker exited with
code 0.  (`KeysOK` is vacuous for list stages; for dict stages it says that
distinct workers are registered under distinct keys.) -/
theorem success_all_zero (kind : Container) (nItems nProc : Nat) (keyOf : Nat → Nat)
    (hk : KeysOK kind keyOf) (sched : List Poll) (exit : Nat → Int) (s : St)
    (h : pollLoop kind nItems nProc keyOf sched exit = .ok s) :
    s.started = nItems ∧ ∀ w, w < nItems → exit w = 0 := by
  have hst := pollLoop_ok_started h
  exact ⟨hst, hst ▸ exec_ok_all_zero (env := { nItems, nProc, keyOf, exit }) hk rfl h⟩

/-- non-vacuity: 3 items on 2 slots, everybody exits 0, succeeds -/
example : (pollLoop .list 3 2 id [[0], [1, 2], [1, 2]] (fun _ => 0)).outcome = .ok := by decide +kernel
/-- … and with worker 1 killed the very same schedule raises with its code -/
example : (pollLoop .list 3 2 id [[0], [1, 2], [1, 2]] (fun w => if w = 1 then -9 else 0)).outcome
    = .failed (-9) := by decide +kernel
/-- a worker whose exit code never becomes visible: the loop spins -/
example : (pollLoop .dict 2 2 id [[0], [0], [0]] (fun _ => 0)).outcome = .spin := by decide +kernel
/-- why dict stages need distinct keys: two workers registered under the same
key, the first one fails and nobody notices -/
example : (pollLoop .dict 2 4 (fun _ => 7) [[0, 1]] (fun w => if w = 0 then 1 else 0)).outcome
    = .ok := by decide +kernel

/-- the converse direction of soundness: an error raised by the loop is never
spurious - the reported code is the non-zero exit code of a started worker -/
theorem failure_is_real (kind : Container) (nItems nProc : Nat) (keyOf : Nat → Nat)
    (hk : KeysOK kind keyOf) (sched : List Poll) (exit : Nat → Int) (code : Int) (s : St)
    (h : pollLoop kind nItems nProc keyOf sched exit = .failed code s) :
    code ≠ 0 ∧ ∃ w, w < s.started ∧ exit w = code :=
  (exec_sound (env := { nItems, nProc, keyOf, exit }) hk canonicalProg rfl).failed
    (good_init _ sched) h

example : (pollLoop .list 2 1 id [[0]] (fun _ => 3)).outcome = .failed 3 := by decide +kernel

/-- completeness - the model raises no false alarm: with `n_processors ≥ 1`, if
every worker exits with code 0 and the schedule offers at least `nItems + 1`
polls that see every worker's exit code, the loop returns normally.  (So
`success_all_zero` is not satisfied by a loop that never succeeds.) -/
theorem all_zero_succeeds (kind : Container) (nItems nProc : Nat) (keyOf : Nat → Nat)
    (hk : KeysOK kind keyOf) (hproc : 0 < nProc) (sched : List Poll) (exit : Nat → Int)
    (hz : ∀ w, w < nItems → exit w = 0) (hs : SeesAll nItems sched)
    (hlen : nItems < sched.length) :
    ∃ s, pollLoop kind nItems nProc keyOf sched exit = .ok s :=
  pollLoop_all_done hk hproc hz hs hlen

example : SeesAll 3 [[0, 1, 2], [0, 1, 2], [0, 1, 2], [0, 1, 2]] := by
  intro poll hp
  simp only [List.mem_cons, List.not_mem_nil, or_false, or_self] at hp
  subst hp
  decide

/-! ## generic soundness of a stage skeleton (the translator's IR) -/

/-- Success half of stage soundness: for **every** stage skeleton in which each
`p.start()` is followed by the registration of `p` in the polled container
and each dispatch loop is followed by a drain (`wellFormed`, a decidable
syntactic check), for every environment (items, `n_processors`, keys, exit
codes) and every schedule: if the stage returns normally, every worker it
started exited with code 0. -/
theorem skeleton_sound (kind : Container) (prog : List Stmt) (hwf : wellFormed prog = true)
    (env : Env) (hk : KeysOK kind env.keyOf) (sched : List Poll) (s : St)
    (h : exec kind env prog { sched := sched } = .ok s) :
    ∀ w, w < s.started → env.exit w = 0 :=
  exec_ok_all_zero hk hwf h

example : wellFormed CTM.Generated.pMask.prog = true := by decide +kernel
/-- an unregistered start breaks it (so the hypothesis is not idle) -/
example : (exec .list { nItems := 1, nProc := 2, keyOf := id, exit := fun _ => 1 }
    [.dispatch [.start false, .pollWhileFull], .drain] { sched := [] }).outcome = .ok := by decide +kernel

/-- the property in its direct form: in a well-formed stage, if some started
worker ends with a non-zero exit code, the stage does not return normally
(it raises, or - if that worker's exit code never becomes visible - waits) -/
theorem failed_worker_never_ok (kind : Container) (prog : List Stmt) (hwf : wellFormed prog = true)
    (env : Env) (hk : KeysOK kind env.keyOf) (sched : List Poll)
    (hbad : ∃ w, w < (exec kind env prog { sched := sched }).state.started ∧ env.exit w ≠ 0) :
    (exec kind env prog { sched := sched }).outcome ≠ .ok := by
  intro hok
  cases h : exec kind env prog { sched := sched } with
  | ok s =>
    rw [h] at hbad
    obtain ⟨w, hw, hne⟩ := hbad
    exact hne (skeleton_sound kind prog hwf env hk sched s h w hw)
  | failed c s => rw [h] at hok; cases hok
  | spin s => rw [h] at hok; cases hok

/-- Failure half: a stage that does not return normally (a worker
failed, or it waits for ever) has written at the requested output location
only what precedes one of its dispatch loops / drains (`failureFiles`); a
stage that returns normally has written everything (`writes`). -/
theorem skeleton_failure_output (kind : Container) (prog : List Stmt) (env : Env)
    (sched : List Poll) :
    match exec kind env prog { sched := sched } with
    | .ok s => s.file = writes prog
    | .failed _ s => s.file ∈ failureFiles prog
    | .spin s => s.file ∈ failureFiles prog := by
  obtain ⟨f, he, hf⟩ := exec_file (kind := kind) (env := env) prog { sched := sched }
  replace he := he.trans (List.nil_append f)
  cases h : exec kind env prog { sched := sched } with
  | ok s =>
    rw [h] at he hf
    exact he.trans ((if_pos rfl).mp hf)
  | failed c s =>
    rw [h, if_neg nofun] at hf
    rw [h] at he
    subst he
    exact hf
  | spin s =>
    rw [h, if_neg nofun] at hf
    rw [h] at he
    subst he
    exact hf

example : failureFiles CTM.Generated.pMask.prog = [["_prep_output_file"], ["_prep_output_file"]] := by
  decide +kernel

/-- a failure reported by a well-formed stage is the non-zero exit code of one
of its workers -/
theorem skeleton_failure_is_real (kind : Container) (prog : List Stmt)
    (hwf : wellFormed prog = true) (env : Env) (hk : KeysOK kind env.keyOf) (sched : List Poll)
    (code : Int) (s : St) (h : exec kind env prog { sched := sched } = .failed code s) :
    code ≠ 0 ∧ ∃ w, w < s.started ∧ env.exit w = code := by
  simp only [wellFormed, Bool.and_eq_true] at hwf
  exact (exec_sound hk prog hwf.1).failed (good_init env sched) h

example : (exec .dict { nItems := 2, nProc := 2, keyOf := id, exit := fun _ => 3 }
    CTM.Generated.refMarkers.prog { sched := [[1]] }).outcome = .failed 3 := by decide +kernel

/-! ## per-stage obligations on the regenerated skeletons (closed, by evaluation) -/

/-- the translator finds all seven parallel stages -/
theorem generated_stage_names :
    CTM.Generated.stages.map (·.name) =
      ["mapping", "stats", "refMarkers", "pMask", "pMarkers", "selection", "transpose"] := rfl

/-- the seven stages are all there is: the only functions of the package that
create a `multiprocessing.Process` are the dispatch functions of those stages
(and the two in `corr/`, which no property covers) -/
theorem generated_process_sites :
    CTM.Generated.processSites =
      ["corr/correlate_cells.py:correlate_cells",
       "corr/correlate_cells.py:corrmap_cells",
       "diff_exp/markers.py:create_sparse_by_pair_marker_file",
       "diff_exp/p_value_markers.py:create_sparse_by_pair_marker_file_from_p_mask",
       "diff_exp/p_value_mask.py:_create_p_value_mask_file",
       "diff_exp/precompute_from_anndata.py:_precompute_summary_stats_from_h5ad_and_lookup",
       "marker_selection/selection_pipeline.py:select_all_markers",
       "type_assignment/election.py:run_type_assignment_on_h5ad_cpu",
       "utils/csc_to_csr_parallel.py:_transpose_sparse_matrix_on_disk_v2"] := rfl

/-- every regenerated stage: has a dispatch loop, registers every started
process in the container it polls (with the matching winnow function), drains
after the loop, merges by a recognised discipline, and (dict stages) registers
its workers under keys that are distinct by construction -/
theorem generated_stages_ok : ∀ s ∈ CTM.Generated.stages, s.ok = true := by decide +kernel

/-- "the other stages leave no file at the requested output location that a
later stage would accept as complete": in every regenerated stage that writes
at a requested location, whatever can be there after a failure lacks at least
the last write of a complete run -/
theorem generated_failure_incomplete :
    ∀ s ∈ CTM.Generated.stages,
      writes s.prog = [] ∨ ∀ f ∈ failureFiles s.prog, f.length < (writes s.prog).length := by
  decide +kernel

/-- "marker file assembled in scratch space and moved into place last" /
"statistics file receives its taxonomy dataset only after all numeric data":
for the statistics, reference-marker (both routes) and transposition stages
nothing at all is written at the requested location before the drain -/
theorem generated_nothing_before_drain :
    ∀ s ∈ CTM.Generated.stages, s.name ∈ ["stats", "refMarkers", "pMarkers", "transpose"] →
      ∀ f ∈ failureFiles s.prog, f = [] := by
  decide +kernel

/-- the three `skeleton_*` theorems at a regenerated stage, whose
well-formedness is `generated_stages_ok` and whose short failure files are
`generated_failure_incomplete`: every regenerated stage, every
environment with distinct keys, every schedule - success means all workers
exited 0; otherwise the output location holds an incomplete prefix -/
theorem generated_stage_sound (st : Stage) (hst : st ∈ CTM.Generated.stages) (env : Env)
    (hk : KeysOK st.container env.keyOf) (sched : List Poll) :
    match exec st.container env st.prog { sched := sched } with
    | .ok s => ∀ w, w < s.started → env.exit w = 0
    | .failed c s => c ≠ 0 ∧ (writes st.prog = [] ∨ s.file.length < (writes st.prog).length)
    | .spin s => writes st.prog = [] ∨ s.file.length < (writes st.prog).length := by
  have hwf := Stage.ok_wellFormed (generated_stages_ok st hst)
  have hinc := generated_failure_incomplete st hst
  have hout := skeleton_failure_output st.container st.prog env sched
  cases h : exec st.container env st.prog { sched := sched } with
  | ok s => exact skeleton_sound _ _ hwf env hk sched s h
  | failed c s =>
    rw [h] at hout
    refine ⟨(skeleton_failure_is_real _ _ hwf env hk sched c s h).1, ?_⟩
    rcases hinc with h0 | h1
    · exact Or.inl h0
    · exact Or.inr (h1 _ hout)
  | spin s =>
    rw [h] at hout
    rcases hinc with h0 | h1
    · exact Or.inl h0
    · exact Or.inr (h1 _ hout)

example : CTM.Generated.stats ∈ CTM.Generated.stages := .tail _ (.head _)
/-- the selection stage's in-loop poll (`… or not have_chosen_parent`): after
worker 0 no further item can be chosen (`blocked 1`), so the loop keeps polling
until worker 0 is gone although only one of four slots is in use -/
example : (exec .dict
    { nItems := 2, nProc := 4, keyOf := id, exit := (fun _ => 0), blocked := (fun w => w == 1) }
    CTM.Generated.selection.prog { sched := [[], [], [0], [1]] }).outcome = .ok := by decide +kernel
example : (exec .dict
    { nItems := 2, nProc := 4, keyOf := id, exit := (fun _ => 0), blocked := (fun w => w == 1) }
    CTM.Generated.selection.prog { sched := [[], [], []] }).outcome = .spin := by decide +kernel

/-! ## `run_mapping` -/

/-- the shape of `run_mapping` / `_run_mapping` / `blob_to_hdf5` that the model
`runMapping` transcribes is the one the translator finds in the source -/
theorem mapping_shape_matches : CTM.Generated.runMappingShape = expectedMappingShape := rfl

/-- "A mapping run in that situation writes no result records, no CSV and no
success message, though it still writes its log": if the type assignment
raises (a worker failed) then `run_mapping` raises; the JSON it writes has no
`results`; the HDF5 file holds the `metadata` dataset only, without `results`
in it; no CSV is written; the log file is written (when a log path is given),
contains the traceback and not the success line. -/
theorem mapping_failure_output (r : InnerRun) (h : r.assignRaises = true) :
    let w := runMapping r
    w.raised = true ∧ w.csv = false ∧
    (∀ ks, w.json = some ks → "results" ∉ ks) ∧
    (∀ m ds, w.hdf5 = some (m, ds) → ds = ["metadata"] ∧ "results" ∉ m) ∧
    (r.jsonRequested = true → w.json.isSome) ∧
    (r.logRequested = true → ∃ l, w.logFile = some l ∧ LogLine.success ∉ l ∧ LogLine.traceback ∈ l) := by
  have hk : "results" ∉ ["config", "log", "metadata"] := by simp
  simp only [runMapping_eq, h, Bool.true_or, Bool.not_true, Bool.false_and, if_true, List.nil_append,
    blobToHdf5_of_not_mem hk]
  refine ⟨trivial, trivial, fun ks hks => ?_, fun m ds hm => ?_, fun hj => ?_, fun hl => ?_⟩
  · split at hks <;> cases hks
    exact hk
  · split at hm <;> cases hm
    exact ⟨rfl, hk⟩
  · rw [if_pos hj]
    rfl
  · exact ⟨_, if_pos hl, by decide, by decide⟩

example : (runMapping { assignRaises := true, csvRequested := true }).raised = true := by decide +kernel

/-- the same holds for any failure inside `_run_mapping` except that a CSV may
exist if the failure came after it was written; and a failure can never be
reported as success: the success line is logged iff the call does not raise -/
theorem mapping_success_line_iff (r : InnerRun) :
    let w := runMapping r
    (∀ l, w.logFile = some l → (LogLine.success ∈ l ↔ w.raised = false)) ∧
    (∀ ks, w.json = some ks → "results" ∈ ks → r.assignRaises = false ∧ r.lateRaises = false) := by
  simp only [runMapping_eq]
  constructor
  · intro l hl
    split at hl <;> cases hl
    cases (r.assignRaises || r.lateRaises || r.summaryRaises) <;> decide
  · intro ks hks hres
    split at hks <;> cases hks
    cases hf : (r.assignRaises || r.lateRaises)
    · exact Bool.or_eq_false_iff.mp hf
    · rw [hf] at hres
      simp at hres

/-- non-vacuity of the model: a run in which nothing raises writes results,
the CSV and the success line -/
example : let w := runMapping { assignRaises := false, csvRequested := true }
    w.raised = false ∧ w.csv = true ∧ (∃ ks, w.json = some ks ∧ "results" ∈ ks) := by decide +kernel

/-- "HDF5 result writer emits only metadata when results are absent":
`blob_to_hdf5` of a blob without `results` creates the `metadata` dataset and
nothing else, and the metadata never contains `results` -/
theorem hdf5_metadata_only (keys : Keys) :
    "results" ∉ (blobToHdf5 keys).1 ∧
    ("results" ∉ keys → blobToHdf5 keys = (keys, ["metadata"])) :=
  ⟨results_not_mem_blobToHdf5_fst keys, blobToHdf5_of_not_mem⟩

example : blobToHdf5 ["config", "log", "metadata"] = (["config", "log", "metadata"], ["metadata"]) :=
  (hdf5_metadata_only _).2 (by decide +kernel)
example : (blobToHdf5 ["results", "taxonomy_tree", "config"]).2.length > 1 := by decide +kernel

/-! ## the mapping end to end -/

/-- `run_mapping` on top of the regenerated mapping stage: the type assignment
raises exactly when the stage machine fails -/
def mappingRun (env : Env) (sched : List Poll) (csvRequested : Bool) : MappingWorld :=
  runMapping
    { assignRaises :=
        match exec CTM.Generated.mapping.container env CTM.Generated.mapping.prog { sched := sched } with
        | .failed _ _ => true
        | _ => false
      csvRequested := csvRequested }

/-- end to end for the mapping: for every number of chunks, `n_processors`,
schedule and exit-code assignment, if the poll loop of
`run_type_assignment_on_h5ad_cpu` (as re-extracted from the source) raises
because of a worker, then `run_mapping` raises, its JSON has no `results`, no
CSV exists, the log is written without the success line; and the loop cannot
return normally if a started worker has a non-zero exit code -/
theorem mapping_end_to_end (env : Env) (sched : List Poll) (csv : Bool) :
    let r := exec CTM.Generated.mapping.container env CTM.Generated.mapping.prog { sched := sched }
    ((∃ w, w < r.state.started ∧ env.exit w ≠ 0) → r.outcome ≠ .ok) ∧
    (∀ c s, r = .failed c s →
      let w := mappingRun env sched csv
      w.raised = true ∧ w.csv = false ∧ (∀ ks, w.json = some ks → "results" ∉ ks) ∧
      (∃ l, w.logFile = some l ∧ LogLine.success ∉ l)) := by
  constructor
  · intro hbad
    have hwf : wellFormed CTM.Generated.mapping.prog = true := by decide
    have hk : KeysOK CTM.Generated.mapping.container env.keyOf := by
      -- mapping polls a list, and `KeysOK` only constrains dict stages
      intro h; exact absurd h (by decide)
    exact failed_worker_never_ok _ _ hwf env hk sched hbad
  · intro c s hr
    have hm := mapping_failure_output
      { assignRaises := true, csvRequested := csv } rfl
    simp only [mappingRun, hr]
    obtain ⟨h1, h2, h3, _, _, h6⟩ := hm
    exact ⟨h1, h2, h3, by
      obtain ⟨l, hl, hs, _⟩ := h6 rfl
      exact ⟨l, hl, hs⟩⟩

example : (mappingRun { nItems := 3, nProc := 2, keyOf := id, exit := fun w => if w = 2 then -9 else 0 }
    [[0], [1, 2], [1, 2]] true).raised = true := by decide +kernel

end CTM.C14
