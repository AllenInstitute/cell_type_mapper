/-
  Property C08 — "Marker genes are reconciled with the query by name, with
  ancestor fallback" — stated about the model `CTM/Model/Markers.lean` for ALL
  taxonomies, marker tables, query / reference gene lists and `min_markers`.

  The same theorems with `validate t = .ok ()` and the dict convention `DictOK t` in place of
  `TreeWF t` are in `Props/C08/Bridge.lean` (through `Bridge.treeWF_of_WF`).

  Vocabulary (`TreeWF`, `Consulted` in the first block of CTM/Lemmas/Markers.lean, `specGenes` and
  `errAt` in its sections "the specification" and "one patch"; `RowsFor`, `ReportedEntry`, `Populated`
  in CTM/Lemmas/MarkersCache.lean; the loop state `VState` and body `validateStepWith` in the model):
    `TreeWF t`      level names distinct, ≥ 1 level, every level has its dict,
                    node names of a level distinct (what a validated taxonomy is)
    `Consulted t p` parent `p` has ≥ 2 children (the run chooses among them)
    `specGenes t lk Q m p`  the property's first sentence, computed from the
                    ORIGINAL table `lk`: own list ∩ Q if that has ≥ m genes or
                    `p` is the root; else own ∪ lists of the ancestors present
                    in the table, nearest first, until ≥ m genes of Q; then the
                    root's list; always ∩ Q
    `errAt t lk Q m p`  root missing/empty, or `specGenes` is empty
    `RowsFor R Q rows names`  row j = (reference index, query index) of names[j]
    `KeysNodup lk`  the table is a dict
    `ReportedEntry t c k g`  `g` is what `serialize_markers` writes for key `k`: `[]` for fewer
                    than two children, the cache group of `k` otherwise
    `Populated t`   every parent has at least one child
-/
import CTM.Lemmas.MarkersCache
import CTM.Lemmas.TreeValidate

namespace CTM.C08
open CTM CTM.Markers

/-! ## the genes used = the genes reported = the specification -/

/-- "The genes used at a parent node, which are also the genes the output
reports for it, are the parent's listed markers that occur in the query; if
fewer than the configured minimum remain, the lists of its ancestors are added
nearest first, and finally the root's, until the minimum is reached, always
restricted to genes present in the query."

For every consulted parent of a run whose cache creation succeeds: the group
exists; what `assemble_query_data` selects (`assemble`) and what
`serialize_markers` reads back (`reportedGroup`) are the same list `names`;
as a set it is `specGenes` of the original table; no repetition; rows in
increasing reference index, row `j` holding the reference index and the query
index of `names[j]` ("paired by gene name regardless of column order"). -/
theorem spec (t : RawTree) (hT : TreeWF t) (lk : Lookup) (R Q : List Gene) (m : Nat) (c : Cache)
    (h : createCache (some t) lk R Q m = .ok c) (p : PKey) (hp : p ∈ t.allParents)
    (hc : Consulted t p) :
    ∃ rows names, c.groups.lookup p = some rows ∧ RowsFor R Q rows names ∧
      rows.Pairwise (fun a b => a.1 ≤ b.1) ∧
      reportedGroup c p = .ok names ∧ assemble c p = .ok names ∧
      (∀ g, g ∈ names ↔ g ∈ specGenes t lk Q m p) ∧ names.Nodup :=
  createCache_group t (treeOK_of_wf t hT) lk R Q m c h p hp hc

/-- "... which are also the genes the output reports for it": every entry of
the output table (`serialize_markers`) is the cache group of its parent — the
list `spec` speaks about — or `[]` when the parent has fewer than two children;
there is exactly one key per parent of the taxonomy. -/
theorem reported_is_cache (t : RawTree) (c : Cache) (out : List (PKey × List Gene))
    (h : serialize t c = .ok out) :
    (∀ k, k ∈ out.map (·.1) ↔ k ∈ t.allParents) ∧ ∀ e ∈ out, ReportedEntry t c e.1 e.2 :=
  serialize_spec t c out h

/-- "if fewer than the configured minimum remain, the lists of its ancestors
are added nearest first, and finally the root's, until the minimum is reached":
for a non-root parent with fewer than `m` own markers in the query, `specGenes`
is `Q ∩ (own ∪ L(a₁) ∪ … ∪ L(a_k))` where `a₁, a₂, …` are the ancestors present
in the table, nearest first, every shorter union has fewer than `m` genes of
the query, and either the union has at least `m` of them or all ancestors were
used and the root's list is added. -/
theorem spec_nearest_first (t : RawTree) (lk : Lookup) (Q : List Gene) (m : Nat) (l : Level) (n : Node)
    (hlt : countQ Q ((get? lk (some (l, n))).getD []) < m) :
    let own := (get? lk (some (l, n))).getD []
    let present := (ancestorKeys t l n).filterMap (get? lk)
    ∃ k, k ≤ present.length ∧
      (∀ j, j < k → countQ Q (own ++ (present.take j).flatten) < m) ∧
      ((countQ Q (own ++ (present.take k).flatten) ≥ m ∧
          specGenes t lk Q m (some (l, n)) = interQ Q (own ++ (present.take k).flatten)) ∨
       (k = present.length ∧ countQ Q (own ++ (present.take k).flatten) < m ∧
          specGenes t lk Q m (some (l, n)) =
            interQ Q (own ++ (present.take k).flatten ++ (get? lk none).getD []))) := by
  intro own present
  obtain ⟨k, hk, he, h1, h2⟩ := specAcc_prefix Q m present own hlt
  refine ⟨k, hk, h2, ?_⟩
  unfold specGenes
  simp only [hlt, if_true]
  -- restates the two tests with the local `present`, `own`, in which `he` is stated, so that it rewrites
  change (_ ∧ (if countQ Q (specAcc Q m present own) < m then _ else _) = _) ∨
    (_ ∧ _ ∧ (if countQ Q (specAcc Q m present own) < m then _ else _) = _)
  rw [he]
  by_cases hge : countQ Q (own ++ (present.take k).flatten) < m
  · right
    refine ⟨?_, hge, by simp [hge]⟩
    by_cases hkl : k < present.length
    · have := h1 hkl; omega
    · omega
  · left
    exact ⟨by omega, by simp [hge]⟩

/-- "... until the minimum is reached": after the fallback a non-root parent
has at least `m` genes of the query, unless the table is exhausted — then it
has every gene of the query listed for it, for ANY of its ancestors present in
the table, or for the root. -/
theorem min_reached_or_exhausted (t : RawTree) (lk : Lookup) (Q : List Gene) (m : Nat) (l : Level)
    (n : Node) (hlt : countQ Q ((get? lk (some (l, n))).getD []) < m) :
    m ≤ (specGenes t lk Q m (some (l, n))).length ∨
    specGenes t lk Q m (some (l, n)) =
      interQ Q ((get? lk (some (l, n))).getD [] ++
        ((ancestorKeys t l n).filterMap (get? lk)).flatten ++ (get? lk none).getD []) := by
  obtain ⟨k, _, _, h | ⟨hk, _, h⟩⟩ := spec_nearest_first t lk Q m l n hlt
  · left
    rw [h.2]
    exact h.1
  · right
    rw [h, hk, List.take_length]

/-- "... are the parent's listed markers that occur in the query" when enough
of them remain, and always for the root: no fallback. -/
theorem spec_enough (t : RawTree) (lk : Lookup) (Q : List Gene) (m : Nat) (p : PKey)
    (h : p = none ∨ countQ Q ((get? lk p).getD []) ≥ m) :
    specGenes t lk Q m p = interQ Q ((get? lk p).getD []) := by
  cases p with
  | none => rfl
  | some ln =>
    obtain ⟨l, n⟩ := ln
    rw [specGenes_some, if_neg]
    rcases h with h | h
    · cases h
    · omega

/-- own markers survive the patching; nothing outside the query is ever used:
`L(p) ∩ Q ⊆ used p ⊆ Q` -/
theorem own_survive (t : RawTree) (lk : Lookup) (Q : List Gene) (m : Nat) (p : PKey) (g : Gene) :
    (g ∈ (get? lk p).getD [] → g ∈ Q → g ∈ specGenes t lk Q m p) ∧
    (g ∈ specGenes t lk Q m p → g ∈ Q) :=
  specGenes_own t lk Q m p g

/-- a gene used at a parent is listed for the parent, for one of its ancestors,
or for the root — never taken from anywhere else in the table -/
theorem spec_sources (t : RawTree) (lk : Lookup) (Q : List Gene) (m : Nat) (l : Level) (n : Node)
    (g : Gene) (h : g ∈ specGenes t lk Q m (some (l, n))) :
    g ∈ (get? lk (some (l, n))).getD [] ∨
    (∃ a ∈ ancestorKeys t l n, ∃ la, get? lk a = some la ∧ g ∈ la) ∨
    g ∈ (get? lk none).getD [] := by
  rw [specGenes_some, mem_interQ] at h
  split at h
  · exact (mem_fallback_bounds ..).2 h.1
  · exact Or.inl h.1

/-- "deepest parents first; union with ancestors' ORIGINAL lists": although
`validate_marker_lookup` mutates the table while it walks it, every list it
reads while patching a parent is still the original one — the loop over the
mutated dict (`validateStep`) equals the loop that reads the original table. -/
theorem original_lists (t : RawTree) (hT : TreeWF t) (Q : List Gene) (m : Nat) (lk : Lookup) :
    foldSteps (validateStep t Q m) t.allParents.reverse { lookup := lk } =
      foldSteps (validateStepWith t Q m (fun _ => lk)) t.allParents.reverse { lookup := lk } :=
  validateLoop_orig t (treeOK_of_wf t hT) Q m lk

/-- the validated table: consulted parents hold (within the query) `specGenes`
of the original table; every other key — single-child parents, keys naming no
node of the run's taxonomy — is left exactly as it was. -/
theorem validated_table (t : RawTree) (hT : TreeWF t) (Q : List Gene) (m : Nat) (lk lk' : Lookup)
    (h : validateLookup t Q m lk = .ok lk') :
    (∀ p ∈ t.allParents, Consulted t p →
        ∀ g, (g ∈ (get? lk' p).getD [] ∧ g ∈ Q) ↔ g ∈ specGenes t lk Q m p) ∧
    (∀ k, ¬ (k ∈ t.allParents ∧ Consulted t k) → get? lk' k = get? lk k) :=
  validateLookup_entries t (treeOK_of_wf t hT) Q m lk lk' h

/-! ## pairing by name, independence of column order -/

/-- "Query and reference values are paired by gene name regardless of column
order": whether the run is accepted, and with which error it ends, depends on
the query and reference gene lists only as sets — in particular not on their
order. -/
theorem verdict_order_invariant (t : RawTree) (hT : TreeWF t) (lk : Lookup) {R R' Q Q' : List Gene}
    (m : Nat) (hQ : ∀ g, g ∈ Q ↔ g ∈ Q') (hR : ∀ g, g ∈ R ↔ g ∈ R') (e : MErr) :
    createCache (some t) lk R Q m = .error e ↔ createCache (some t) lk R' Q' m = .error e := by
  have hT := treeOK_of_wf t hT
  cases hv : validateLookup t Q m lk with
  | error e' => rw [createCache_some, createCache_some, ← validateLookup_congrQ hQ, hv]
  | ok lk' =>
    obtain ⟨cons, hc⟩ := consultedOf_ok t t.allParents hT.childrenOk
    rw [createCache_error_iff t lk R Q m lk' hv cons hc,
      createCache_error_iff t lk R' Q' m lk' (validateLookup_congrQ hQ t m lk ▸ hv) cons hc]
    rw [anyNoOverlap_congrQ hQ, missingRef_congrR hR]

/-- ... and so do the genes used at every consulted parent: after permuting
the columns of the query and of the reference (any re-listing of the same
names), each consulted parent uses the same set of genes (listed in the new
reference order, by `spec`). -/
theorem genes_order_invariant (t : RawTree) (hT : TreeWF t) (lk : Lookup) {R R' Q Q' : List Gene}
    (m : Nat) (hQ : ∀ g, g ∈ Q ↔ g ∈ Q') (c c' : Cache)
    (h : createCache (some t) lk R Q m = .ok c) (h' : createCache (some t) lk R' Q' m = .ok c')
    (p : PKey) (hp : p ∈ t.allParents) (hc : Consulted t p) :
    ∃ names names', assemble c p = .ok names ∧ assemble c' p = .ok names' ∧
      ∀ g, g ∈ names ↔ g ∈ names' := by
  obtain ⟨_, names, _, _, _, _, ha, hm, _⟩ := spec t hT lk R Q m c h p hp hc
  obtain ⟨_, names', _, _, _, _, ha', hm', _⟩ := spec t hT lk R' Q' m c' h' p hp hc
  refine ⟨names, names', ha, ha', fun g => ?_⟩
  rw [hm, hm', specGenes_congrQ hQ]

/-- Python enumerates `set(markers) ∩ set(query)` in an arbitrary order before
writing the group: the group written does not depend on that order. -/
theorem enumeration_immaterial (R Q : List Gene) {genes genes' : List Gene} (hp : genes.Perm genes') :
    writeGroup R Q genes = writeGroup R Q genes' :=
  writeGroup_perm R Q hp

/-! ## parents with a single child need no markers -/

/-- "parents with a single child need no markers": the validation does not
look at the entry of a parent with fewer than two children (missing, empty or
junk), changes nothing and reports no error for it ... -/
theorem single_child_free (t : RawTree) (Q : List Gene) (m : Nat) (st : VState) (p : PKey)
    (ch : List Node) (hc : childrenOf t p = .ok ch) (hl : ¬ ch.length > 1) :
    validateStep t Q m st p = .ok { st with skipped := st.skipped + 1 } := by
  rw [validateStep, validateStepWith_eq, hc]
  exact if_pos (Nat.le_of_not_lt hl)

/-- ... the cache writer does not refuse its list for lack of overlap with the
query (only consulted keys can raise) ... -/
theorem single_child_no_overlap_error (Q : List Gene) (cons : List PKey) (lk final : Lookup)
    (h : ∀ e ∈ lk, e.1 ∈ cons → ¬ (interQ Q e.2 = [] ∧ e.2 ≠ [])) :
    intersectAll Q (some cons) lk = .ok (lk.map (fun e => (e.1, interQ Q e.2))) := by
  apply intersectAll_ok_of_forall
  rintro e he ⟨h1, h2, h3⟩
  simp only [isConsultedKey, List.contains_iff_mem] at h1
  exact h e he h1 ⟨h2, h3⟩

/-- ... and the output reports `[]` for it. -/
theorem single_child_reports_nothing (t : RawTree) (c : Cache) (out : List (PKey × List Gene))
    (h : serialize t c = .ok out) (l : Level) (n : Node) (g : List Gene) (he : (some (l, n), g) ∈ out)
    (ch : List Node) (hc : childrenOf t (some (l, n)) = .ok ch) (hl : ch.length < 2) : g = [] := by
  have := (serialize_keyed t c out h).2 _ he
  rw [reportedOf_of_children hc, if_pos hl] at this
  cases this
  rfl

/-! ## errors -/

/-- `validate_marker_lookup` accepts the table exactly when no consulted parent
is in the error condition `errAt` (root missing or empty; or nothing in the
query after the whole fallback). -/
theorem validate_ok_iff (t : RawTree) (hT : TreeWF t) (Q : List Gene) (m : Nat) (lk : Lookup) :
    (∃ lk', validateLookup t Q m lk = .ok lk') ↔
      ∀ p ∈ t.allParents, Consulted t p → ¬ errAt t lk Q m p :=
  validateLookup_ok_iff t (treeOK_of_wf t hT) Q m lk

/-- "A root without usable markers ... ends the run with an error instead of a
mapping": a consulted root none of whose listed markers is in the query
(missing, empty, or disjoint from the query), for every `min_markers`. -/
theorem root_without_markers_rejected (t : RawTree) (hT : TreeWF t) (lk : Lookup) (R Q : List Gene)
    (m : Nat) (hc : Consulted t none) (h0 : interQ Q ((get? lk none).getD []) = []) :
    ∃ e, createCache (some t) lk R Q m = .error e :=
  createCache_rejects_errAt t (treeOK_of_wf t hT) lk R Q m none RawTree.none_mem_allParents hc (Or.inr h0)

/-- "a marker unknown to the reference ... ends the run with an error": a
marker listed under any key of the table (consulted or not) that the query has
but the reference lacks. -/
theorem unknown_marker_rejected (t : RawTree) (hT : TreeWF t) (lk : Lookup) (R Q : List Gene) (m : Nat)
    (hk : KeysNodup lk) (k : PKey) (l : List Gene) (hkl : (k, l) ∈ lk) (g : Gene) (hg : g ∈ l)
    (hq : g ∈ Q) (hr : g ∉ R) :
    ∃ e, createCache (some t) lk R Q m = .error e := by
  have hT := treeOK_of_wf t hT
  cases hv : validateLookup t Q m lk with
  | error e => exact ⟨e, by rw [createCache_some, hv]⟩
  | ok lk' =>
    obtain ⟨cons, hc⟩ := consultedOf_ok t t.allParents hT.childrenOk
    have hget : get? lk k = some l := ListAux.lookup_of_mem_nodup hk hkl
    -- the gene is still listed under the same key after validation
    have hstill : ∃ l', (k, l') ∈ lk' ∧ g ∈ l' := by
      by_cases hcons : k ∈ t.allParents ∧ Consulted t k
      · have h1 := (specGenes_own t lk Q m k g).1 (by simpa [hget] using hg) hq
        have h2 := ((validateLookup_entries t hT Q m lk lk' hv).1 k hcons.1 hcons.2 g).2 h1
        cases hg' : get? lk' k with
        | none => simp [hg'] at h2
        | some l' =>
          simp only [hg', Option.getD_some] at h2
          exact ⟨l', ListAux.mem_of_lookup hg', h2.1⟩
      · have := (validateLookup_entries t hT Q m lk lk' hv).2 k hcons
        rw [hget] at this
        exact ⟨l, ListAux.mem_of_lookup this, hg⟩
    obtain ⟨l', hl', hgl'⟩ := hstill
    cases hcc : createCache (some t) lk R Q m with
    | error e => exact ⟨e, rfl⟩
    | ok c =>
      have hm := ((createCache_ok_iff t lk R Q m lk' hv cons hc).1 ⟨c, hcc⟩).2
      exact absurd ((missingRef_false_iff R lk').1 hm (k, l') hl' g hgl') hr

/-- "a query sharing no marker with the table ends the run with an error": a
consulted parent for which the query has none of the genes the table offers it
(own, ancestors', root's) ends the run — for every `min_markers`, 0 included. -/
theorem no_shared_marker_rejected (t : RawTree) (hT : TreeWF t) (lk : Lookup) (R Q : List Gene) (m : Nat)
    (p : PKey) (hp : p ∈ t.allParents) (hc : Consulted t p)
    (h0 : specGenes t lk Q m p = []) :
    ∃ e, createCache (some t) lk R Q m = .error e :=
  createCache_rejects_errAt t (treeOK_of_wf t hT) lk R Q m p hp hc (Or.inr h0)

/-- "... and conversely none of these ⇒ a mapping": a dict-like table all of
whose listed genes are reference genes is accepted as soon as no consulted
parent is in the error condition — whatever is listed for single-child parents
or for keys that name no node (no spurious rejection). -/
theorem accepted_otherwise (t : RawTree) (hT : TreeWF t) (lk : Lookup) (R Q : List Gene) (m : Nat)
    (hk : KeysNodup lk)
    (hval : ∀ p ∈ t.allParents, Consulted t p → ¬ errAt t lk Q m p)
    (hR : ∀ e ∈ lk, ∀ g ∈ e.2, g ∈ R) :
    ∃ c, createCache (some t) lk R Q m = .ok c := by
  have hT := treeOK_of_wf t hT
  obtain ⟨lk', hv⟩ := (validateLookup_ok_iff t hT Q m lk).2 hval
  obtain ⟨cons, hc⟩ := consultedOf_ok t t.allParents hT.childrenOk
  refine (createCache_ok_iff t lk R Q m lk' hv cons hc).2
    ⟨validated_noOverlap t hT lk Q m hk lk' hv cons hc, (missingRef_false_iff R lk').2 fun e he g hg => ?_⟩
  obtain ⟨e0, he0, hg0⟩ := validateLookup_genesFrom t hT Q m lk lk' hv e he g hg
  exact hR e0 he0 g hg0

/-- with a taxonomy the cache writer's own "No markers at parent node … were
present in query set" cannot be what ends the run: consulted parents
without a query marker were refused by the validation, unconsulted keys
(single child, dropped level) cannot raise it. -/
theorem overlap_error_unreachable (t : RawTree) (hT : TreeWF t) (lk : Lookup) (R Q : List Gene) (m : Nat)
    (hk : KeysNodup lk) : createCache (some t) lk R Q m ≠ .error .noQueryOverlap := by
  have hT := treeOK_of_wf t hT
  intro h
  rcases createCache_error_cases t hT lk R Q m _ h with (h | h) | ⟨lk', cons, hv, hc, ⟨h, _⟩ | ⟨_, _, h⟩⟩
  · cases h
  · cases h
  · rw [validated_noOverlap t hT lk Q m hk lk' hv cons hc] at h
    cases h
  · cases h

/-- the run never ends in an unplanned `KeyError` / `IndexError` of the name →
column tables: the only errors of the cache creation are the four documented
messages. -/
theorem only_documented_errors (t : RawTree) (hT : TreeWF t) (lk : Lookup) (R Q : List Gene) (m : Nat)
    (e : MErr) (h : createCache (some t) lk R Q m = .error e) :
    e = .noMarkersAnyLevel ∨ e = .validating ∨ e = .noQueryOverlap ∨ e = .notInReference := by
  have hT := treeOK_of_wf t hT
  rcases createCache_error_cases t hT lk R Q m e h with (h | h) | ⟨_, _, _, _, ⟨_, h⟩ | ⟨_, _, h⟩⟩
  · exact Or.inl h
  · exact Or.inr (Or.inl h)
  · exact Or.inr (Or.inr (Or.inl h))
  · exact Or.inr (Or.inr (Or.inr h))

/-! ## flattening -/

/-- "flattening unions every list into the root's": the flattened table has the
single key `'None'`, whose list is the sorted, repetition-free union of all
lists of the table. -/
theorem flatten_union (lk : Lookup) :
    ∃ genes, flattenLookup lk = [(none, genes)] ∧ genes.Pairwise (· < ·) ∧
      ∀ g, g ∈ genes ↔ ∃ e ∈ lk, g ∈ e.2 :=
  flattenLookup_spec lk

/-- "flattening unions every list into the root's" — end to end: in a flattened
run the only parent is the root, and the genes it uses (= reports) are exactly
the genes of the query that occur in ANY list of the original table. -/
theorem flatten_spec (t : RawTree) (hT : TreeWF t.flatten) (lk : Lookup) (R Q : List Gene) (m : Nat)
    (c : Cache) (h : createCache (some t.flatten) (flattenLookup lk) R Q m = .ok c)
    (hc : Consulted t.flatten none) :
    ∃ names, assemble c none = .ok names ∧ reportedGroup c none = .ok names ∧
      ∀ g, g ∈ names ↔ g ∈ Q ∧ ∃ e ∈ lk, g ∈ e.2 := by
  obtain ⟨_, names, _, _, _, hrep, hass, hmem, _⟩ :=
    spec t.flatten hT (flattenLookup lk) R Q m c h none RawTree.none_mem_allParents hc
  refine ⟨names, hass, hrep, fun g => ?_⟩
  rw [hmem, spec_enough _ _ _ _ _ (Or.inl rfl)]
  obtain ⟨genes, hfl, _, hg⟩ := flatten_union lk
  rw [hfl, mem_interQ]
  simp only [get?, List.lookup_cons, beq_self_eq_true, Option.getD_some]
  rw [hg]
  exact And.comm

/-! ## the whole marker stage -/

/-- once the cache is written, the rest of the marker stage of a run without
`drop_level` / `flatten` cannot fail (`reconcile_taxonomy_and_markers`, the
per-node `assemble_query_data` gene lists, `serialize_markers`), and for every
consulted parent the genes used are the genes reported.  `Populated`: every
parent has at least one child. -/
theorem stage_succeeds (t : RawTree) (hT : TreeWF t) (hpop : Populated t) (lk : Lookup) (R Q : List Gene)
    (m : Nat) (c : Cache) (h : createCache (some t) lk R Q m = .ok c) :
    ∃ out, stage t lk R Q m none false = .ok out ∧
      (∀ e ∈ out.used, e.1 ∈ t.allParents ∧ Consulted t e.1 ∧ assemble c e.1 = .ok e.2 ∧
        reportedGroup c e.1 = .ok e.2) ∧
      (∀ e ∈ out.reported, ReportedEntry t c e.1 e.2) := by
  have hT := treeOK_of_wf t hT
  have hgrp : ∀ p ∈ t.allParents, Consulted t p →
      ∃ names, assemble c p = .ok names ∧ reportedGroup c p = .ok names := by
    intro p hp hc
    obtain ⟨_, names, _, _, _, hrep, ha, _⟩ := createCache_group t hT lk R Q m c h p hp hc
    exact ⟨names, ha, hrep⟩
  obtain ⟨cons, hc⟩ := consultedOf_ok t t.allParents hT.childrenOk
  have hcons := consultedOf_spec t _ cons hc
  obtain ⟨used, hu, hkeys, hue⟩ := usedOf_ok c cons (fun p hp =>
    have ⟨hpa, hpc⟩ := (hcons p).1 hp
    (hgrp p hpa hpc).imp fun _ h => h.1)
  obtain ⟨rep, hrep⟩ := serialize_ok t c (fun p hp => by
    obtain ⟨ch, hch⟩ := hT.childrenOk p hp
    by_cases hl : ch.length < 2
    · exact ⟨[], ch, hch, by rw [if_pos hl]⟩
    · obtain ⟨names, _, hr⟩ := hgrp p hp ⟨ch, hch, Nat.le_of_not_lt hl⟩
      exact ⟨names, ch, hch, by rw [if_neg hl, hr]⟩)
  refine ⟨{ reported := rep, used := used },
    (stage_plain_ok_iff ..).2 ⟨c, cons, h, reconcile_ok t hT hpop lk R Q m c h, hc, hu, hrep⟩, ?_,
    (serialize_spec t c rep hrep).2⟩
  intro e he
  obtain ⟨hpa, hpc⟩ := (hcons e.1).1 (hkeys ▸ List.mem_map_of_mem he)
  obtain ⟨names, ha, hr⟩ := hgrp e.1 hpa hpc
  have hass := hue e he
  rw [hass] at ha
  cases ha
  exact ⟨hpa, hpc, hass, hr⟩

/-- `drop_level`: the marker stage of a run that drops level `l` is the marker
stage on the reduced taxonomy with the SAME table (keys of the dropped level
stay in the table as orphans; by `validated_table` and
`overlap_error_unreachable` they are neither read nor able to fail the run);
a level that is not in the hierarchy is ignored. -/
theorem drop_level_stage (t : RawTree) (lk : Lookup) (R Q : List Gene) (m : Nat) (l : Level)
    (flatten : Bool) :
    (t.hierarchy.contains l = false →
      stage t lk R Q m (some l) flatten = stage t lk R Q m none flatten) ∧
    (∀ t', t.hierarchy.contains l = true → t.dropLevel l = .ok t' →
      stage t lk R Q m (some l) flatten = stage t' lk R Q m none flatten) := by
  constructor
  · intro h
    simp only [stage, h, Bool.false_eq_true, if_false]
  · intro t' h hd
    simp only [stage, h, if_true, hd]

/-! ## the hypothesis `TreeWF` -/

/-- the hypothesis `TreeWF` of the theorems above is what a validated taxonomy
is: accepted by `validate_taxonomy_tree` (model `RawTree.validate`), level
names distinct, node names of each level distinct (they are dict keys). -/
theorem validated_tree_is_wf (t : RawTree) (hv : t.validate = .ok ()) (hN : t.hierarchy.Nodup)
    (hne : t.hierarchy ≠ []) (hK : ∀ l ∈ t.hierarchy, (t.nodesAt l).Nodup) : TreeWF t :=
  ⟨hN, hne, (RawTree.strict_of_validate hv).hierSub, hK⟩

/-! ## non-vacuity: a concrete run meets the hypotheses

levels 0 (class), 1 (subclass), 2 (cluster); class 10 has subclasses 20, 21;
class 11 has the single subclass 22; subclass 20 has clusters 30, 31.
Table: root ↦ [1,2,3], class 10 ↦ [2,9], subclass 20 ↦ [4] (too few for m = 2),
class 11 ↦ [7] (single child, gene not in the query).  Q = [4,3,2,1], R = [1,2,3,4,7,9]. -/

def t0 : RawTree :=
  { hierarchy := [0, 1, 2]
    levels := [(0, [(10, [20, 21]), (11, [22])]), (1, [(20, [30, 31]), (21, [32]), (22, [33])]),
               (2, [(30, []), (31, []), (32, []), (33, [])])] }

def lk0 : Lookup := [(some (1, 20), [4]), (none, [1, 2, 3]), (some (0, 10), [2, 9]), (some (0, 11), [7])]

theorem t0_treeWF : TreeWF t0 :=
  { hierNodup := by decide +kernel, hierNonempty := by decide +kernel,
    hasLevels := by decide +kernel, nodesNodup := by decide +kernel }
theorem t0_validate : t0.validate = .ok () := by decide +kernel
theorem lk0_keysNodup : KeysNodup lk0 := by unfold KeysNodup; decide +kernel
example : TreeWF t0 := t0_treeWF
example : t0.validate = .ok () := t0_validate
example : KeysNodup lk0 := lk0_keysNodup
example : Consulted t0 (some (1, 20)) := ⟨[30, 31], rfl, by decide +kernel⟩
example : Consulted t0 none := ⟨[10, 11], rfl, by decide +kernel⟩
/-- the fallback is exercised: subclass 20 gets its own gene 4 plus class 10's gene 2 -/
example : specGenes t0 lk0 [4, 3, 2, 1] 2 (some (1, 20)) = [4, 2] := by decide +kernel
example : (createCache (some t0) lk0 [1, 2, 3, 4, 7, 9] [4, 3, 2, 1] 2).toBool = true := by decide +kernel
example : Populated t0 := by
  intro p hp ch hc
  have hall : ∀ p ∈ t0.allParents, (match childrenOf t0 p with
      | .ok ch => decide (1 ≤ ch.length)
      | .error _ => true) = true := by decide +kernel
  have := hall p hp
  rw [hc] at this
  simpa using this
/-- the hypotheses of the rejection theorems are met by small variants -/
example : specGenes t0 lk0 [8] 1 (some (1, 20)) = [] := by decide +kernel
example : interQ [8] ((get? lk0 none).getD []) = [] := by decide +kernel
example : (createCache (some t0) lk0 [1, 2, 3, 4, 7, 9] [8] 1).toBool = false := by decide +kernel
theorem t0_no_errAt : ∀ p ∈ t0.allParents, Consulted t0 p → ¬ errAt t0 lk0 [4, 3, 2, 1] 2 p := by
  apply (validate_ok_iff t0 t0_treeWF [4, 3, 2, 1] 2 lk0).1
  have hb : (validateLookup t0 [4, 3, 2, 1] 2 lk0).toBool = true := by decide +kernel
  cases h : validateLookup t0 [4, 3, 2, 1] 2 lk0 with
  | ok lk' => exact ⟨lk', rfl⟩
  | error e => simp [h, Except.toBool] at hb
example : ∀ p ∈ t0.allParents, Consulted t0 p → ¬ errAt t0 lk0 [4, 3, 2, 1] 2 p := t0_no_errAt

end CTM.C08
