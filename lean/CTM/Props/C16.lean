/-
  Property C16: "Validation rewrites identifiers and integers without altering
  the data" - theorems about the model `CTM.Model.Validate`.
  Helper lemmas: `CTM.Lemmas.Validate`.

  "An integer type wide enough for all values" has three statements about a
  whole run: `cast_at_most_one_over` is the one for the source as it is (any
  comparison mode: every entry fits except one that rounds to exactly one above
  the type's upper limit); `wide_enough` and `cast_holds_all` say that every
  entry fits, under the exact comparison (integer bounds, or `sourceMode = .exact`).

  Not covered here (checked by the test harness, not provable on the model):
  "validating an h5ad file never modifies it" (a file-system fact) and "same
  cells in the same order with the same annotations" (obs is copied verbatim).
-/
import CTM.Lemmas.Validate

namespace CTM.Validate

/-! ### the input of the examples: two cells; an Ensembl identifier with a version suffix, a known
symbol and two unknown names; a chunked dense layer with a tie at 255.5 and a negative value -/

def demoLookup : List (Name × Name) := [(['A','b','c'], ['E','N','S','G','0','7'])]
/-- placeholder names with a unary counter: `u_`, `u_x`, `u_xx`, ... -/
def demoPlaceholder (k : Nat) : Name := 'u' :: '_' :: List.replicate k 'x'

theorem demoPlaceholder_injective :
    Function.Injective (fun k => stripSuffix (demoPlaceholder k)) := by
  intro a b hab
  have h : ∀ k, stripSuffix (demoPlaceholder k) = demoPlaceholder k := by
    intro k; apply stripSuffix_eq_self; simp [demoPlaceholder]
  simp only [h] at hab
  have := congrArg List.length hab
  simpa [demoPlaceholder] using this

def demoInput : Input :=
  { cellIds := [['c','1'],['c','2']]
    genes := [['E','N','S','G','0','1','.','2'], ['A','b','c'], ['x','y'], ['z']]
    layerIsX := true, roundToInt := true, intDtype := false, floatBits := none
    storage := .dense [[1/2, 255 + 1/2, 0, 3], [3, 0, 7/4, -1/2]] 4 (some (1, 3))
    eps := 1/1000, expectedMax := none, lookup := demoLookup, start := 2 }

end CTM.Validate

namespace CTM.C16
open CTM.Validate

/-! ### rounding: "every value moved by at most one half to an integer" -/

/-- "every value moved by at most one half to an integer": `np.round` (nearest
integer, ties to even) moves no value by more than one half. -/
theorem round_half (x : Rat) :
    -(1/2) ≤ (roundHalfEven x : Rat) - x ∧ (roundHalfEven x : Rat) - x ≤ 1/2 :=
  abs_le.mp (Round.rhe_error x)

example : roundHalfEven (5/2) = 2 ∧ roundHalfEven (7/2) = 4 ∧ roundHalfEven (-5/2) = -2 ∧
    roundHalfEven (511/2) = 256 ∧ roundHalfEven (-1/2) = 0 ∧ roundHalfEven (7/4) = 2 := by
  decide +kernel

/-- Rounding is monotone: the rounded minimum and maximum bound every rounded
value (this is why the integer type can be chosen from min and max alone). -/
theorem round_mono {x y : Rat} (h : x ≤ y) : roundHalfEven x ≤ roundHalfEven y :=
  roundHalfEven_mono h

example : roundHalfEven (5/2) ≤ roundHalfEven (7/2) := round_mono (by norm_num)

/-- A value that already is an integer is not moved at all. -/
theorem round_int (n : Int) : roundHalfEven (n : Rat) = n :=
  roundHalfEven_intCast n

example : roundHalfEven ((-7 : Int) : Rat) = -7 := round_int (-7)

/-- Ties go to the even neighbour (`np.round` semantics). -/
theorem round_tie_even (x : Rat) (h : x - (x.floor : Rat) = 1/2) : roundHalfEven x % 2 = 0 :=
  (Round.rhe_tie_even x x.floor (eq_add_of_sub_eq' h)).1

example : roundHalfEven (255 + 1/2) % 2 = 0 :=
  round_tie_even _ (by rw [show (255 + 1/2 : Rat).floor = 255 by decide +kernel]; norm_num)

/-! ### the integer type: "held in an integer type wide enough for all values"

Up to `chosen_dtype_holds_all` the statements are for the *exact* comparison of
the rounded bounds with the limits of the integer types (integer bounds,
`floatBits = none`); `dtype_fits_mode_exact` extends them to float bounds
compared as Python ints (mode `exact`).  For the comparison in a floating-point
type (modes `native` and `float64`; `sourceMode` is the mode read from the
source) the statement is false, `dtype_float_compare_too_narrow`, by at most one,
`dtype_float_off_by_one`. -/

/-- "an integer type wide enough for all values": when the ladder of integer
types has a rung accepting the rounded minimum and maximum, every value between
minimum and maximum rounds to an integer inside that rung's range. -/
theorem dtype_fits {mn mx v : Rat} {r : Rung}
    (h : Generated.intLadder.find? (rungAccepts none (roundHalfEven mn) (roundHalfEven mx)) = some r)
    (h1 : mn ≤ v) (h2 : v ≤ mx) : castTo r v = some (roundHalfEven v) :=
  castTo_of_find h h1 h2

example : Generated.intLadder.find? (rungAccepts none (roundHalfEven (-3/2)) (roundHalfEven (255 + 1/2)))
    = some ("int16", -32768, 32767) := by decide +kernel

/-- The chosen rung is the first of the ladder that fits: it accepts the
bounds and no earlier rung does. -/
theorem dtype_first {mn mx : Rat} {r : Rung}
    (h : Generated.intLadder.find? (rungAccepts none (roundHalfEven mn) (roundHalfEven mx)) = some r) :
    chooseIntDtype none mn mx = r ∧
    (r.2.1 ≤ roundHalfEven mn ∧ roundHalfEven mx ≤ r.2.2) ∧
    ∃ pre post, Generated.intLadder = pre ++ r :: post ∧
      ∀ q ∈ pre, ¬ (q.2.1 ≤ roundHalfEven mn ∧ roundHalfEven mx ≤ q.2.2) := by
  obtain ⟨hp, pre, post, e, hq⟩ := List.find?_eq_some_iff_append.1 h
  refine ⟨chooseIntDtype_of_find h, (rungAccepts_none_iff _ _ _).1 hp, pre, post, e, ?_⟩
  intro q hq' hacc
  have := hq q hq'
  rw [(rungAccepts_none_iff _ _ _).2 hacc] at this
  cases this

example : chooseIntDtype none (-3/2) (255 + 1/2) = ("int16", -32768, 32767) := by decide +kernel

/-- A rung exists whenever the rounded bounds fit uint64 or int64 (proved on
the generated ladder: fails to build if these two types leave the ladder). -/
theorem dtype_exists {mn mx : Rat}
    (h : (0 ≤ roundHalfEven mn ∧ roundHalfEven mx ≤ 18446744073709551615) ∨
      (-9223372036854775808 ≤ roundHalfEven mn ∧ roundHalfEven mx ≤ 9223372036854775807)) :
    ∃ r, Generated.intLadder.find?
      (rungAccepts none (roundHalfEven mn) (roundHalfEven mx)) = some r :=
  exists_rung_accepts _ _ h

example : ∃ r, Generated.intLadder.find?
    (rungAccepts none (roundHalfEven 0) (roundHalfEven 18446744073709551615)) = some r :=
  dtype_exists (Or.inl (by decide +kernel))

/-- "values at integer-type boundaries such as 255.5 and 65535.5": 255.5 rounds
to 256 and needs uint16, 254.5 rounds to 254 and stays uint8, 65535.5 needs
uint32, -0.5 rounds to 0 and stays unsigned, -0.51 needs a signed type. -/
theorem dtype_boundaries :
    chooseIntDtype none 0 (255 + 1/2) = ("uint16", 0, 65535) ∧
    chooseIntDtype none 0 (509/2) = ("uint8", 0, 255) ∧
    chooseIntDtype none 0 (65535 + 1/2) = ("uint32", 0, 4294967295) ∧
    chooseIntDtype none (-1/2) 3 = ("uint8", 0, 255) ∧
    chooseIntDtype none (-51/100) 3 = ("int8", -128, 127) ∧
    chooseIntDtype none (-51/100) 128 = ("int16", -32768, 32767) ∧
    chooseIntDtype none 0 4294967296 = ("uint64", 0, 18446744073709551615) ∧
    chooseIntDtype none (-1) 18446744073709551615 =
      ("int64", -9223372036854775808, 9223372036854775807) := by
  decide +kernel

/-- "wide enough for all values": with exact comparison, if some rung accepts
the bounds then every value of a list bounded by `mn` and `mx` fits the chosen
type (no entry is cast out of range). -/
theorem chosen_dtype_holds_all {mn mx : Rat} {r : Rung} {vals : List Rat}
    (h : Generated.intLadder.find? (rungAccepts none (roundHalfEven mn) (roundHalfEven mx)) = some r)
    (hb : ∀ v ∈ vals, mn ≤ v ∧ v ≤ mx) :
    vals.map (castTo (chooseIntDtype none mn mx)) = vals.map (fun v => some (roundHalfEven v)) := by
  rw [chooseIntDtype_of_find h]
  apply List.map_congr_left
  intro v hv
  exact castTo_of_find h (hb v hv).1 (hb v hv).2

example : [1/2, 255 + 1/2, 0].map (castTo (chooseIntDtype none 0 (255 + 1/2))) = [some 0, some 256, some 0] := by
  decide +kernel

/-- "wide enough for all values" holds as well when the bounds are floats but
the source compares them as Python ints (comparison mode `exact`, any stored
float type): the choice is the one made for exact bounds. -/
theorem dtype_fits_mode_exact (fb : Option Nat) {mn mx v : Rat} {r : Rung}
    (h : Generated.intLadder.find?
      (rungAcceptsMode .exact fb (roundHalfEven mn) (roundHalfEven mx)) = some r)
    (h1 : mn ≤ v) (h2 : v ≤ mx) :
    chooseIntDtypeMode .exact fb mn mx = r ∧ castTo r v = some (roundHalfEven v) := by
  rw [rungAcceptsMode_exact (Or.inr rfl)] at h
  exact ⟨by rw [chooseIntDtypeMode_exact (Or.inr rfl), chooseIntDtype_of_find h],
    castTo_of_find h h1 h2⟩

example : chooseIntDtypeMode .exact (some 24) 0 4294967296 = ("uint64", 0, 18446744073709551615) ∧
    castTo ("uint64", 0, 18446744073709551615) 4294967296 = some 4294967296 := by
  decide +kernel

/-- The statement "wide enough" is false for the comparison in a floating-point
type.  In mode `native` (the bounds compared in the stored type, as NumPy ≥ 2
compares numpy scalars) with float32 bounds the limit 4294967295 is seen as
4294967296.0, so uint32 is chosen for a maximum of 2^32, which it cannot hold.
Same for float64 bounds, in mode `native` and in mode `float64` (both bounds
converted with `np.float64(..)` first), at 2^64 (uint64) and 2^63 (int64). -/
theorem dtype_float_compare_too_narrow :
    (chooseIntDtypeMode .native (some 24) 0 4294967296 = ("uint32", 0, 4294967295) ∧
      castTo ("uint32", 0, 4294967295) 4294967296 = none) ∧
    (chooseIntDtypeMode .native (some 53) 0 18446744073709551616 =
        ("uint64", 0, 18446744073709551615) ∧
      chooseIntDtypeMode .float64 (some 24) 0 18446744073709551616 =
        ("uint64", 0, 18446744073709551615) ∧
      castTo ("uint64", 0, 18446744073709551615) 18446744073709551616 = none) ∧
    (chooseIntDtypeMode .native (some 53) (-5) 9223372036854775808 =
        ("int64", -9223372036854775808, 9223372036854775807) ∧
      chooseIntDtypeMode .float64 (some 53) (-5) 9223372036854775808 =
        ("int64", -9223372036854775808, 9223372036854775807) ∧
      castTo ("int64", -9223372036854775808, 9223372036854775807) 9223372036854775808 = none) := by
  decide +kernel

/-- How far the comparison in a floating-point type can go wrong (any comparison
mode, float32 / float64 / integer bounds): the chosen rung contains every
rounded value between the bounds except possibly the single value one above
its upper limit (a power of two that the limit was rounded up to). -/
theorem dtype_float_off_by_one (mode : CompareMode) {fb : Option Nat}
    (hfb : fb = none ∨ fb = some 24 ∨ fb = some 53) {r : Rung} {mn mx v : Rat}
    (h : Generated.intLadder.find?
      (rungAcceptsMode mode fb (roundHalfEven mn) (roundHalfEven mx)) = some r)
    (h1 : mn ≤ v) (h2 : v ≤ mx) :
    castTo r v = (if roundHalfEven v = r.2.2 + 1 then none else some (roundHalfEven v)) ∧
    r.2.1 ≤ roundHalfEven v ∧ roundHalfEven v ≤ r.2.2 + 1 :=
  castTo_of_find_mode mode hfb h h1 h2

example : Generated.intLadder.find? (rungAcceptsMode .native (some 24) (roundHalfEven 0)
    (roundHalfEven 4294967296)) = some ("uint32", 0, 4294967295) := by decide +kernel

/-- the function the pipeline uses is the one of the comparison mode read from the source -/
example (fb : Option Nat) (mn mx : Rat) :
    chooseIntDtype fb mn mx = chooseIntDtypeMode sourceMode fb mn mx :=
  chooseIntDtype_eq_mode fb mn mx

/-! ### gene identifiers -/

/-- "the same genes in the same order": the mapped list has one entry per input gene. -/
theorem genes_length {lookup : List (Name × Name)} {placeholder : Nat → Name} {start : Nat}
    {genes : List Name} {o : MapOut} (h : mapGenes lookup placeholder start genes = .ok o) :
    o.mapped.length = genes.length :=
  mapGenes_mapped_length h

example : mapGenes demoLookup demoPlaceholder 2 demoInput.genes =
    .ok ⟨[['E','N','S','G','0','1'], ['E','N','S','G','0','7'], ['u','_','x','x'], ['u','_','x','x','x']], 2, 4⟩ := by
  decide +kernel

/-- "Ensembl identifiers are kept (minus version suffix), known gene symbols are
replaced by their Ensembl identifier, unknown ones by placeholders": entry `i`
of the output is computed from entry `i` of the input (order preserved); the
placeholder counter is the start value plus the number of unknown names before `i`. -/
theorem genes_pointwise {lookup : List (Name × Name)} {placeholder : Nat → Name} {start : Nat}
    {genes : List Name} {o : MapOut} (h : mapGenes lookup placeholder start genes = .ok o)
    (i : Nat) (hi : i < genes.length) :
    o.mapped[i]? = some (stripSuffix (
      if isEnsembl genes[i] then genes[i]
      else match lookup.lookup genes[i] with
        | some e => e
        | none => placeholder (start +
            (genes.take i).countP (fun g => !isEnsembl g && (lookup.lookup g).isNone)))) := by
  rw [mapGenes_mapped_getElem? h, List.getElem?_eq_getElem hi]
  rfl

example : demoInput.genes[2]? = some ['x','y'] ∧ isEnsembl ['x','y'] = false ∧
    demoLookup.lookup ['x','y'] = none ∧ stripSuffix (demoPlaceholder (2 + 0)) = ['u','_','x','x'] := by
  decide +kernel

/-- "the number of mapped genes": the reported number of unmapped genes is the
number of unknown names, and the placeholder counter advanced by exactly that. -/
theorem genes_unmapped_count {lookup : List (Name × Name)} {placeholder : Nat → Name} {start : Nat}
    {genes : List Name} {o : MapOut} (h : mapGenes lookup placeholder start genes = .ok o) :
    o.nUnmapped = genes.countP (fun g => !isEnsembl g && (lookup.lookup g).isNone) ∧
    o.ct = start + o.nUnmapped := by
  obtain ⟨_, h2, h3⟩ := mapGenes_ok h
  exact ⟨h2, by rw [h3, h2]⟩

example : demoInput.genes.countP (fun g => !isEnsembl g && (demoLookup.lookup g).isNone) = 2 := by
  decide +kernel

/-- "placeholders unique within the file": if the placeholder names (after the
suffix cut) of different counters differ, two different unknown genes get
different names. -/
theorem placeholders_distinct {lookup : List (Name × Name)} {placeholder : Nat → Name} {start : Nat}
    {genes : List Name} {o : MapOut} (h : mapGenes lookup placeholder start genes = .ok o)
    (hinj : Function.Injective (fun k => stripSuffix (placeholder k)))
    {i j : Nat} (hij : i < j) {gi gj : Name} (hgi : genes[i]? = some gi) (hgj : genes[j]? = some gj)
    (hui : isEnsembl gi = false ∧ lookup.lookup gi = none)
    (huj : isEnsembl gj = false ∧ lookup.lookup gj = none) :
    o.mapped[i]? ≠ o.mapped[j]? := by
  have ui := isUnknown_iff.2 hui
  rw [mapGenes_mapped_getElem? h, mapGenes_mapped_getElem? h, hgi, hgj, Option.map_some,
    Option.map_some, renameOne_unknown ui, renameOne_unknown (isUnknown_iff.2 huj)]
  -- the two counters differ: the unknown name at `i` is counted before `j` only
  intro e
  have e' := hinj (Option.some.inj e)
  have hlt := ListAux.countP_take_lt hij hgi ui
  omega

example : Function.Injective (fun k => stripSuffix (demoPlaceholder k)) := demoPlaceholder_injective

/-- "Ensembl identifiers are kept (minus version suffix)": what is kept is still
an Ensembl identifier, and it has no version suffix any more. -/
theorem strip_ensembl {s : Name} (h : isEnsembl s = true) :
    isEnsembl (stripSuffix s) = true ∧ '.' ∉ stripSuffix s :=
  isEnsembl_stripSuffix h

example : isEnsembl ['E','N','S','M','U','S','G','0','1','.','1','2'] = true ∧
    stripSuffix ['E','N','S','M','U','S','G','0','1','.','1','2'] = ['E','N','S','M','U','S','G','0','1'] ∧
    isEnsembl ['E','N','S','0','1'] = false ∧ isEnsembl ['E','N','S','G','0','1','.'] = false := by
  decide +kernel

/-- "Ensembl identifiers are kept (minus version suffix)", in the mapper's output:
at the position of an Ensembl identifier stands that identifier without its
version suffix, whatever the lookup table says. -/
theorem ensembl_kept {lookup : List (Name × Name)} {placeholder : Nat → Name} {start : Nat}
    {genes : List Name} {o : MapOut} (h : mapGenes lookup placeholder start genes = .ok o)
    (i : Nat) (hi : i < genes.length) (he : isEnsembl genes[i] = true) :
    o.mapped[i]? = some (stripSuffix genes[i]) ∧ isEnsembl (stripSuffix genes[i]) = true := by
  rw [genes_pointwise h i hi, if_pos he]
  exact ⟨rfl, (isEnsembl_stripSuffix he).1⟩

example : isEnsembl demoInput.genes[0] = true := by decide +kernel

/-- "known gene symbols are replaced by their Ensembl identifier": at the
position of a name that is not an Ensembl identifier but is in the lookup table
stands the table's entry (minus version suffix). -/
theorem known_symbol_replaced {lookup : List (Name × Name)} {placeholder : Nat → Name} {start : Nat}
    {genes : List Name} {o : MapOut} (h : mapGenes lookup placeholder start genes = .ok o)
    (i : Nat) (hi : i < genes.length) (he : isEnsembl genes[i] = false) {e : Name}
    (hl : lookup.lookup genes[i] = some e) :
    o.mapped[i]? = some (stripSuffix e) := by
  rw [genes_pointwise h i hi, he, hl]
  rfl

example : isEnsembl demoInput.genes[1] = false ∧
    demoLookup.lookup demoInput.genes[1] = some ['E','N','S','G','0','7'] := by decide +kernel

/-! ### what `_validate_h5ad` writes -/

/-- "the same genes in the same order" / identifiers: the `var` index of the
result is exactly the output of the gene mapper (which `genes_pointwise`
describes entry by entry), and it has no repeated name. -/
theorem written_genes {placeholder : Nat → Name} {inp : Input} {plan : Plan}
    (h : validate placeholder inp = .ok plan) :
    (∃ o, mapGenes inp.lookup placeholder inp.start inp.genes = .ok o ∧ plan.genes = o.mapped) ∧
    plan.genes.length = inp.genes.length ∧ plan.genes.Nodup := by
  obtain ⟨⟨_, hg, _⟩, mv, k, mn, mx, hm, _, hd, hp⟩ := validate_ok_inv h
  obtain ⟨o, ho, hcase⟩ := mapGeneIdsInVar_ok hm
  rw [hp.genes]
  rcases hcase with ⟨e, rfl, _⟩ | ⟨_, rfl, _⟩
  · exact ⟨⟨o, ho, e.symm⟩, rfl, (hasDup_false_iff _).1 hg⟩
  · exact ⟨⟨o, ho, rfl⟩, mapGenes_mapped_length ho, (hasDup_false_iff _).1 (hd _ rfl)⟩

/-- the plan for the example input, evaluated once; the examples below that speak of parts
of it read them off this value -/
theorem demo_validate : validate demoPlaceholder demoInput = .ok
    { writeNew := true
      genes := [['E','N','S','G','0','1'], ['E','N','S','G','0','7'], ['u','_','x','x'], ['u','_','x','x','x']]
      values := [some 0, some 256, some 0, some 3, some 3, some 0, some 2, some 0]
      dtype := some "uint16"
      mapping := some [(['E','N','S','G','0','1','.','2'], ['E','N','S','G','0','1']),
        (['A','b','c'], ['E','N','S','G','0','7']), (['x','y'], ['u','_','x','x']),
        (['z'], ['u','_','x','x','x'])]
      nMapped := 2, hasWarnings := true } := by decide +kernel

example : validate demoPlaceholder demoInput = .ok
    { writeNew := true
      genes := [['E','N','S','G','0','1'], ['E','N','S','G','0','7'], ['u','_','x','x'], ['u','_','x','x','x']]
      values := [some 0, some 256, some 0, some 3, some 3, some 0, some 2, some 0]
      dtype := some "uint16"
      mapping := some [(['E','N','S','G','0','1','.','2'], ['E','N','S','G','0','1']),
        (['A','b','c'], ['E','N','S','G','0','7']), (['x','y'], ['u','_','x','x']),
        (['z'], ['u','_','x','x','x'])]
      nMapped := 2, hasWarnings := true } := demo_validate

/-- "the applied renaming and the number of mapped genes are recorded in the
file": the recorded renaming is the list of pairs (old name, new name) of the
genes whose name changed, in `var` order, and the recorded number of mapped
genes is the number of genes minus the number of unknown names. -/
theorem renaming_record {placeholder : Nat → Name} {inp : Input} {plan : Plan}
    {m : List (Name × Name)}
    (h : validate placeholder inp = .ok plan) (hm : plan.mapping = some m) :
    m = (inp.genes.zip plan.genes).filter (fun p => p.1 != p.2) ∧
    plan.nMapped = inp.genes.length -
      inp.genes.countP (fun g => !isEnsembl g && (inp.lookup.lookup g).isNone) := by
  obtain ⟨_, mv, k, mn, mx, hmv, _, _, hp⟩ := validate_ok_inv h
  obtain ⟨o, ho, hcase⟩ := mapGeneIdsInVar_ok hmv
  rw [hp.mapping] at hm
  rcases hcase with ⟨_, rfl, _⟩ | ⟨_, rfl, rfl⟩
  · cases hm
  · rw [hp.genes, hp.nMapped, (mapGenes_ok ho).2.1]
    exact ⟨(Option.some.inj hm).symm, rfl⟩

example : (validate demoPlaceholder demoInput).toOption.map (fun p => (p.mapping, p.nMapped)) =
    some (some [(['E','N','S','G','0','1','.','2'], ['E','N','S','G','0','1']),
      (['A','b','c'], ['E','N','S','G','0','7']), (['x','y'], ['u','_','x','x']),
      (['z'], ['u','_','x','x','x'])], 2) := by rw [demo_validate]; rfl

/-- The renaming is recorded exactly when some gene name changed. -/
theorem renaming_recorded_iff {placeholder : Nat → Name} {inp : Input} {plan : Plan}
    (h : validate placeholder inp = .ok plan) :
    plan.mapping.isSome = true ↔ plan.genes ≠ inp.genes := by
  obtain ⟨_, mv, k, mn, mx, hmv, _, _, hp⟩ := validate_ok_inv h
  obtain ⟨o, ho, hcase⟩ := mapGeneIdsInVar_ok hmv
  rw [hp.mapping, hp.genes]
  rcases hcase with ⟨_, rfl, _⟩ | ⟨hne, rfl, _⟩
  · simp
  · simp [hne]

example : (validate demoPlaceholder { demoInput with genes := [['E','N','S','G','0','1'], ['E','N','S','G','0','2']] }).toOption.map
    (fun p => (p.mapping, p.genes)) = some (none, [['E','N','S','G','0','1'], ['E','N','S','G','0','2']]) := by
  decide +kernel

/-- "an X matrix equal to the requested layer ... unchanged otherwise": when
rounding is not requested, or the stored type is an integer type, or all values
are integers already (to within `eps`), the values are written unchanged and no
integer type is imposed. -/
theorem unchanged_when {placeholder : Nat → Name} {inp : Input} {plan : Plan}
    (h : validate placeholder inp = .ok plan)
    (hc : inp.roundToInt = false ∨ inp.intDtype = true ∨
      isIntegersChunked inp.eps inp.storage.readChunks = true) :
    plan.values = inp.storage.values.map some ∧ plan.dtype = none := by
  obtain ⟨_, mv, k, mn, mx, _, _, _, hp⟩ := validate_ok_inv h
  rw [hp.values, hp.dtype, castNeeded_eq_false hc]
  exact ⟨rfl, rfl⟩

example : (validate demoPlaceholder { demoInput with roundToInt := false }).toOption.map
    (fun p => (p.values, p.dtype)) =
    some ([some (1/2), some (255 + 1/2), some 0, some 3, some 3, some 0, some (7/4), some (-1/2)], none) := by
  decide +kernel

/-- same, because every value is an integer already -/
example : (validate demoPlaceholder
    { demoInput with storage := .sparse [3, 0, 70000, 2] (some 3) }).toOption.map (fun p => (p.values, p.dtype)) =
    some ([some 3, some 0, some 70000, some 2], none) := by
  decide +kernel

/-- "every value moved by at most one half": the new X has one entry per entry
of the requested layer, at the same position, and no written entry differs from
the original by more than one half. -/
theorem moved_at_most_half {placeholder : Nat → Name} {inp : Input} {plan : Plan}
    (h : validate placeholder inp = .ok plan) :
    plan.values.length = inp.storage.values.length ∧
    ∀ (i : Nat) (v w : Rat), inp.storage.values[i]? = some v → plan.values[i]? = some (some w) →
      -(1/2) ≤ w - v ∧ w - v ≤ 1/2 := by
  obtain ⟨_, mv, k, mn, mx, _, _, _, hp⟩ := validate_ok_inv h
  rw [hp.values]
  by_cases hcn : castNeeded inp = true
  · rw [if_pos hcn]
    refine ⟨List.length_map _, fun i v w hi hw => ?_⟩
    rw [List.getElem?_map, hi, Option.map_some, Option.some.injEq, Option.map_eq_some_iff] at hw
    obtain ⟨z, hz, rfl⟩ := hw
    rw [eq_round_of_castTo hz]
    exact round_half v
  · rw [if_neg hcn]
    refine ⟨List.length_map _, fun i v w hi hw => ?_⟩
    rw [List.getElem?_map, hi, Option.map_some, Option.some.injEq, Option.some.injEq] at hw
    rw [← hw, sub_self]
    norm_num

example : (validate demoPlaceholder demoInput).toOption.map (fun p => p.values) =
    some [some 0, some 256, some 0, some 3, some 3, some 0, some 2, some 0] ∧
    demoInput.storage.values = [1/2, 255 + 1/2, 0, 3, 3, 0, 7/4, -1/2] := by
  rw [demo_validate]; exact ⟨rfl, by decide +kernel⟩

/-- "to an integer held in an integer type": when an integer type `d` is
imposed, it is the name of a rung of the ladder (or the default), every entry
is either the rounded original value - when that lies in the rung's range - or
marked as not representable, and rounding was requested. -/
theorem cast_values {placeholder : Nat → Name} {inp : Input} {plan : Plan} {d : String}
    (h : validate placeholder inp = .ok plan) (hd : plan.dtype = some d) :
    inp.roundToInt = true ∧
    ∃ rung : Rung, (rung ∈ Generated.intLadder ∨ rung = Generated.intLadderDefault) ∧ rung.1 = d ∧
      plan.values = inp.storage.values.map (fun v =>
        if rung.2.1 ≤ roundHalfEven v ∧ roundHalfEven v ≤ rung.2.2
        then some (roundHalfEven v : Rat) else none) := by
  obtain ⟨hcn, mn, mx, _, hrung, hv⟩ := validate_cast_of_dtype h hd
  refine ⟨(castNeeded_iff.1 hcn).1, _, chooseIntDtype_mem _ _ _, hrung, ?_⟩
  rw [hv]
  apply List.map_congr_left
  intro v _
  rw [castTo_def]
  split <;> rfl

example : (validate demoPlaceholder demoInput).toOption.map (fun p => p.dtype) = some (some "uint16") := by
  rw [demo_validate]; rfl

/-- "held in an integer type wide enough for all values" (exact comparison of
the bounds with the type limits: the stored type is an integer type, or the
source compares Python ints): if the minimum and maximum that were read bound
all values and fit uint64 or int64, every entry of the new X is the rounded
original value - none falls outside the imposed type. -/
theorem wide_enough {placeholder : Nat → Name} {inp : Input} {plan : Plan} {d : String} {mn mx : Rat}
    (h : validate placeholder inp = .ok plan) (hd : plan.dtype = some d)
    (hf : inp.floatBits = none ∨ sourceMode = .exact)
    (hmm : inp.storage.minmax = .ok (some (mn, mx)))
    (hb : ∀ v ∈ inp.storage.values, mn ≤ v ∧ v ≤ mx)
    (hr : (0 ≤ roundHalfEven mn ∧ roundHalfEven mx ≤ 18446744073709551615) ∨
      (-9223372036854775808 ≤ roundHalfEven mn ∧ roundHalfEven mx ≤ 9223372036854775807)) :
    plan.values = inp.storage.values.map (fun v => some (roundHalfEven v : Rat)) := by
  obtain ⟨_, mn', mx', hmm', _, hv⟩ := validate_cast_of_dtype h hd
  rw [hmm] at hmm'
  cases hmm'
  obtain ⟨r, hfind⟩ := exists_rung_accepts _ _ hr
  rw [hv, chooseIntDtype_exact hf, chooseIntDtype_of_find hfind]
  apply List.map_congr_left
  intro v hvm
  rw [castTo_of_find hfind (hb v hvm).1 (hb v hvm).2]
  rfl

example : demoInput.floatBits = none ∧ demoInput.storage.minmax = .ok (some (-1/2, 255 + 1/2)) ∧
    (∀ v ∈ demoInput.storage.values, -1/2 ≤ v ∧ v ≤ 255 + 1/2) ∧
    (0 ≤ roundHalfEven (-1/2) ∧ roundHalfEven (255 + 1/2) ≤ 18446744073709551615) := by
  decide +kernel

/-- "with every value moved by at most one half to an integer held in an integer
type wide enough for all values when rounding is requested" - the complete
statement for `_validate_h5ad`, under exact comparison of the bounds with the
type limits (the stored type is an integer type, or the source compares Python
ints; see `dtype_float_compare_too_narrow` for what happens otherwise): for any
well-formed stored layer whose rounded values all fit uint64 or all fit int64,
whenever an integer type is imposed, every entry of the new X is the rounded
original entry - no entry falls outside the type. -/
theorem cast_holds_all {placeholder : Nat → Name} {inp : Input} {plan : Plan} {d : String}
    (h : validate placeholder inp = .ok plan) (hd : plan.dtype = some d)
    (hf : inp.floatBits = none ∨ sourceMode = .exact)
    (hw : inp.storage.WellFormed)
    (hr : (∀ v ∈ inp.storage.values, 0 ≤ roundHalfEven v ∧ roundHalfEven v ≤ 18446744073709551615) ∨
      (∀ v ∈ inp.storage.values,
        -9223372036854775808 ≤ roundHalfEven v ∧ roundHalfEven v ≤ 9223372036854775807)) :
    plan.values = inp.storage.values.map (fun v => some (roundHalfEven v : Rat)) := by
  obtain ⟨_, mn, mx, hmm, _⟩ := validate_cast_of_dtype h hd
  obtain ⟨hb, hrg⟩ := storage_minmax_range hw hmm
  exact wide_enough h hd hf hmm hb
    (hr.imp (hrg _ _ (by omega) (by omega)) (hrg _ _ (by omega) (by omega)))

example : demoInput.storage.WellFormed := by
  refine ⟨?_, ?_⟩
  · decide
  · intro c hc; cases hc; decide

/-- The complete statement for `_validate_h5ad` as the source is (any comparison
mode, float32 / float64 / integer data): for a well-formed stored layer whose
rounded values all fit uint64 or all fit int64, whenever an integer type is
imposed it is a rung of the ladder, and every entry of the new X is the rounded
original entry, except the entries whose rounded value is exactly one above the
upper limit of that type, which do not fit. -/
theorem cast_at_most_one_over {placeholder : Nat → Name} {inp : Input} {plan : Plan} {d : String}
    (h : validate placeholder inp = .ok plan) (hd : plan.dtype = some d)
    (hfb : inp.floatBits = none ∨ inp.floatBits = some 24 ∨ inp.floatBits = some 53)
    (hw : inp.storage.WellFormed)
    (hr : (∀ v ∈ inp.storage.values, 0 ≤ roundHalfEven v ∧ roundHalfEven v ≤ 18446744073709551615) ∨
      (∀ v ∈ inp.storage.values,
        -9223372036854775808 ≤ roundHalfEven v ∧ roundHalfEven v ≤ 9223372036854775807)) :
    ∃ rung ∈ Generated.intLadder, rung.1 = d ∧
      plan.values = inp.storage.values.map (fun v =>
        if roundHalfEven v = rung.2.2 + 1 then none else some (roundHalfEven v : Rat)) := by
  obtain ⟨_, mn, mx, hmm, hrung, hv⟩ := validate_cast_of_dtype h hd
  obtain ⟨hb, hrg⟩ := storage_minmax_range hw hmm
  obtain ⟨r, hfind⟩ := exists_rung_acceptsMode sourceMode hfb _ _
    (hr.imp (hrg _ _ (by omega) (by omega)) (hrg _ _ (by omega) (by omega)))
  rw [chooseIntDtype_eq_mode, chooseIntDtypeMode_of_find hfind] at hrung hv
  refine ⟨r, List.mem_of_find?_eq_some hfind, hrung, ?_⟩
  rw [hv]
  apply List.map_congr_left
  intro v hvm
  rw [(castTo_of_find_mode sourceMode hfb hfind (hb v hvm).1 (hb v hvm).2).1]
  split <;> rfl

/-- float32 data with maximum 2^32 under the comparison in float32: uint32 is
imposed and the maximum does not fit (the one entry that is lost) -/
example : chooseIntDtypeMode .native (some 24) (1/2) 4294967296 = ("uint32", 0, 4294967295) ∧
    [1/2, 4294967296, 7].map (fun v => (castTo ("uint32", 0, 4294967295) v).map (fun i : Int => (i : Rat))) =
      [some 0, none, some 7] := by
  decide +kernel

/-- "A file needing no change yields no new file": the layer is X itself, all
gene names are Ensembl identifiers without version suffix, and no cast to
integers is needed. -/
theorem no_change_no_file {placeholder : Nat → Name} {inp : Input} {plan : Plan}
    (h : validate placeholder inp = .ok plan) (hx : inp.layerIsX = true)
    (hg : ∀ g ∈ inp.genes, isEnsembl g = true ∧ '.' ∉ g)
    (hc : inp.roundToInt = false ∨ inp.intDtype = true ∨
      isIntegersChunked inp.eps inp.storage.readChunks = true) :
    plan.writeNew = false := by
  obtain ⟨_, mv, k, mn, mx, hm, _, _, hp⟩ := validate_ok_inv h
  obtain ⟨o, ho, hcase⟩ := mapGeneIdsInVar_ok hm
  have he : o.mapped = inp.genes := by
    rw [(mapGenes_ok ho).1, renameFrom_all_ensembl (fun g hg' => (hg g hg').1),
      map_stripSuffix_eq_self (fun g hg' => (hg g hg').2)]
  rcases hcase with ⟨_, rfl, _⟩ | ⟨hne, _, _⟩
  · rw [hp.writeNew, hx, castNeeded_eq_false hc]; rfl
  · exact absurd he hne

example : (validate demoPlaceholder { demoInput with
      roundToInt := false, genes := [['E','N','S','G','0','1'], ['E','N','S','G','0','2']] }).toOption.map
    (fun p => p.writeNew) = some false := by
  decide +kernel

/-- A new file is written exactly when the layer is not X, or some gene name
changes, or the values have to be cast to integers (rounding requested, stored
type not an integer type, and some value not an integer). -/
theorem file_written_when {placeholder : Nat → Name} {inp : Input} {plan : Plan}
    (h : validate placeholder inp = .ok plan) :
    plan.writeNew = true ↔
      (inp.layerIsX = false ∨ plan.genes ≠ inp.genes ∨
        (inp.roundToInt = true ∧ inp.intDtype = false ∧
          isIntegersChunked inp.eps inp.storage.readChunks = false)) := by
  obtain ⟨_, mv, k, mn, mx, hm, _, _, hp⟩ := validate_ok_inv h
  obtain ⟨o, ho, hcase⟩ := mapGeneIdsInVar_ok hm
  rw [hp.writeNew, ← castNeeded_iff, hp.genes]
  rcases hcase with ⟨_, rfl, _⟩ | ⟨hne, rfl, _⟩
  · simp
  · simp [hne]

example : (validate demoPlaceholder { demoInput with
      roundToInt := false, layerIsX := false,
      genes := [['E','N','S','G','0','1'], ['E','N','S','G','0','2']] }).toOption.map
    (fun p => p.writeNew) = some true := by
  decide +kernel

/-! ### rejections -/

/-- the census `hasDup` finds a repeated name iff there is one -/
theorem hasDup_iff (l : List Name) : hasDup l = true ↔ ¬ l.Nodup :=
  CTM.Validate.hasDup_iff l

example : hasDup [['a'], ['b'], ['a']] = true ∧ hasDup [['a'], ['b'], ['a','b']] = false := by decide

/-- "duplicate cell identifiers, duplicate or empty gene names ... are rejected",
in terms of the census function of the model: a repeated cell identifier stops
the run first, then a repeated or empty gene name. -/
theorem rejects {placeholder : Nat → Name} {inp : Input} :
    (hasDup inp.cellIds = true → validate placeholder inp = .error .dupCellIds) ∧
    (hasDup inp.cellIds = false → (hasDup inp.genes = true ∨ [] ∈ inp.genes) →
      validate placeholder inp = .error .badGeneNames) :=
  ⟨validate_dupCells, validate_badGenes⟩

example : hasDup [['c'], ['d'], ['c']] = true ∧ hasDup demoInput.cellIds = false ∧
    ([] : Name) ∈ [['g'], []] := by decide

/-- "duplicate cell identifiers ... are rejected" -/
theorem rejects_dup_cells {placeholder : Nat → Name} {inp : Input} (h : ¬ inp.cellIds.Nodup) :
    validate placeholder inp = .error .dupCellIds :=
  validate_dupCells ((CTM.Validate.hasDup_iff _).2 h)

example : validate demoPlaceholder { demoInput with cellIds := [['c'], ['d'], ['c']] } = .error .dupCellIds := by
  decide +kernel

/-- "duplicate or empty gene names ... are rejected" -/
theorem rejects_bad_gene_names {placeholder : Nat → Name} {inp : Input} (h0 : inp.cellIds.Nodup)
    (h : ¬ inp.genes.Nodup ∨ [] ∈ inp.genes) :
    validate placeholder inp = .error .badGeneNames :=
  validate_badGenes ((hasDup_false_iff _).2 h0) (h.imp_left (CTM.Validate.hasDup_iff _).2)

example : validate demoPlaceholder { demoInput with genes := [['g'], []] } = .error .badGeneNames ∧
    validate demoPlaceholder { demoInput with genes := [['g'], ['h'], ['g']] } = .error .badGeneNames := by
  decide +kernel

/-- "two genes mapping to one identifier are rejected": cell and gene names
pass the census, the mapper changes `var` and its output has a repeated name;
the run then fails (provided it gets that far: min / max could be read when
they are needed). -/
theorem rejects_two_to_one {placeholder : Nat → Name} {inp : Input} {o : MapOut} {mn mx : Rat}
    (h0 : inp.cellIds.Nodup) (h1 : inp.genes.Nodup) (h2 : [] ∉ inp.genes)
    (hm : mapGenes inp.lookup placeholder inp.start inp.genes = .ok o)
    (hd : ¬ o.mapped.Nodup)
    (hmm : (inp.expectedMax.isSome = true ∨ (inp.roundToInt = true ∧ inp.intDtype = false ∧
          isIntegersChunked inp.eps inp.storage.readChunks = false)) →
        inp.storage.minmax = .ok (some (mn, mx))) :
    validate placeholder inp = .error .dupMapped := by
  have hmv : mapGeneIdsInVar inp.lookup placeholder inp.start inp.genes =
      .ok (some o.mapped, o.nUnmapped) := by
    unfold mapGeneIdsInVar
    rw [hm]
    exact if_neg fun e : o.mapped = inp.genes => hd (e ▸ h1)
  obtain ⟨a, b, hmu⟩ : ∃ a b, minmaxUsed inp = .ok (some (a, b)) := by
    unfold minmaxUsed
    by_cases hneed : (inp.expectedMax.isSome || castNeeded inp) = true
    · rw [if_pos hneed]
      exact ⟨mn, mx, hmm (by simpa [castNeeded_iff] using hneed)⟩
    · rw [if_neg hneed]
      exact ⟨0, 0, rfl⟩
  exact validate_dupMapped ⟨(hasDup_false_iff _).2 h0, (hasDup_false_iff _).2 h1, h2⟩ hmv
    ((CTM.Validate.hasDup_iff _).2 hd) hmu

/-- a symbol and the identifier it stands for in one file -/
example : validate demoPlaceholder { demoInput with genes := [['E','N','S','G','0','7'], ['A','b','c']] } =
    .error .dupMapped := by
  decide +kernel

/-- The one refusal of the gene mapper (not mentioned in the property text):
`map_gene_identifiers` fails - "Could not map any of your genes" - exactly when
there is at least one gene and every gene is unknown (neither an Ensembl
identifier nor a known symbol); it has no other way to fail. -/
theorem mapGenes_all_unknown_rejected (lookup : List (Name × Name)) (placeholder : Nat → Name)
    (start : Nat) (genes : List Name) (e : VErr) :
    mapGenes lookup placeholder start genes = .error e ↔
      e = .allUnmappable ∧ genes ≠ [] ∧
        ∀ g ∈ genes, isEnsembl g = false ∧ lookup.lookup g = none := by
  simp only [mapGenes_error_iff, isUnknown_iff]

example : mapGenes demoLookup demoPlaceholder 0 [['x'], ['y','z']] = .error .allUnmappable ∧
    (mapGenes demoLookup demoPlaceholder 0 [['x'], ['A','b','c']]).toOption.map (·.mapped) =
      some [['u','_'], ['E','N','S','G','0','7']] := by decide +kernel

/-- In all other cases the mapper succeeds. -/
theorem mapGenes_ok_iff (lookup : List (Name × Name)) (placeholder : Nat → Name)
    (start : Nat) (genes : List Name) :
    (∃ o, mapGenes lookup placeholder start genes = .ok o) ↔
      (genes = [] ∨ ∃ g ∈ genes, isEnsembl g = true ∨ (lookup.lookup g).isSome = true) := by
  simp only [CTM.Validate.mapGenes_ok_iff, isUnknown_eq_false_iff]

example : ∃ g ∈ demoInput.genes, isEnsembl g = true ∨ (demoLookup.lookup g).isSome = true :=
  ⟨_, List.mem_cons_self, Or.inl (by decide +kernel)⟩

/-- "duplicate cell identifiers, duplicate or empty gene names, and two genes
mapping to one identifier are rejected" - and nothing else, except genes that
are all unknown and a matrix without entries: the complete list of the ways
`_validate_h5ad` fails, in the order of the source, each with its exact
condition (`minmaxUsed` is the min / max read when an expected maximum is given
or a cast to integers is needed, `(0, 0)` otherwise). -/
theorem validate_error_cases (placeholder : Nat → Name) (inp : Input) (e : VErr) :
    validate placeholder inp = .error e ↔
      (e = .dupCellIds ∧ hasDup inp.cellIds = true) ∨
      (e = .badGeneNames ∧ hasDup inp.cellIds = false ∧
        (hasDup inp.genes = true ∨ [] ∈ inp.genes)) ∨
      (e = .allUnmappable ∧ hasDup inp.cellIds = false ∧ hasDup inp.genes = false ∧
        [] ∉ inp.genes ∧ inp.genes ≠ [] ∧
        ∀ g ∈ inp.genes, isEnsembl g = false ∧ inp.lookup.lookup g = none) ∨
      (e = .emptyMatrix ∧ hasDup inp.cellIds = false ∧ hasDup inp.genes = false ∧
        [] ∉ inp.genes ∧
        (∃ mv k, mapGeneIdsInVar inp.lookup placeholder inp.start inp.genes = .ok (mv, k)) ∧
        (minmaxUsed inp = .error .emptyMatrix ∨ minmaxUsed inp = .ok none)) ∨
      (e = .dupMapped ∧ hasDup inp.cellIds = false ∧ hasDup inp.genes = false ∧
        [] ∉ inp.genes ∧ ∃ m k mn mx,
          mapGeneIdsInVar inp.lookup placeholder inp.start inp.genes = .ok (some m, k) ∧
          minmaxUsed inp = .ok (some (mn, mx)) ∧ hasDup m = true) := by
  simp only [validate_error_iff, FailsWith, CensusOk, isUnknown_iff, and_assoc]

example : validate demoPlaceholder { demoInput with genes := [['x'], ['y']] } = .error .allUnmappable ∧
    validate demoPlaceholder
      { demoInput with storage := .dense [] 4 (some (1, 3)), expectedMax := some 10 } = .error .emptyMatrix ∧
    (validate demoPlaceholder
      { demoInput with storage := .sparse [] none, expectedMax := some 10 }).toOption.map (·.dtype) =
      some none := by
  decide +kernel

/-! ### reading the matrix chunk by chunk -/

/-- The integrality test (`is_x_integers`: does any value differ from its
rounded value by more than `eps`?) read chunk by chunk answers the question for
the whole array: the verdict is `true` iff every value of every chunk is within
`eps` of an integer. -/
theorem is_integers_chunked {eps : Rat} (h0 : 0 ≤ eps) (chunks : List (List Rat)) :
    isIntegersChunked eps chunks = true ↔
      ∀ ch ∈ chunks, ∀ v ∈ ch, absRat ((roundHalfEven v : Rat) - v) ≤ eps :=
  isIntegersChunked_iff h0 chunks

example : isIntegersChunked (1/1000) [[1, 2], [], [3 + 1/2000]] = true ∧
    isIntegersChunked (1/1000) [[1, 2], [5/2]] = false := by decide +kernel

/-- "all three encodings and chunk layouts": the verdict of the integrality test
does not depend on how the values are cut into chunks. -/
theorem is_integers_chunking_irrelevant {eps : Rat} (h0 : 0 ≤ eps) {chunks chunks' : List (List Rat)}
    (h : ∀ v, v ∈ chunks.flatten ↔ v ∈ chunks'.flatten) :
    isIntegersChunked eps chunks = isIntegersChunked eps chunks' := by
  rw [Bool.eq_iff_iff, isIntegersChunked_iff_flatten h0, isIntegersChunked_iff_flatten h0]
  exact forall_congr' fun v => by rw [h v]

example : isIntegersChunked (1/1000) [[1, 5/2], [3]] = isIntegersChunked (1/1000) [[3, 1], [5/2], []] := by
  decide +kernel

/-- "chunked min/max = global" (CSR / CSC, 1-D `data` array): for every chunk
size the minimum and maximum found are elements of the array bounding all of
it; the same when the dataset is contiguous. -/
theorem minmax_chunk {data : List Rat} (hd : data ≠ []) (chunks : Option Nat)
    (hc : ∀ c, chunks = some c → 1 ≤ c) :
    ∃ mn mx, minmaxSparse data chunks = .ok (some (mn, mx)) ∧ mn ∈ data ∧ mx ∈ data ∧
      ∀ v ∈ data, mn ≤ v ∧ v ≤ mx :=
  storage_minmax_spec (st := .sparse data chunks) hc hd

example : minmaxSparse [3, -1/2, 7, 2, 2, 9, 0] (some 2) = .ok (some (-1/2, 9)) ∧
    minmaxSparse [3, -1/2, 7, 2, 2, 9, 0] none = .ok (some (-1/2, 9)) := by decide +kernel

/-- "chunked min/max = global" (dense, 2-D): for every chunk shape the minimum
and maximum found are entries of the matrix bounding all entries; the same when
the dataset is contiguous. -/
theorem minmax_chunk_dense {m : List (List Rat)} {nCols : Nat} (hm : m ≠ []) (hn : 1 ≤ nCols)
    (hrow : ∀ row ∈ m, row.length = nCols) (chunks : Option (Nat × Nat))
    (hc : ∀ c, chunks = some c → 1 ≤ c.1 ∧ 1 ≤ c.2) :
    ∃ mn mx, minmaxDense m nCols chunks = .ok (some (mn, mx)) ∧
      mn ∈ m.flatten ∧ mx ∈ m.flatten ∧ ∀ v ∈ m.flatten, mn ≤ v ∧ v ≤ mx := by
  have hi : 0 < m.length := List.length_pos_iff.2 hm
  have hj : 0 < (m[0]).length := by rw [hrow _ (List.getElem_mem hi)]; exact hn
  exact storage_minmax_spec (st := .dense m nCols chunks) ⟨hrow, hc⟩
    (List.ne_nil_of_mem (List.mem_flatten.2 ⟨m[0], List.getElem_mem hi, List.getElem_mem hj⟩))

example : minmaxDense [[1, 2, 3], [4, -5, 6], [7, 8, 1/2]] 3 (some (2, 2)) = .ok (some (-5, 8)) ∧
    minmaxDense [[1, 2, 3], [4, -5, 6], [7, 8, 1/2]] 3 none = .ok (some (-5, 8)) := by decide +kernel

/-- "already integral" is a statement about the values, not the chunks: on a
well-formed stored layer the integrality test used by `_validate_h5ad` answers
`true` iff every stored value is within `eps` of an integer. -/
theorem integrality_verdict {eps : Rat} (h0 : 0 ≤ eps) {st : Storage} (hw : st.WellFormed) :
    isIntegersChunked eps st.readChunks = true ↔
      ∀ v ∈ st.values, absRat ((roundHalfEven v : Rat) - v) ≤ eps := by
  rw [isIntegersChunked_iff_flatten h0]
  exact forall_congr' fun v => by rw [readChunks_mem hw v]

example : isIntegersChunked (1/1000) demoInput.storage.readChunks = false ∧
    isIntegersChunked (1/1000) (Storage.sparse [3, 0, 70000, 2] (some 3)).readChunks = true := by
  decide +kernel

/-! ### the implicit zeros of a sparse matrix -/

/-- "an integer type wide enough for all values" - including the values the
min / max of a CSR / CSC matrix never sees: every rung of the ladder, and the
default type, contains 0, so the implicit zeros fit whatever type is chosen
(any comparison mode, any bounds). -/
theorem sparse_zeros_fit :
    (∀ r ∈ Generated.intLadder, r.2.1 ≤ 0 ∧ 0 ≤ r.2.2) ∧
    (Generated.intLadderDefault.2.1 ≤ 0 ∧ 0 ≤ Generated.intLadderDefault.2.2) ∧
    ∀ (mode : CompareMode) (fb : Option Nat) (mn mx : Rat),
      castTo (chooseIntDtypeMode mode fb mn mx) 0 = some 0 ∧
      castTo (chooseIntDtype fb mn mx) 0 = some 0 := by
  refine ⟨ladder_contains_zero.1, ladder_contains_zero.2,
    fun mode fb mn mx => ⟨castTo_choose_zero mode fb mn mx, ?_⟩⟩
  rw [chooseIntDtype_eq_mode]
  exact castTo_choose_zero _ _ _ _

example : minmaxSparse [3, 7, 5] (some 2) = .ok (some (3, 7)) ∧
    castTo (chooseIntDtypeMode .exact none 3 7) 0 = some 0 := by decide +kernel

/-! ### the real spelling of placeholder names -/

/-- "placeholders unique within the file", for the names as the source spells
them, `f"unmapped_{k}_{stamp}"`: different counters give different names, also
after the version-suffix cut `n.split('.')[0]` - for ANY time stamps (they may
differ from call to call, contain dots, digits or underscores: the decimal
counter is delimited by the underscore that follows it, and the cut cannot
reach it).  The driver's `placeholderT` is the case `stamp = fun _ => "T"`
(`realPlaceholder_T`).  The statement is `Validate.realPlaceholder_injective`
with `realPlaceholder` unfolded. -/
theorem placeholder_spelling_injective (stamp : Nat → String) :
    Function.Injective
      (fun k => stripSuffix (("unmapped_" ++ toString k ++ "_" ++ stamp k).toList)) :=
  realPlaceholder_injective stamp

example : stripSuffix (("unmapped_" ++ toString 12 ++ "_" ++ "1700000000.25").toList) =
      "unmapped_12_1700000000".toList ∧
    stripSuffix (("unmapped_" ++ toString 1 ++ "_" ++ "2_1700000000.25").toList) =
      "unmapped_1_2_1700000000".toList := by
  simp only [String.toList_append, Nat.toString_eq_repr, Nat.toList_repr]
  decide +kernel

/-- "unknown ones by placeholders unique within the file", without any
assumption on the placeholder names: with the real spelling, two different
unknown genes of one file get different names. -/
theorem placeholders_distinct_real {lookup : List (Name × Name)} (stamp : Nat → String) {start : Nat}
    {genes : List Name} {o : MapOut}
    (h : mapGenes lookup (fun k => ("unmapped_" ++ toString k ++ "_" ++ stamp k).toList) start genes
      = .ok o)
    {i j : Nat} (hij : i < j) (hj : j < genes.length)
    (hui : isEnsembl genes[i] = false ∧ lookup.lookup genes[i] = none)
    (huj : isEnsembl genes[j] = false ∧ lookup.lookup genes[j] = none) :
    o.mapped[i]? ≠ o.mapped[j]? :=
  placeholders_distinct h (placeholder_spelling_injective stamp) hij
    (List.getElem?_eq_getElem (Nat.lt_trans hij hj)) (List.getElem?_eq_getElem hj) hui huj

example : (mapGenes demoLookup (fun k => ("unmapped_" ++ toString k ++ "_" ++ "T").toList) 9
    [['x'], ['A','b','c'], ['y']]).toOption.map (·.mapped) =
    some ["unmapped_9_T".toList, ['E','N','S','G','0','7'], "unmapped_10_T".toList] := by
  simp only [String.toList_append, Nat.toString_eq_repr, Nat.toList_repr]
  decide +kernel

end CTM.C16
