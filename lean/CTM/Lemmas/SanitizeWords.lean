/-
  Lemmas for C20, multi-word messages: `str.replace` with a whitespace-free pattern acts
  word by word, hence so does the whole substitution loop of `sanitize_paths`
  (`splitWs_substituteAll`).  `replace` is reasoned about only through its three equations and
  `replace_induction`.  Then the table `buildSubs` builds (`buildSubs_spec`), the loop run with
  such a table (`splitWs_substituteAll_table`), and that a replacement has neither whitespace nor
  quote characters.
-/
import CTM.Lemmas.Sanitize

namespace CTM.Sanitize

/-! ### whitespace-free words and `splitWs` -/

def WsFree (w : Str) : Prop := ∀ c ∈ w, isWs c = false

theorem WsFree.append {a b : Str} (ha : WsFree a) (hb : WsFree b) : WsFree (a ++ b) := by
  intro c hc
  rcases List.mem_append.mp hc with h | h
  · exact ha c h
  · exact hb c h

theorem WsFree.nil : WsFree [] := fun _ h => nomatch h

theorem WsFree.snoc {cur : Str} {c : Char} (hcur : WsFree cur) (hc : isWs c = false) :
    WsFree (cur ++ [c]) :=
  hcur.append fun _ hx => List.mem_singleton.mp hx ▸ hc

def nonEmpty (w : Str) : Bool := !w.isEmpty

theorem filter_nonEmpty_singleton {w : Str} (h : w ≠ []) : [w].filter nonEmpty = [w] := by
  cases w with
  | nil => exact absurd rfl h
  | cons c cs => rfl

theorem splitWsGo_nil (cur : Str) : splitWsGo cur [] = [cur].filter nonEmpty := by
  cases cur <;> rfl

theorem splitWsGo_ws {c : Char} (hc : isWs c = true) (cur cs : Str) :
    splitWsGo cur (c :: cs) = [cur].filter nonEmpty ++ splitWsGo [] cs := by
  cases cur <;> simp [splitWsGo, hc, nonEmpty]

theorem splitWsGo_not_ws {c : Char} (hc : isWs c = false) (cur cs : Str) :
    splitWsGo cur (c :: cs) = splitWsGo (cur ++ [c]) cs := by
  simp [splitWsGo, hc]

theorem splitWsGo_append_word (u cur rest : Str) (hu : WsFree u) :
    splitWsGo cur (u ++ rest) = splitWsGo (cur ++ u) rest := by
  induction u generalizing cur with
  | nil => simp
  | cons c cs ih =>
    rw [List.cons_append, splitWsGo_not_ws (hu c (List.mem_cons_self ..)),
      ih _ (fun x hx => hu x (List.mem_cons_of_mem _ hx)), List.append_assoc]
    rfl

theorem splitWsGo_of_wsFree (s cur : Str) (h : WsFree s) :
    splitWsGo cur s = [cur ++ s].filter nonEmpty := by
  have := splitWsGo_append_word s cur [] h
  rwa [List.append_nil, splitWsGo_nil] at this

theorem splitWs_word (w : Str) (hne : w ≠ []) (h : WsFree w) : splitWs w = [w] := by
  unfold splitWs
  rw [splitWsGo_of_wsFree w [] h]
  exact filter_nonEmpty_singleton hne

theorem word_of_mem_filter {w cur : Str} (hcur : WsFree cur) (h : w ∈ [cur].filter nonEmpty) :
    w ≠ [] ∧ WsFree w := by
  obtain ⟨hm, hn⟩ := List.mem_filter.mp h
  exact ⟨by simpa [nonEmpty] using hn, List.mem_singleton.mp hm ▸ hcur⟩

theorem splitWsGo_words (s cur : Str) (hcur : WsFree cur) :
    ∀ w ∈ splitWsGo cur s, w ≠ [] ∧ WsFree w := by
  induction s generalizing cur with
  | nil =>
    rw [splitWsGo_nil]
    exact fun w => word_of_mem_filter hcur
  | cons c cs ih =>
    cases hc : isWs c with
    | true =>
      rw [splitWsGo_ws hc]
      intro w hw
      exact (List.mem_append.mp hw).elim (word_of_mem_filter hcur) (ih [] .nil w)
    | false =>
      rw [splitWsGo_not_ws hc]
      exact ih _ (hcur.snoc hc)

theorem splitWs_words (s : Str) : ∀ w ∈ splitWs s, w ≠ [] ∧ WsFree w :=
  splitWsGo_words s [] .nil

/-! ### `replace`

By its three equations and the induction that follows them; after `replaceGo_skip` the count of
characters still to be skipped does not appear again. -/

theorem replaceGo_skip (old new : Str) (n : Nat) (s : Str) :
    replaceGo old new n s = replaceGo old new 0 (s.drop n) := by
  induction s generalizing n with
  | nil => cases n <;> simp [replaceGo]
  | cons c cs ih =>
    cases n with
    | zero => simp
    | succ k => simp only [replaceGo, List.drop_succ_cons]; exact ih k

theorem replace_nil (old new : Str) : replace old new [] = [] := rfl

theorem replace_append_self (old new rest : Str) (h : old ≠ []) :
    replace old new (old ++ rest) = new ++ replace old new rest := by
  cases old with
  | nil => exact absurd rfl h
  | cons c cs =>
    have hp : (c :: cs).isPrefixOf (c :: (cs ++ rest)) = true :=
      List.isPrefixOf_iff_prefix.mpr (List.prefix_append (c :: cs) rest)
    rw [replace, List.cons_append, replaceGo, if_pos hp, replaceGo_skip]
    simp [replace]

theorem replace_miss (old new : Str) {x : Char} {xs : Str} (h : old.isPrefixOf (x :: xs) = false) :
    replace old new (x :: xs) = x :: replace old new xs := by
  rw [replace, replaceGo, h]
  rfl

theorem replace_induction {old : Str} (hne : old ≠ []) {P : Str → Prop} (nil : P [])
    (hit : ∀ rest, P rest → P (old ++ rest))
    (miss : ∀ x xs, old.isPrefixOf (x :: xs) = false → P xs → P (x :: xs)) (s : Str) : P s := by
  suffices ∀ n (s : Str), s.length ≤ n → P s from this _ s (Nat.le_refl _)
  intro n
  induction n with
  | zero => exact fun s hs => List.eq_nil_of_length_eq_zero (Nat.le_zero.mp hs) ▸ nil
  | succ n ih =>
    intro s hs
    cases s with
    | nil => exact nil
    | cons x xs =>
      cases hp : old.isPrefixOf (x :: xs) with
      | false => exact miss x xs hp (ih xs (Nat.le_of_succ_le_succ hs))
      | true =>
        obtain ⟨rest, e⟩ := List.isPrefixOf_iff_prefix.mp hp
        have hl := congrArg List.length e
        have := List.length_pos_iff.mpr hne
        rw [List.length_append] at hl
        exact e ▸ hit rest (ih rest (by omega))

theorem replace_self (old new : Str) (h : old ≠ []) : replace old new old = new := by
  have := replace_append_self old new [] h
  rwa [List.append_nil, replace_nil, List.append_nil] at this

theorem replace_of_not_infix (old new w : Str) (h : ¬ old <:+: w) : replace old new w = w := by
  induction w with
  | nil => rfl
  | cons x xs ih =>
    rw [replace_miss _ _ (Bool.eq_false_iff.mpr fun hp => h (List.isPrefixOf_iff_prefix.mp hp).isInfix),
      ih fun hi => h (hi.trans (List.suffix_cons x xs).isInfix)]

theorem mem_replace {old : Str} (hne : old ≠ []) (new : Str) (c : Char) (s : Str) :
    c ∈ replace old new s → c ∈ s ∨ c ∈ new := by
  induction s using replace_induction hne with
  | nil => exact Or.inl
  | hit rest ih =>
    rw [replace_append_self _ _ _ hne]
    exact fun h => (List.mem_append.mp h).elim Or.inr fun h => (ih h).imp_left (List.mem_append_right _)
  | miss x xs hp ih =>
    rw [replace_miss _ _ hp]
    exact fun h => (List.mem_cons.mp h).elim (fun e => Or.inl (e ▸ List.mem_cons_self ..))
      fun h => (ih h).imp_left (List.mem_cons_of_mem _)

theorem replace_wsFree {old : Str} (hne : old ≠ []) (new w : Str) (hw : WsFree w) (hn : WsFree new) :
    WsFree (replace old new w) :=
  fun c hc => (mem_replace hne new c w hc).elim (hw c) (hn c)

/-! ### `replace` and `splitWs` commute, word by word -/

theorem isPrefixOf_across_ws (old pre post : Str) (c : Char) (hc : isWs c = true)
    (hold : WsFree old) :
    old.isPrefixOf (pre ++ c :: post) = old.isPrefixOf pre := by
  induction old generalizing pre with
  | nil => simp [List.isPrefixOf]
  | cons o os ih =>
    cases pre with
    | nil =>
      have : (o == c) = false := by
        rw [beq_eq_false_iff_ne]
        rintro rfl
        rw [hold o (List.mem_cons_self ..)] at hc
        cases hc
      simp [List.isPrefixOf, this]
    | cons p ps =>
      simp only [List.cons_append, List.isPrefixOf]
      rw [ih ps (fun x hx => hold x (List.mem_cons_of_mem _ hx))]

/-- a match never runs over whitespace -/
theorem replace_across_ws (old new : Str) (hne : old ≠ []) (hold : WsFree old) (c : Char)
    (hc : isWs c = true) (post pre : Str) :
    replace old new (pre ++ c :: post) = replace old new pre ++ c :: replace old new post := by
  induction pre using replace_induction hne with
  | nil =>
    rw [List.nil_append, replace_miss, replace_nil, List.nil_append]
    rw [← List.nil_append (c :: post), isPrefixOf_across_ws old [] post c hc hold]
    cases old with
    | nil => exact absurd rfl hne
    | cons o os => rfl
  | hit rest ih =>
    rw [List.append_assoc, replace_append_self _ _ _ hne, ih, replace_append_self _ _ _ hne,
      List.append_assoc]
  | miss x xs hp ih =>
    rw [List.cons_append, replace_miss, ih, replace_miss _ _ hp, List.cons_append]
    rw [← List.cons_append, isPrefixOf_across_ws old _ post c hc hold, hp]

theorem filter_nonEmpty_map_filter (f : Str → Str) (hf : f [] = []) (l : List Str) :
    ((l.filter nonEmpty).map f).filter nonEmpty = (l.map f).filter nonEmpty := by
  induction l with
  | nil => rfl
  | cons x xs ih =>
    cases x with
    | nil => simpa [List.filter, nonEmpty, hf] using ih
    | cons c cs => simp [List.filter_cons, nonEmpty, ih]

theorem splitWs_replace_go (old new : Str) (hne : old ≠ []) (hold : WsFree old) (hnew : WsFree new)
    (s cur : Str) (hcur : WsFree cur) :
    splitWsGo [] (replace old new (cur ++ s)) =
      ((splitWsGo cur s).map (replace old new)).filter nonEmpty := by
  have hrep := filter_nonEmpty_map_filter (replace old new) (replace_nil old new)
  induction s generalizing cur with
  | nil =>
    rw [List.append_nil, splitWsGo_nil, hrep,
      splitWsGo_of_wsFree _ [] (replace_wsFree hne new cur hcur hnew)]
    rfl
  | cons c cs ih =>
    cases hc : isWs c with
    | true =>
      have ih0 := ih [] .nil
      rw [List.nil_append] at ih0
      rw [replace_across_ws old new hne hold c hc cs cur,
        splitWsGo_append_word _ [] _ (replace_wsFree hne new cur hcur hnew), List.nil_append,
        splitWsGo_ws hc, splitWsGo_ws hc, List.map_append, List.filter_append, hrep, ih0]
      rfl
    | false =>
      rw [splitWsGo_not_ws hc, ← ih _ (hcur.snoc hc), List.append_assoc]
      rfl

theorem splitWs_replace (old new s : Str) (hne : old ≠ []) (hold : WsFree old) (hnew : WsFree new) :
    splitWs (replace old new s) = ((splitWs s).map (replace old new)).filter nonEmpty :=
  splitWs_replace_go old new hne hold hnew s [] .nil

/-! ### the substitution loop -/

theorem substituteAll_nil_str (subs : List (Str × Str)) : substituteAll subs [] = [] := by
  induction subs with
  | nil => rfl
  | cons kv rest ih => simpa [substituteAll, replace_nil] using ih

theorem substituteAll_cons (kv : Str × Str) (rest : List (Str × Str)) (s : Str) :
    substituteAll (kv :: rest) s = substituteAll rest (replace kv.1 kv.2 s) := rfl

/-- the words of the substituted string are the substituted words (empty results vanish) -/
theorem splitWs_substituteAll (subs : List (Str × Str))
    (hs : ∀ kv ∈ subs, kv.1 ≠ [] ∧ WsFree kv.1 ∧ WsFree kv.2) (s : Str) :
    splitWs (substituteAll subs s) =
      ((splitWs s).map (substituteAll subs)).filter nonEmpty := by
  induction subs generalizing s with
  | nil =>
    have hid : substituteAll ([] : List (Str × Str)) = id := rfl
    rw [hid, List.map_id]
    have : ∀ w ∈ splitWs s, nonEmpty w = true := by
      intro w hw
      simpa [nonEmpty] using (splitWs_words s w hw).1
    exact (List.filter_eq_self.mpr this).symm
  | cons kv rest ih =>
    obtain ⟨h1, h2, h3⟩ := hs kv (List.mem_cons_self ..)
    rw [substituteAll_cons, ih (fun x hx => hs x (List.mem_cons_of_mem _ hx)),
      splitWs_replace kv.1 kv.2 s h1 h2 h3,
      filter_nonEmpty_map_filter _ (substituteAll_nil_str rest), List.map_map]
    rfl

/-! ### the table `buildSubs` builds -/

/-- what `sanitize_paths` replaces a word by, if anything -/
def IsSub (h : Host) (k v : Str) : Prop :=
  isExposed h.ex (wordToPath k) = true ∧ safeName h (wordToPath k) = .ok v

def keysOf (l : List (Str × Str)) : List Str := l.map (·.1)

theorem keysOf_assocSet (k v : Str) (acc : List (Str × Str)) :
    keysOf (assocSet k v acc) = if k ∈ keysOf acc then keysOf acc else keysOf acc ++ [k] := by
  induction acc with
  | nil => rfl
  | cons y ys ih =>
    obtain ⟨k', v'⟩ := y
    simp only [assocSet]
    by_cases hk : k' = k
    · simp [keysOf, hk]
    · have hk' : ¬ k = k' := fun e => hk e.symm
      simp only [beq_iff_eq, hk, if_false, keysOf, List.map_cons, List.mem_cons, hk', false_or]
        at ih ⊢
      rw [ih]
      by_cases hm : k ∈ List.map (·.1) ys <;> simp [hm]

theorem mem_keysOf_assocSet (k v : Str) (acc : List (Str × Str)) (x : Str) :
    x ∈ keysOf (assocSet k v acc) ↔ x = k ∨ x ∈ keysOf acc := by
  rw [keysOf_assocSet]
  split
  · rename_i hk
    exact ⟨Or.inr, fun h => h.elim (fun e => e.symm ▸ hk) id⟩
  · simp [or_comm]

theorem nodup_keysOf_assocSet (k v : Str) (acc : List (Str × Str)) (hnd : (keysOf acc).Nodup) :
    (keysOf (assocSet k v acc)).Nodup := by
  rw [keysOf_assocSet]
  split
  · exact hnd
  · rename_i hk
    refine List.nodup_append.mpr ⟨hnd, List.nodup_cons.mpr ⟨List.not_mem_nil, List.nodup_nil⟩, fun a ha b hb e => hk ?_⟩
    rw [← List.mem_singleton.mp hb, ← e]
    exact ha

theorem mem_assocSet (k v : Str) (acc : List (Str × Str)) (kv : Str × Str)
    (h : kv ∈ assocSet k v acc) : kv = (k, v) ∨ kv ∈ acc := by
  induction acc with
  | nil => exact Or.inl (List.mem_singleton.mp h)
  | cons x xs ih =>
    simp only [assocSet] at h
    split at h
    · exact (List.mem_cons.mp h).imp_right (List.mem_cons_of_mem _)
    · rcases List.mem_cons.mp h with h | h
      · exact Or.inr (h ▸ List.mem_cons_self ..)
      · exact (ih h).imp_right (List.mem_cons_of_mem _)

/-- invariant of the table under construction -/
def TableInv (h : Host) (acc : List (Str × Str)) : Prop :=
  (keysOf acc).Nodup ∧ ∀ kv ∈ acc, IsSub h kv.1 kv.2

/-- the table `buildSubs` returns: distinct keys, each an exposed word (of the message, or a
key from before) with its replacement, and every exposed word of the message among them -/
theorem buildSubs_spec (h : Host) (ws : List Str) (acc subs : List (Str × Str))
    (hinv : TableInv h acc) (hb : buildSubs h ws acc = .ok subs) :
    TableInv h subs ∧
    (∀ w ∈ ws, isExposed h.ex (wordToPath w) = true → w ∈ keysOf subs) ∧
    (∀ x ∈ keysOf acc, x ∈ keysOf subs) ∧
    (∀ x ∈ keysOf subs, x ∈ keysOf acc ∨ x ∈ ws) := by
  induction ws generalizing acc with
  | nil =>
    simp only [buildSubs, Except.ok.injEq] at hb
    subst hb
    exact ⟨hinv, by simp, fun x hx => hx, fun x hx => Or.inl hx⟩
  | cons w rest ih =>
    simp only [buildSubs] at hb
    split at hb
    · rename_i hex
      split at hb
      · rename_i v hv
        have hinv' : TableInv h (assocSet w v acc) :=
          ⟨nodup_keysOf_assocSet w v acc hinv.1, fun kv hkv =>
            (mem_assocSet w v acc kv hkv).elim (fun e => e ▸ ⟨hex, hv⟩) (hinv.2 kv)⟩
        have hkeys := mem_keysOf_assocSet w v acc
        obtain ⟨i1, i2, i3, i4⟩ := ih _ hinv' hb
        refine ⟨i1, ?_, fun x hx => i3 x ((hkeys x).mpr (Or.inr hx)), fun x hx => ?_⟩
        · intro w' hw' hex'
          rcases List.mem_cons.mp hw' with rfl | hw'
          · exact i3 _ ((hkeys _).mpr (Or.inl rfl))
          · exact i2 w' hw' hex'
        · rcases i4 x hx with h1 | h1
          · exact ((hkeys x).mp h1).symm.imp_right fun e => by rw [e]; exact List.mem_cons_self ..
          · exact Or.inr (List.mem_cons_of_mem _ h1)
      · cases hb
    · rename_i hex
      obtain ⟨i1, i2, i3, i4⟩ := ih _ hinv hb
      refine ⟨i1, ?_, i3, fun x hx => (i4 x hx).imp_right (List.mem_cons_of_mem _)⟩
      intro w' hw' hex'
      rcases List.mem_cons.mp hw' with rfl | hw'
      · exact absurd hex' hex
      · exact i2 w' hw' hex'

/-! ### the loop run with such a table -/

theorem substituteAll_not_infix (subs : List (Str × Str)) (w : Str)
    (h : ∀ kv ∈ subs, ¬ kv.1 <:+: w) : substituteAll subs w = w := by
  induction subs with
  | nil => rfl
  | cons kv rest ih =>
    rw [substituteAll_cons, replace_of_not_infix _ _ _ (h kv (List.mem_cons_self ..))]
    exact ih (fun x hx => h x (List.mem_cons_of_mem _ hx))

/-- the loop on a word that is a key: the keys before it do not occur in it, its own turn
gives the replacement, and the keys after it do not occur in the replacement -/
theorem substituteAll_key (subs : List (Str × Str)) (w v : Str) (hne : w ≠ [])
    (hnd : (keysOf subs).Nodup) (hm : (w, v) ∈ subs)
    (h : ∀ kv ∈ subs, kv.1 ≠ w → ¬ kv.1 <:+: w ∧ ¬ kv.1 <:+: v) :
    substituteAll subs w = v := by
  induction subs with
  | nil => cases hm
  | cons kv rest ih =>
    obtain ⟨k, v'⟩ := kv
    simp only [keysOf, List.map_cons, List.nodup_cons] at hnd
    have hkey : ∀ kv ∈ rest, kv.1 ≠ k := fun kv hkv he =>
      hnd.1 (he ▸ List.mem_map.mpr ⟨kv, hkv, rfl⟩)
    have hrest := fun x hx => h x (List.mem_cons_of_mem _ hx)
    rw [substituteAll_cons]
    by_cases hk : k = w
    · subst hk
      obtain rfl : v' = v := by
        rcases List.mem_cons.mp hm with h1 | h1
        · exact (Prod.mk.inj h1).2.symm
        · exact absurd rfl (hkey _ h1)
      rw [replace_self k v' hne]
      exact substituteAll_not_infix _ _ fun kv hkv => (hrest kv hkv (hkey kv hkv)).2
    · rw [replace_of_not_infix _ _ _ (h (k, v') (List.mem_cons_self ..) hk).1]
      refine ih hnd.2 ?_ hrest
      rcases List.mem_cons.mp hm with h1 | h1
      · exact absurd (Prod.mk.inj h1).1.symm hk
      · exact h1

/-- the loop with a table whose keys are distinct words of the message, none of them occurring
inside a different word or inside a different word's image (`hind`; the image, because the keys
that come after a word's own turn act on what it has been replaced by): the words of the result
are the images of the words -/
theorem splitWs_substituteAll_table (subs : List (Str × Str)) (img : Str → Str) (s : Str)
    (hnd : (keysOf subs).Nodup)
    (hsub : ∀ kv ∈ subs, kv.1 ∈ splitWs s ∧ WsFree kv.2 ∧ img kv.1 = kv.2)
    (hid : ∀ w ∈ splitWs s, w ∉ keysOf subs → img w = w)
    (hind : ∀ kv ∈ subs, ∀ w ∈ splitWs s, kv.1 ≠ w → ¬ kv.1 <:+: w ∧ ¬ kv.1 <:+: img w) :
    splitWs (substituteAll subs s) = ((splitWs s).map img).filter nonEmpty := by
  have hws := splitWs_words s
  rw [splitWs_substituteAll subs (fun kv hkv =>
    ⟨(hws _ (hsub kv hkv).1).1, (hws _ (hsub kv hkv).1).2, (hsub kv hkv).2.1⟩) s]
  congr 1
  apply List.map_congr_left
  intro w hw
  by_cases hk : w ∈ keysOf subs
  · obtain ⟨kv, hkv, rfl⟩ := List.mem_map.mp hk
    refine substituteAll_key subs kv.1 _ (hws _ hw).1 hnd ?_
      (fun kv' hkv' hne => hind kv' hkv' kv.1 hw hne)
    rw [(hsub kv hkv).2.2]
    exact hkv
  · rw [hid w hw hk]
    exact substituteAll_not_infix subs w fun kv hkv =>
      (hind kv hkv w hw fun e => hk (e ▸ List.mem_map.mpr ⟨kv, hkv, rfl⟩)).1

/-! ### characters of a replacement -/

theorem safeName_wsFree (h : Host) (hres : ∀ p, WsFree (h.resolve p)) (w v : Str)
    (hw : WsFree w) (hv : safeName h (wordToPath w) = .ok v) : WsFree v :=
  safeName_chars (fun c => isWs c = false) (by decide) (by decide) h hres w v
    (fun c hc => hw c (List.mem_filter.mp hc).1) hv

/-- no quote character (of `_word_to_path`) -/
def QuoteFree (w : Str) : Prop := ∀ c ∈ w, CTM.Generated.quoteChars.contains c = false

theorem stripQuotes_of_quoteFree (w : Str) (h : QuoteFree w) : stripQuotes w = w :=
  List.filter_eq_self.mpr fun c hc => by simpa using h c hc

theorem safeName_quoteFree (h : Host) (hres : ∀ p, QuoteFree (h.resolve p)) (w v : Str)
    (hv : safeName h (wordToPath w) = .ok v) : QuoteFree v :=
  safeName_chars (fun c => CTM.Generated.quoteChars.contains c = false) (by decide) (by decide)
    h hres w v (fun c hc => by simpa [stripQuotes] using (List.mem_filter.mp hc).2) hv

end CTM.Sanitize
