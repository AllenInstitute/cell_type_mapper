/-
  `clean_for_json`: the cleaned value is made of JSON types only, stands for the same JSON value,
  cleaning is idempotent, and a set is written in an order that does not depend on its enumeration.
-/
import CTM.Model.Output

namespace CTM.Output

/-! The list loops as `map` / `all`, for the `intSet` branches: there `clean` builds its list with
`List.map`, and the mutual functions have to be applied to it. -/

theorem cleanList_eq_map (xs : List PyVal) : cleanList xs = xs.map clean := by
  induction xs with
  | nil => rfl
  | cons x xs ih => simp [cleanList, ih]

theorem eraseList_eq_map (xs : List PyVal) : eraseList xs = xs.map erase := by
  induction xs with
  | nil => rfl
  | cons x xs ih => simp [eraseList, ih]

theorem plainList_eq_all (xs : List PyVal) : plainList xs = xs.all plain := by
  induction xs with
  | nil => rfl
  | cons x xs ih => simp [plainList, ih]

mutual
theorem clean_plain : ∀ v, noOther v = true → plain (clean v) = true
  | .none, _ | .bool _, _ | .npBool _, _ | .int _, _ | .npInt64 _, _ | .num _, _ | .str _, _ => rfl
  | .other _, h => by simp [noOther] at h
  | .list xs, h | .tuple xs, h | .ndarray xs, h => by
      simp only [noOther] at h; simp [clean, plain, cleanList_plain xs h]
  | .intSet xs, _ => by simp [clean, plain, plainList_eq_all]
  | .dict kvs, h => by
      simp only [noOther] at h; simp [clean, plain, cleanKVs_plain kvs h]
theorem cleanList_plain : ∀ xs, noOtherList xs = true → plainList (cleanList xs) = true
  | [], _ => by simp [cleanList, plainList]
  | x :: xs, h => by
      simp only [noOtherList, Bool.and_eq_true] at h
      simp [cleanList, plainList, clean_plain x h.1, cleanList_plain xs h.2]
theorem cleanKVs_plain : ∀ kvs, noOtherKVs kvs = true → plainKVs (cleanKVs kvs) = true
  | [], _ => by simp [cleanKVs, plainKVs]
  | (k, v) :: rest, h => by
      simp only [noOtherKVs, Bool.and_eq_true] at h
      simp [cleanKVs, plainKVs, clean_plain k h.1.1, clean_plain v h.1.2, cleanKVs_plain rest h.2]
end

mutual
theorem clean_idem : ∀ v, clean (clean v) = clean v
  | .none | .bool _ | .npBool _ | .int _ | .npInt64 _ | .num _ | .str _ | .other _ => rfl
  | .list xs | .tuple xs | .ndarray xs => by simp [clean, cleanList_idem xs]
  | .intSet xs => by simp [clean, cleanList_eq_map]
  | .dict kvs => by simp [clean, cleanKVs_idem kvs]
theorem cleanList_idem : ∀ xs, cleanList (cleanList xs) = cleanList xs
  | [] => by simp [cleanList]
  | x :: xs => by simp [cleanList, clean_idem x, cleanList_idem xs]
theorem cleanKVs_idem : ∀ kvs, cleanKVs (cleanKVs kvs) = cleanKVs kvs
  | [] => by simp [cleanKVs]
  | (k, v) :: rest => by simp [cleanKVs, clean_idem k, clean_idem v, cleanKVs_idem rest]
end

mutual
theorem erase_clean : ∀ v, erase (clean v) = erase v
  | .none | .bool _ | .npBool _ | .int _ | .npInt64 _ | .num _ | .str _ | .other _ => rfl
  | .list xs | .tuple xs | .ndarray xs => by simp [clean, erase, eraseList_clean xs]
  | .intSet xs => by simp [clean, erase, eraseList_eq_map]
  | .dict kvs => by simp [clean, erase, eraseKVs_clean kvs]
theorem eraseList_clean : ∀ xs, eraseList (cleanList xs) = eraseList xs
  | [] => by simp [cleanList]
  | x :: xs => by simp [cleanList, eraseList, erase_clean x, eraseList_clean xs]
theorem eraseKVs_clean : ∀ kvs, eraseKVs (cleanKVs kvs) = eraseKVs kvs
  | [] => by simp [cleanKVs]
  | (k, v) :: rest => by
      simp [cleanKVs, eraseKVs, erase_clean k, erase_clean v, eraseKVs_clean rest]
end

/-- `clean` and `erase` sort a set with this `mergeSort` -/
theorem mergeSort_le_eq_of_perm {xs ys : List Int} (h : xs.Perm ys) :
    xs.mergeSort (fun a b => decide (a ≤ b)) = ys.mergeSort (fun a b => decide (a ≤ b)) := by
  have tr : ∀ a b c : Int, decide (a ≤ b) = true → decide (b ≤ c) = true → decide (a ≤ c) = true :=
    fun _ _ _ h1 h2 => decide_eq_true (Int.le_trans (of_decide_eq_true h1) (of_decide_eq_true h2))
  have tot : ∀ a b : Int, (decide (a ≤ b) || decide (b ≤ a)) = true := fun a b => by
    simpa using Int.le_total a b
  apply List.Perm.eq_of_pairwise (le := fun a b => decide (a ≤ b) = true)
  · exact fun a b _ _ h1 h2 => Int.le_antisymm (of_decide_eq_true h1) (of_decide_eq_true h2)
  · exact List.pairwise_mergeSort tr tot xs
  · exact List.pairwise_mergeSort tr tot ys
  · exact ((List.mergeSort_perm xs _).trans h).trans (List.mergeSort_perm ys _).symm

theorem clean_intSet_perm {xs ys : List Int} (h : xs.Perm ys) :
    clean (.intSet xs) = clean (.intSet ys) := by
  simp [clean, mergeSort_le_eq_of_perm h]

end CTM.Output
