/-
  Lemmas about the marker-gene reconciliation (`CTM.Markers`), core Lean only: the validation
  of the lookup.  The cache creation built on it is in `MarkersCache.lean`.

  The validation loop is reduced in three steps.  What one patch writes is a function of the
  table it reads (`patchWrite`): the sorted query part of the list `fallback`, and `specGenes`
  is the query part of the same list.  The loop body has one normal form
  (`validateStepWith_eq`).  Parents are processed deepest first, so the body may as well read
  the original table (`foldSteps_orig`).  From there `validateLookup_spec` describes the
  validated table by `specGenes` of the original one.

  Of the tree lemma files only `TreeDefs` is imported (for `allParents`), and through it `TreePairs`
  (for the lemmas about `sortNat`).
-/
import CTM.Model.Markers
import CTM.Lemmas.ListAux
import CTM.Lemmas.TreeDefs

namespace CTM
namespace Markers
open RawTree (sortNat mem_sortNat sortNat_sorted sortNat_nodup mem_allParents none_mem_allParents)

/-! ### vocabulary

The predicates on trees and tables in which the statements of this file, of `MarkersCache.lean`
and of `Props/C08.lean` are written.  The rest of their vocabulary stands with what it is defined
from: `specGenes` under "the specification", `errAt` under "one patch", `GenesFrom` under "the
loop body"; `RowsFor`, `ReportedEntry` and `Populated` in `MarkersCache.lean`.  How `TreeWF` follows from `RawTree.WF`, and so from the
validator, is in `BridgeWF.lean` (`treeWF_of_WF`). -/

/-- the table is a dict: keys are distinct -/
def KeysNodup (lk : Lookup) : Prop := (lk.map (·.1)).Nodup

/-- keys whose entries the loop body of parent `p` reads besides its own -/
def readKeys (t : RawTree) : PKey → List PKey
  | none => []
  | some (l, n) => none :: ancestorKeys t l n

/-- the parent is consulted by the run: it has at least two children -/
def Consulted (t : RawTree) (p : PKey) : Prop := ∃ ch, childrenOf t p = .ok ch ∧ ch.length > 1

/-- The hypothesis on the taxonomy: well-formedness as far as the marker stage needs it.  Level
names distinct, at least one level, every level of the hierarchy has its dict
(`validate_taxonomy_tree`'s key check), node names within a level distinct
(they are dict keys). -/
structure TreeWF (t : RawTree) : Prop where
  hierNodup : t.hierarchy.Nodup
  hierNonempty : t.hierarchy ≠ []
  hasLevels : ∀ l ∈ t.hierarchy, l ∈ t.levels.map (·.1)
  nodesNodup : ∀ l ∈ t.hierarchy, (t.nodesAt l).Nodup

/-- the consequence of `TreeWF` (`treeOK_of_wf`) from which the facts about the loop are proved -/
structure TreeOK (t : RawTree) : Prop where
  parentsNodup : t.allParents.Nodup
  childrenOk : ∀ p ∈ t.allParents, ∃ ch, childrenOf t p = .ok ch
  /-- `all_parents` lists ancestors before descendants -/
  deepestFirst : t.allParents.reverse.Pairwise (fun e p => e ∉ readKeys t p)
  selfFree : ∀ p ∈ t.allParents, p ∉ readKeys t p

/-! ### sets of genes as lists -/

theorem mem_dedup (a : Nat) (l : List Nat) : a ∈ dedup l ↔ a ∈ l := by
  induction l with
  | nil => simp [dedup]
  | cons x xs ih =>
    simp only [dedup]
    split
    · rename_i h
      simp only [List.contains_iff_mem] at h
      rw [ih, List.mem_cons]
      exact ⟨.inr, fun ha => ha.elim (· ▸ h) id⟩
    · simp [ih]

theorem nodup_dedup (l : List Nat) : (dedup l).Nodup := by
  induction l with
  | nil => simp [dedup]
  | cons x xs ih =>
    simp only [dedup]
    split
    · exact ih
    · rename_i h
      simp only [List.contains_iff_mem] at h
      exact List.nodup_cons.2 ⟨by rw [mem_dedup]; exact h, ih⟩

theorem mem_interQ (Q l : List Gene) (g : Gene) : g ∈ interQ Q l ↔ g ∈ l ∧ g ∈ Q := by
  simp [interQ, mem_dedup, List.mem_filter]

theorem nodup_interQ (Q l : List Gene) : (interQ Q l).Nodup := nodup_dedup _

theorem mem_sortedInter (Q l : List Gene) (g : Gene) : g ∈ sortedInter Q l ↔ g ∈ l ∧ g ∈ Q := by
  simp [sortedInter, mem_sortNat, mem_interQ]

theorem sortedInter_strict (Q l : List Gene) : (sortedInter Q l).Pairwise (· < ·) :=
  ListAux.pairwise_lt_of_le_of_nodup (sortNat_sorted _) (sortNat_nodup (nodup_interQ Q l))

theorem interQ_congrQ {Q Q' : List Gene} (h : ∀ g, g ∈ Q ↔ g ∈ Q') (l : List Gene) :
    interQ Q l = interQ Q' l := by
  unfold interQ
  congr 1
  apply List.filter_congr
  intro g _
  have := h g
  by_cases hg : g ∈ Q <;> simp_all

theorem countQ_congrQ {Q Q' : List Gene} (h : ∀ g, g ∈ Q ↔ g ∈ Q') (l : List Gene) :
    countQ Q l = countQ Q' l := by unfold countQ; rw [interQ_congrQ h]

theorem sortedInter_congrQ {Q Q' : List Gene} (h : ∀ g, g ∈ Q ↔ g ∈ Q') (l : List Gene) :
    sortedInter Q l = sortedInter Q' l := by unfold sortedInter; rw [interQ_congrQ h]

theorem countQ_eq_zero (Q l : List Gene) : countQ Q l = 0 ↔ ∀ g ∈ l, g ∉ Q := by
  unfold countQ
  rw [List.length_eq_zero_iff]
  constructor
  · intro h g hg hq
    have : g ∈ interQ Q l := (mem_interQ Q l g).2 ⟨hg, hq⟩
    rw [h] at this; cases this
  · intro h
    apply List.eq_nil_iff_forall_not_mem.2
    intro g hg
    have := (mem_interQ Q l g).1 hg
    exact h g this.1 this.2

theorem interQ_eq_nil (Q l : List Gene) : interQ Q l = [] ↔ ∀ g ∈ l, g ∉ Q := by
  rw [← countQ_eq_zero]; unfold countQ; exact List.length_eq_zero_iff.symm

/-! ### the marker table as a dict -/

theorem hasKey_iff_mem_keys (lk : Lookup) (k : PKey) : hasKey lk k = true ↔ k ∈ lk.map (·.1) := by
  simp [hasKey, List.any_eq_true]

theorem hasKey_iff_get?_isSome (lk : Lookup) (k : PKey) : hasKey lk k = true ↔ (get? lk k).isSome := by
  rw [hasKey, get?, List.any_eq_true, List.lookup_isSome_iff]
  exact exists_congr fun p => and_congr_right fun _ => by rw [beq_iff_eq, beq_iff_eq, eq_comm]

theorem set_eq_assign (lk : Lookup) (k : PKey) (v : List Gene) : set lk k v = ListAux.assign lk k v := by
  unfold set ListAux.assign
  rw [show hasKey lk k = lk.any (fun e => e.1 == k) from rfl]
  congr 1
  exact List.map_congr_left fun e _ => by
    by_cases he : (e.1 == k) = true
    · rw [if_pos he, if_pos he, eq_of_beq he]
    · rw [if_neg he, if_neg he]

theorem get?_set_self (lk : Lookup) (k : PKey) (v : List Gene) : get? (set lk k v) k = some v := by
  rw [get?, set_eq_assign, ListAux.lookup_assign, beq_self_eq_true, if_pos rfl]

theorem get?_set_ne (lk : Lookup) {k k' : PKey} (v : List Gene) (h : k' ≠ k) :
    get? (set lk k v) k' = get? lk k' := by
  rw [get?, set_eq_assign, ListAux.lookup_assign, beq_eq_false_iff_ne.2 h]; rfl

theorem mem_set (lk : Lookup) (k : PKey) (v : List Gene) (e : PKey × List Gene) (h : e ∈ set lk k v) :
    e ∈ lk ∨ e = (k, v) :=
  ListAux.mem_assign (set_eq_assign lk k v ▸ h)

theorem keysNodup_set (lk : Lookup) (k : PKey) (v : List Gene) (h : KeysNodup lk) : KeysNodup (set lk k v) := by
  rw [KeysNodup, set_eq_assign]; exact ListAux.nodup_keys_assign k v h

/-- `if parent_str not in marker_lookup: marker_lookup[parent_str] = []` -/
def ensureKey (lk : Lookup) (p : PKey) : Lookup := if (get? lk p).isSome then lk else set lk p []

theorem get?_ensureKey_self (lk : Lookup) (p : PKey) :
    get? (ensureKey lk p) p = some ((get? lk p).getD []) := by
  unfold ensureKey
  cases h : get? lk p with
  | none => exact get?_set_self lk p []
  | some l => simpa using h

theorem get?_ensureKey_ne (lk : Lookup) {p k : PKey} (h : k ≠ p) : get? (ensureKey lk p) k = get? lk k := by
  unfold ensureKey
  split
  · rfl
  · exact get?_set_ne lk [] h

def setOpt (lk : Lookup) (p : PKey) : Option (List Gene) → Lookup
  | none => lk
  | some v => set lk p v

theorem get?_setOpt_self (lk : Lookup) (p : PKey) (w : Option (List Gene)) (own : List Gene)
    (h : get? lk p = some own) : get? (setOpt lk p w) p = some (w.getD own) := by
  cases w with
  | none => exact h
  | some v => exact get?_set_self lk p v

/-! ### the specification -/

/-- add the lists of the ancestors that are present in the table, nearest
first, until the number of distinct query genes reaches `m` -/
def specAcc (Q : List Gene) (m : Nat) : List (List Gene) → List Gene → List Gene
  | [], cur => cur
  | la :: rest, cur =>
    if countQ Q (cur ++ la) ≥ m then cur ++ la else specAcc Q m rest (cur ++ la)

/-- The genes of parent `p` according to the property, as a function of the
ORIGINAL table: the parent's listed markers that occur in the query; if fewer
than `m` remain (and `p` is not the root), the lists of its ancestors present
in the table are added nearest first until `m` is reached, finally the root's;
always restricted to the query.  (A list used as a set: no repetition.) -/
def specGenes (t : RawTree) (lk : Lookup) (Q : List Gene) (m : Nat) (p : PKey) : List Gene :=
  let own := (get? lk p).getD []
  match p with
  | none => interQ Q own
  | some (l, n) =>
    if countQ Q own < m then
      let acc := specAcc Q m ((ancestorKeys t l n).filterMap (get? lk)) own
      if countQ Q acc < m then interQ Q (acc ++ (get? lk none).getD []) else interQ Q acc
    else interQ Q own

/-- `new_markers` when the walk of `(l, n)` is over: the own list, the lists of the ancestors present in
`lk` nearest first until `m` query genes are reached, and the root's if they are not.  The model computes
it (`patchOf_fst`), `specGenes` is its part in the query (`specGenes_some`). -/
def fallback (t : RawTree) (lk : Lookup) (Q : List Gene) (m : Nat) (l : Level) (n : Node) (own : List Gene) :
    List Gene :=
  let acc := specAcc Q m ((ancestorKeys t l n).filterMap (get? lk)) own
  if countQ Q acc < m then acc ++ (get? lk none).getD [] else acc

theorem specGenes_some (t : RawTree) (lk : Lookup) (Q : List Gene) (m : Nat) (l : Level) (n : Node) :
    specGenes t lk Q m (some (l, n)) =
      interQ Q (if countQ Q ((get? lk (some (l, n))).getD []) < m then
        fallback t lk Q m l n ((get? lk (some (l, n))).getD []) else (get? lk (some (l, n))).getD []) := by
  unfold specGenes fallback
  by_cases h : countQ Q ((get? lk (some (l, n))).getD []) < m
  · simp only [h, if_true]; split <;> rfl
  · simp only [h, if_false]

theorem mem_specAcc_bounds (Q : List Gene) (m : Nat) (lists : List (List Gene)) (cur : List Gene) (g : Gene) :
    (g ∈ cur → g ∈ specAcc Q m lists cur) ∧
    (g ∈ specAcc Q m lists cur → g ∈ cur ∨ ∃ la ∈ lists, g ∈ la) := by
  induction lists generalizing cur with
  | nil => simp [specAcc]
  | cons la rest ih =>
    simp only [specAcc]
    split
    · simp only [List.mem_append, List.mem_cons, exists_eq_or_imp]
      exact ⟨Or.inl, fun h => h.elim Or.inl (fun h => Or.inr (Or.inl h))⟩
    · constructor
      · intro h; exact (ih (cur ++ la)).1 (by simp [h])
      · intro h
        rcases (ih (cur ++ la)).2 h with h | ⟨lb, hlb, h⟩
        · rcases List.mem_append.1 h with h | h
          · exact Or.inl h
          · exact Or.inr ⟨la, by simp, h⟩
        · exact Or.inr ⟨lb, by simp [hlb], h⟩

theorem mem_fallback_bounds (t : RawTree) (lk : Lookup) (Q : List Gene) (m : Nat) (l : Level) (n : Node)
    (own : List Gene) (g : Gene) :
    (g ∈ own → g ∈ fallback t lk Q m l n own) ∧
    (g ∈ fallback t lk Q m l n own → g ∈ own ∨
      (∃ a ∈ ancestorKeys t l n, ∃ la, get? lk a = some la ∧ g ∈ la) ∨ g ∈ (get? lk none).getD []) := by
  have hacc := mem_specAcc_bounds Q m ((ancestorKeys t l n).filterMap (get? lk)) own g
  have src : g ∈ specAcc Q m ((ancestorKeys t l n).filterMap (get? lk)) own →
      g ∈ own ∨ (∃ a ∈ ancestorKeys t l n, ∃ la, get? lk a = some la ∧ g ∈ la) ∨ g ∈ (get? lk none).getD [] := by
    intro hx
    rcases hacc.2 hx with h | ⟨la, hla, h⟩
    · exact Or.inl h
    · obtain ⟨a, ha, hga⟩ := List.mem_filterMap.1 hla
      exact Or.inr (Or.inl ⟨a, ha, la, hga, h⟩)
  unfold fallback
  simp only
  split
  · simp only [List.mem_append]
    exact ⟨fun h => Or.inl (hacc.1 h), fun h => h.elim src fun h => Or.inr (Or.inr h)⟩
  · exact ⟨hacc.1, src⟩

theorem specAcc_prefix (Q : List Gene) (m : Nat) (lists : List (List Gene)) (cur : List Gene)
    (hcur : countQ Q cur < m) :
    ∃ k, k ≤ lists.length ∧ specAcc Q m lists cur = cur ++ (lists.take k).flatten ∧
      (k < lists.length → countQ Q (cur ++ (lists.take k).flatten) ≥ m) ∧
      ∀ j, j < k → countQ Q (cur ++ (lists.take j).flatten) < m := by
  induction lists generalizing cur with
  | nil => exact ⟨0, by simp, by simp [specAcc], by simp, by simp⟩
  | cons la rest ih =>
    simp only [specAcc]
    by_cases hge : countQ Q (cur ++ la) ≥ m
    · refine ⟨1, by simp, by simp [hge], by simp [hge], ?_⟩
      intro j hj
      have : j = 0 := by omega
      subst this; simpa using hcur
    · simp only [hge, if_false]
      obtain ⟨k, hk, he, h1, h2⟩ := ih (cur ++ la) (by omega)
      refine ⟨k + 1, by simp [hk], by simp [he, List.append_assoc], ?_, ?_⟩
      · intro hlt
        simp only [List.take_succ_cons, List.flatten_cons, ← List.append_assoc]
        exact h1 (by simpa using hlt)
      · intro j hj
        cases j with
        | zero => simpa using hcur
        | succ j' =>
          simp only [List.take_succ_cons, List.flatten_cons, ← List.append_assoc]
          exact h2 j' (by omega)

theorem specGenes_own (t : RawTree) (lk : Lookup) (Q : List Gene) (m : Nat) (p : PKey) (g : Gene) :
    (g ∈ (get? lk p).getD [] → g ∈ Q → g ∈ specGenes t lk Q m p) ∧
    (g ∈ specGenes t lk Q m p → g ∈ Q) := by
  cases p with
  | none => simp only [specGenes, mem_interQ]; exact ⟨fun h1 h2 => ⟨h1, h2⟩, fun h => h.2⟩
  | some ln =>
    rw [specGenes_some, mem_interQ]
    refine ⟨fun h1 h2 => ⟨?_, h2⟩, fun h => h.2⟩
    split
    · exact (mem_fallback_bounds ..).1 h1
    · exact h1

theorem specGenes_nil_countQ (t : RawTree) (lk : Lookup) (Q : List Gene) (m : Nat) (p : PKey)
    (h : specGenes t lk Q m p = []) : countQ Q ((get? lk p).getD []) = 0 := by
  rw [countQ_eq_zero]
  intro g hg hq
  have := (specGenes_own t lk Q m p g).1 hg hq
  rw [h] at this; cases this

/-! ### the ancestor walk computes `fallback` -/

theorem patchLoop_fst (Q : List Gene) (m : Nat) (lk : Lookup) (keys : List PKey) (new : List Gene)
    (pw : List PKey) :
    (patchLoop Q m lk keys new pw).1 = specAcc Q m (keys.filterMap (get? lk)) new := by
  induction keys generalizing new pw with
  | nil => simp [patchLoop, specAcc]
  | cons a rest ih =>
    simp only [patchLoop, List.filterMap_cons]
    cases get? lk a with
    | none => exact ih _ _
    | some la =>
      simp only [specAcc]
      split
      · rfl
      · exact ih _ _

theorem patchLoop_snd_eq_nil (Q : List Gene) (m : Nat) (lk : Lookup) (keys : List PKey) (new : List Gene)
    (pw : List PKey) :
    (patchLoop Q m lk keys new pw).2 = [] ↔ pw = [] ∧ keys.filterMap (get? lk) = [] := by
  induction keys generalizing new pw with
  | nil => simp [patchLoop]
  | cons a rest ih =>
    simp only [patchLoop, List.filterMap_cons]
    cases get? lk a with
    | none => exact ih _ _
    | some la =>
      simp only
      split
      · simp
      · rw [ih]; simp

theorem patchOf_eq (t : RawTree) (Q : List Gene) (m : Nat) (lk : Lookup) (l : Level) (n : Node)
    (own : List Gene) :
    patchOf t Q m lk l n own =
      if countQ Q (patchLoop Q m lk (ancestorKeys t l n) own []).1 < m then
        match get? lk none with
        | some lr => ((patchLoop Q m lk (ancestorKeys t l n) own []).1 ++ lr,
                      (patchLoop Q m lk (ancestorKeys t l n) own []).2 ++ [none])
        | none => patchLoop Q m lk (ancestorKeys t l n) own []
      else patchLoop Q m lk (ancestorKeys t l n) own [] := rfl

theorem patchOf_fst (t : RawTree) (Q : List Gene) (m : Nat) (lk : Lookup) (l : Level) (n : Node)
    (own : List Gene) : (patchOf t Q m lk l n own).1 = fallback t lk Q m l n own := by
  rw [patchOf_eq, fallback]
  simp only [patchLoop_fst]
  split
  · cases get? lk none <;> simp [patchLoop_fst]
  · exact patchLoop_fst ..

theorem patchOf_snd_eq_nil (t : RawTree) (Q : List Gene) (m : Nat) (lk : Lookup) (l : Level) (n : Node)
    (own : List Gene) (hlt : countQ Q own < m) :
    (patchOf t Q m lk l n own).2 = [] ↔
      (ancestorKeys t l n).filterMap (get? lk) = [] ∧ get? lk none = none := by
  rw [patchOf_eq]
  split
  · cases get? lk none with
    | some lr => simp
    | none => simp [patchLoop_snd_eq_nil]
  · rename_i hge
    rw [patchLoop_snd_eq_nil]
    -- the walk stopped with `m` genes, so it has added a list
    have : (ancestorKeys t l n).filterMap (get? lk) ≠ [] := fun h => hge (by rwa [patchLoop_fst, h, specAcc])
    simp [this]

/-! ### one patch

What the patch writes is a function of the table the ancestors' lists are read
from, the key and the own list; the dict being written does not enter. -/

/-- the list the patch writes at `p`, if it writes: only for a non-root parent
with fewer than `m` own markers in the query, and only if the walk found a list
to add -/
def patchWrite (t : RawTree) (Q : List Gene) (m : Nat) (readLk : Lookup) : PKey → List Gene → Option (List Gene)
  | none, _ => none
  | some (l, n), own =>
    if countQ Q own < m ∧ ¬ ((ancestorKeys t l n).filterMap (get? readLk) = [] ∧ get? readLk none = none) then
      some (sortedInter Q (fallback t readLk Q m l n own))
    else none

/-- `marker_lookup[parent_str]` as the test at the end of the loop body sees it -/
def curAfter (t : RawTree) (Q : List Gene) (m : Nat) (readLk : Lookup) (p : PKey) (own : List Gene) :
    List Gene :=
  (patchWrite t Q m readLk p own).getD own

theorem patchAndCount_eq (t : RawTree) (Q : List Gene) (m : Nat) (readLk : Lookup) (st : VState)
    (p : PKey) (own : List Gene) :
    patchAndCount t Q m readLk st p own =
      if countQ Q (curAfter t Q m readLk p own) == 0 then
        { st with lookup := setOpt st.lookup p (patchWrite t Q m readLk p own), anyErr := true,
                  bad := st.bad + 1 }
      else { st with lookup := setOpt st.lookup p (patchWrite t Q m readLk p own) } := by
  unfold patchAndCount curAfter
  cases p with
  | none => simp [patchWrite, setOpt]
  | some ln =>
    obtain ⟨l, n⟩ := ln
    by_cases hlt : countQ Q own < m
    · have hfst := patchOf_fst t Q m readLk l n own
      have hsnd := patchOf_snd_eq_nil t Q m readLk l n own hlt
      by_cases hpw : (patchOf t Q m readLk l n own).2 = []
      · rw [show patchWrite t Q m readLk (some (l, n)) own = none from if_neg fun h => h.2 (hsnd.1 hpw)]
        simp [setOpt, hlt, hpw]
      · rw [show patchWrite t Q m readLk (some (l, n)) own = some (sortedInter Q (fallback t readLk Q m l n own))
          from if_pos ⟨hlt, mt hsnd.2 hpw⟩]
        simp [setOpt, hlt, hpw, hfst]
    · simp [patchWrite, setOpt, hlt]

theorem patchAndCount_lookup (t : RawTree) (Q : List Gene) (m : Nat) (readLk : Lookup) (st : VState)
    (p : PKey) (own : List Gene) :
    (patchAndCount t Q m readLk st p own).lookup = setOpt st.lookup p (patchWrite t Q m readLk p own) := by
  rw [patchAndCount_eq]; split <;> rfl

theorem patchAndCount_anyErr (t : RawTree) (Q : List Gene) (m : Nat) (readLk : Lookup) (st : VState)
    (p : PKey) (own : List Gene) :
    (patchAndCount t Q m readLk st p own).anyErr =
      (st.anyErr || countQ Q (curAfter t Q m readLk p own) == 0) := by
  rw [patchAndCount_eq]; split <;> simp [*]

theorem patchWrite_congr (t : RawTree) (Q : List Gene) (m : Nat) {lk1 lk2 : Lookup} (p : PKey)
    (h : ∀ a ∈ readKeys t p, get? lk1 a = get? lk2 a) (own : List Gene) :
    patchWrite t Q m lk1 p own = patchWrite t Q m lk2 p own := by
  cases p with
  | none => rfl
  | some ln =>
    obtain ⟨l, n⟩ := ln
    have hk : (ancestorKeys t l n).filterMap (get? lk1) = (ancestorKeys t l n).filterMap (get? lk2) :=
      ListAux.filterMap_congr fun a ha => h a (by simp [readKeys, ha])
    simp only [patchWrite, fallback, h none (by simp [readKeys]), hk]

theorem patchAndCount_congr (t : RawTree) (Q : List Gene) (m : Nat) {lk1 lk2 : Lookup} (st : VState)
    (p : PKey) (h : ∀ a ∈ readKeys t p, get? lk1 a = get? lk2 a) (own : List Gene) :
    patchAndCount t Q m lk1 st p own = patchAndCount t Q m lk2 st p own := by
  rw [patchAndCount_eq, patchAndCount_eq, curAfter, curAfter, patchWrite_congr t Q m p h]

theorem patchWrite_sources (t : RawTree) (Q : List Gene) (m : Nat) (lk : Lookup) (p : PKey)
    (own v : List Gene) (h : patchWrite t Q m lk p own = some v) (g : Gene) (hg : g ∈ v) :
    g ∈ own ∨ ∃ e0 ∈ lk, g ∈ e0.2 := by
  cases p with
  | none => cases h
  | some ln =>
    obtain ⟨l, n⟩ := ln
    simp only [patchWrite] at h
    split at h
    · cases h
      rcases (mem_fallback_bounds t lk Q m l n own g).2 ((mem_sortedInter Q _ g).1 hg).1 with h | ⟨a, _, la, ha, h⟩ | h
      · exact Or.inl h
      · exact Or.inr ⟨(a, la), ListAux.mem_of_lookup ha, h⟩
      · cases hr : get? lk none with
        | none => simp [hr] at h
        | some lr => exact Or.inr ⟨(none, lr), ListAux.mem_of_lookup hr, by simpa [hr] using h⟩
    · cases h

/-- within the query, the entry the loop body tests is `specGenes` of the table
the lists are read from -/
theorem curAfter_spec (t : RawTree) (lk : Lookup) (Q : List Gene) (m : Nat) (p : PKey) (g : Gene) :
    (g ∈ curAfter t Q m lk p ((get? lk p).getD []) ∧ g ∈ Q) ↔ g ∈ specGenes t lk Q m p := by
  cases p with
  | none => simp [curAfter, patchWrite, specGenes, mem_interQ]
  | some ln =>
    obtain ⟨l, n⟩ := ln
    rw [specGenes_some, mem_interQ]
    simp only [curAfter, patchWrite]
    by_cases hlt : countQ Q ((get? lk (some (l, n))).getD []) < m
    · by_cases hno : (ancestorKeys t l n).filterMap (get? lk) = [] ∧ get? lk none = none
      · -- nothing to add: the walk returns the own list
        simp [hlt, hno, fallback, specAcc]
      · simp only [hlt, hno, not_false_eq_true, and_self, if_true, Option.getD_some, mem_sortedInter]
        exact ⟨fun h => h.1, fun h => ⟨h, h.2⟩⟩
    · simp [hlt]

/-- the condition under which the body of a consulted parent appends to
`error_msg`: the root is missing or empty, or nothing of what the table offers
the parent (own list, ancestors', root's) is in the query.  The two disjuncts are the two
places where the body appends to `error_msg` (the one `raise` comes after the loop); the first
implies the second (`errAt_iff`). -/
def errAt (t : RawTree) (lk : Lookup) (Q : List Gene) (m : Nat) (p : PKey) : Prop :=
  (p = none ∧ (get? lk none).getD [] = []) ∨ specGenes t lk Q m p = []

/-- a missing or empty root has no `specGenes` either -/
theorem errAt_iff (t : RawTree) (lk : Lookup) (Q : List Gene) (m : Nat) (p : PKey) :
    errAt t lk Q m p ↔ specGenes t lk Q m p = [] := by
  constructor
  · rintro (⟨rfl, h⟩ | h)
    · simp [specGenes, h, interQ_eq_nil]
    · exact h
  · exact Or.inr

theorem errAt_iff_countQ (t : RawTree) (lk : Lookup) (Q : List Gene) (m : Nat) (p : PKey) :
    errAt t lk Q m p ↔ countQ Q (curAfter t Q m lk p ((get? lk p).getD [])) = 0 := by
  rw [errAt_iff, countQ_eq_zero, List.eq_nil_iff_forall_not_mem]
  constructor
  · intro h g hg hq
    exact h g ((curAfter_spec t lk Q m p g).1 ⟨hg, hq⟩)
  · intro h g hg
    have := (curAfter_spec t lk Q m p g).2 hg
    exact h g this.1 this.2

/-! ### the loop body -/

/-- the loop body in three branches: skipped; the root missing or empty; the
patch on the dict in which the key has been created if it was missing -/
theorem validateStepWith_eq (t : RawTree) (Q : List Gene) (m : Nat) (r : VState → Lookup) (st : VState)
    (p : PKey) :
    validateStepWith t Q m r st p =
      match childrenOf t p with
      | .error e => .error e
      | .ok ch =>
        if ch.length ≤ 1 then .ok { st with skipped := st.skipped + 1 }
        else if p = none ∧ (get? st.lookup p).getD [] = [] then .ok { st with anyErr := true }
        else .ok (patchAndCount t Q m (r { st with lookup := ensureKey st.lookup p })
                    { st with lookup := ensureKey st.lookup p } p ((get? st.lookup p).getD [])) := by
  unfold validateStepWith
  cases childrenOf t p with
  | error e => rfl
  | ok ch =>
    by_cases hl : ch.length ≤ 1
    · simp [hl, Nat.not_lt.2 hl]
    · have hl' : ch.length > 1 := Nat.lt_of_not_le hl
      simp only [hl', decide_true, Bool.not_true, Bool.false_eq_true, if_false, hl]
      cases hg : get? st.lookup p with
      | some own =>
        by_cases hp : p = none
        · subst hp
          cases own <;> simp [ensureKey, hg]
        · simp [ensureKey, hg, hp]
      | none =>
        by_cases hp : p = none
        · simp [hp]
        · simp [ensureKey, hg, hp]

theorem validateStep_orig (t : RawTree) (Q : List Gene) (m : Nat) (lk : Lookup) (st : VState)
    (p : PKey) (hself : p ∉ readKeys t p)
    (h : ∀ a ∈ readKeys t p, get? st.lookup a = get? lk a) :
    validateStep t Q m st p = validateStepWith t Q m (fun _ => lk) st p := by
  rw [validateStep, validateStepWith_eq, validateStepWith_eq]
  have : ∀ a ∈ readKeys t p, get? (ensureKey st.lookup p) a = get? lk a := fun a ha => by
    rw [get?_ensureKey_ne _ (by rintro rfl; exact hself ha), h a ha]
  simp only [patchAndCount_congr t Q m _ p this]

/-- the loop body changes the dict only by writing at its own key, and what it
writes is `[]` or made of genes of the own list and of the table it reads -/
theorem stepOrig_lookup_ind (t : RawTree) (Q : List Gene) (m : Nat) (lk : Lookup) (st st' : VState) (p : PKey)
    (P : Lookup → Prop) (h0 : P st.lookup)
    (hset : ∀ lk' v, P lk' → (∀ g ∈ v, g ∈ (get? st.lookup p).getD [] ∨ ∃ e0 ∈ lk, g ∈ e0.2) →
      P (set lk' p v))
    (hs : validateStepWith t Q m (fun _ => lk) st p = .ok st') : P st'.lookup := by
  rw [validateStepWith_eq] at hs
  cases hc : childrenOf t p with
  | error e => simp [hc] at hs
  | ok ch =>
    simp only [hc] at hs
    have h1 : P (ensureKey st.lookup p) := by
      unfold ensureKey
      split
      · exact h0
      · exact hset _ [] h0 (fun g hg => nomatch hg)
    split at hs
    · cases hs; exact h0
    · split at hs
      · cases hs; exact h0
      · cases hs
        rw [patchAndCount_lookup]
        cases hw : patchWrite t Q m lk p ((get? st.lookup p).getD []) with
        | none => exact h1
        | some v => exact hset _ v h1 (patchWrite_sources t Q m lk p _ v hw)

theorem stepOrig_frame (t : RawTree) (Q : List Gene) (m : Nat) (lk : Lookup) (st st' : VState) (p k : PKey)
    (hk : k ≠ p) (hs : validateStepWith t Q m (fun _ => lk) st p = .ok st') :
    get? st'.lookup k = get? st.lookup k :=
  stepOrig_lookup_ind t Q m lk st st' p (fun lk' => get? lk' k = get? st.lookup k) rfl
    (fun lk' v h _ => by rw [get?_set_ne lk' v hk, h]) hs

theorem stepOrig_keysNodup (t : RawTree) (Q : List Gene) (m : Nat) (lk : Lookup) (st st' : VState) (p : PKey)
    (h : KeysNodup st.lookup) (hs : validateStepWith t Q m (fun _ => lk) st p = .ok st') :
    KeysNodup st'.lookup :=
  stepOrig_lookup_ind t Q m lk st st' p KeysNodup h (fun lk' v h _ => keysNodup_set lk' p v h) hs

def GenesFrom (lk cur : Lookup) : Prop := ∀ e ∈ cur, ∀ g ∈ e.2, ∃ e0 ∈ lk, g ∈ e0.2

theorem stepOrig_genesFrom (t : RawTree) (Q : List Gene) (m : Nat) (lk : Lookup) (st st' : VState) (p : PKey)
    (h : GenesFrom lk st.lookup) (hs : validateStepWith t Q m (fun _ => lk) st p = .ok st') :
    GenesFrom lk st'.lookup := by
  refine stepOrig_lookup_ind t Q m lk st st' p (GenesFrom lk) h ?_ hs
  intro lk' v h' hv e he g hg
  rcases mem_set lk' p v e he with he | rfl
  · exact h' e he g hg
  · rcases hv g hg with hown | hlk
    · cases hgp : get? st.lookup p with
      | none => simp [hgp] at hown
      | some own =>
        rw [hgp] at hown
        exact h (p, own) (ListAux.mem_of_lookup hgp) g hown
    · exact hlk

theorem stepOrig_spec (t : RawTree) (Q : List Gene) (m : Nat) (lk : Lookup) (st : VState) (p : PKey)
    (ch : List Node) (hc : childrenOf t p = .ok ch) :
    ∃ st', validateStepWith t Q m (fun _ => lk) st p = .ok st' ∧
      get? st'.lookup p =
        (if ch.length > 1 ∧ p ≠ none then some (curAfter t Q m lk p ((get? st.lookup p).getD []))
         else get? st.lookup p) ∧
      st'.anyErr = (st.anyErr ||
        (decide (ch.length > 1) && countQ Q (curAfter t Q m lk p ((get? st.lookup p).getD [])) == 0)) := by
  rw [validateStepWith_eq, hc]
  simp only
  by_cases hl : ch.length ≤ 1
  · rw [if_pos hl]
    exact ⟨_, rfl, by simp [Nat.not_lt.2 hl], by simp [Nat.not_lt.2 hl]⟩
  · have hl' : ch.length > 1 := Nat.lt_of_not_le hl
    rw [if_neg hl]
    simp only [hl', true_and, decide_true, Bool.true_and]
    cases p with
    | none =>
      by_cases hr : (get? st.lookup none).getD [] = []
      · rw [if_pos ⟨rfl, hr⟩]
        refine ⟨_, rfl, by simp, ?_⟩
        simp [hr, curAfter, patchWrite, countQ_eq_zero]
      · rw [if_neg (fun h => hr h.2)]
        refine ⟨_, rfl, ?_, patchAndCount_anyErr ..⟩
        rw [patchAndCount_lookup]
        cases hg : get? st.lookup none with
        | none => simp [hg] at hr
        | some own => simp [patchWrite, setOpt, ensureKey, hg]
    | some ln =>
      rw [if_neg (fun h => nomatch h.1)]
      refine ⟨_, rfl, ?_, patchAndCount_anyErr ..⟩
      rw [patchAndCount_lookup]
      simp only [ne_eq, reduceCtorEq, not_false_eq_true, if_true]
      exact get?_setOpt_self _ _ _ _ (get?_ensureKey_self _ _)

/-! ### the loop -/

theorem foldSteps_inv {step : VState → PKey → Except MErr VState} (P : VState → Prop) (ps : List PKey)
    (hstep : ∀ st, ∀ p ∈ ps, ∀ st', P st → step st p = .ok st' → P st') (st stF : VState) (h0 : P st)
    (hf : foldSteps step ps st = .ok stF) : P stF := by
  induction ps generalizing st with
  | nil => simp only [foldSteps, Except.ok.injEq] at hf; exact hf ▸ h0
  | cons p ps ih =>
    simp only [foldSteps] at hf
    cases hs : step st p with
    | error e => simp [hs] at hf
    | ok st1 =>
      simp only [hs] at hf
      exact ih (fun s q hq => hstep s q (by simp [hq])) st1 (hstep st p (by simp) st1 h0 hs) hf

/-- deepest parents first: no body reads an entry that an earlier body has
written, so reading the dict being mutated is reading the original table -/
theorem foldSteps_orig (t : RawTree) (Q : List Gene) (m : Nat) (lk : Lookup) (ps : List PKey)
    (hpw : ps.Pairwise (fun e p => e ∉ readKeys t p))
    (hself : ∀ p ∈ ps, p ∉ readKeys t p) (st : VState)
    (H : ∀ p ∈ ps, ∀ a ∈ readKeys t p, get? st.lookup a = get? lk a) :
    foldSteps (validateStep t Q m) ps st =
      foldSteps (validateStepWith t Q m (fun _ => lk)) ps st := by
  induction ps generalizing st with
  | nil => rw [foldSteps, foldSteps]  -- `rfl` here first tries to unify the two loop bodies
  | cons p ps ih =>
    have hp := List.pairwise_cons.1 hpw
    rw [foldSteps, foldSteps, validateStep_orig t Q m lk st p (hself p (by simp)) (H p (by simp))]
    cases hs : validateStepWith t Q m (fun _ => lk) st p with
    | error e => rfl
    | ok st' =>
      refine ih hp.2 (fun q hq => hself q (by simp [hq])) st' (fun q hq a ha => ?_)
      rw [stepOrig_frame t Q m lk st st' p a (fun e => hp.1 q hq (e ▸ ha)) hs]
      exact H q (by simp [hq]) a ha

theorem consulted_iff {t : RawTree} {p : PKey} {ch : List Node} (hc : childrenOf t p = .ok ch) :
    Consulted t p ↔ ch.length > 1 :=
  ⟨fun ⟨ch', hc', hl⟩ => by rw [hc] at hc'; cases hc'; exact hl, fun hl => ⟨ch, hc, hl⟩⟩

theorem foldSteps_spec (t : RawTree) (Q : List Gene) (m : Nat) (lk : Lookup) (ps : List PKey)
    (hnd : ps.Nodup) (hch : ∀ p ∈ ps, ∃ ch, childrenOf t p = .ok ch) (st : VState)
    (H : ∀ p ∈ ps, get? st.lookup p = get? lk p) :
    ∃ stF, foldSteps (validateStepWith t Q m (fun _ => lk)) ps st = .ok stF ∧
      (∀ k, (k ∉ ps ∨ k = none ∨ ¬ Consulted t k) → get? stF.lookup k = get? st.lookup k) ∧
      (∀ p ∈ ps, p ≠ none → Consulted t p →
        get? stF.lookup p = some (curAfter t Q m lk p ((get? lk p).getD []))) ∧
      (stF.anyErr = true ↔ st.anyErr = true ∨
        ∃ p ∈ ps, Consulted t p ∧ countQ Q (curAfter t Q m lk p ((get? lk p).getD [])) = 0) := by
  induction ps generalizing st with
  | nil => exact ⟨st, rfl, fun _ _ => rfl, fun _ h => (nomatch h), by simp⟩
  | cons p ps ih =>
    have hnd' := List.nodup_cons.1 hnd
    obtain ⟨ch, hc⟩ := hch p (by simp)
    obtain ⟨st1, h1, he, ha⟩ := stepOrig_spec t Q m lk st p ch hc
    rw [H p (by simp)] at he ha
    have hfr : ∀ k, k ≠ p → get? st1.lookup k = get? st.lookup k :=
      fun k hk => stepOrig_frame t Q m lk st st1 p k hk h1
    obtain ⟨stF, hF, i1, i2, i3⟩ := ih hnd'.2 (fun q hq => hch q (by simp [hq])) st1
      (fun q hq => by rw [hfr q (fun e => hnd'.1 (e ▸ hq))]; exact H q (by simp [hq]))
    refine ⟨stF, by simp only [foldSteps, h1, hF], ?_, ?_, ?_⟩
    · intro k hk
      by_cases hkp : k = p
      · subst hkp
        rw [i1 k (Or.inl hnd'.1), he, H k (by simp)]
        rcases hk with hk | hk | hk
        · exact absurd (by simp) hk
        · simp [hk]
        · simp [mt (consulted_iff hc).2 hk]
      · rw [← hfr k hkp]
        refine i1 k (hk.imp_left fun h hm => h (by simp [hm]))
    · intro q hq hqn hqc
      rcases List.mem_cons.1 hq with rfl | hq
      · rw [i1 q (Or.inl hnd'.1), he, if_pos ⟨(consulted_iff hc).1 hqc, hqn⟩]
      · exact i2 q hq hqn hqc
    · rw [i3, ha]
      simp only [Bool.or_eq_true, Bool.and_eq_true, decide_eq_true_eq, beq_iff_eq, List.mem_cons,
        exists_eq_or_imp, ← consulted_iff hc]
      exact or_assoc

theorem validateLoop_orig (t : RawTree) (hT : TreeOK t) (Q : List Gene) (m : Nat) (lk : Lookup) :
    foldSteps (validateStep t Q m) t.allParents.reverse { lookup := lk } =
      foldSteps (validateStepWith t Q m (fun _ => lk)) t.allParents.reverse { lookup := lk } :=
  foldSteps_orig t Q m lk t.allParents.reverse hT.deepestFirst
    (fun p hp => hT.selfFree p (List.mem_reverse.1 hp)) { lookup := lk } (fun _ _ _ _ => rfl)

/-- `validate_marker_lookup` as a whole, from the original table: it raises exactly when a consulted parent
is in the error condition; otherwise every consulted parent holds what its loop body left there
(`curAfter`; the root's own list) and every other key is untouched -/
theorem validateLookup_spec (t : RawTree) (hT : TreeOK t) (Q : List Gene) (m : Nat) (lk : Lookup) :
    match validateLookup t Q m lk with
    | .error e => (e = .noMarkersAnyLevel ∨ e = .validating) ∧
        ∃ p ∈ t.allParents, Consulted t p ∧ errAt t lk Q m p
    | .ok lk' =>
      (∀ p ∈ t.allParents, Consulted t p → ¬ errAt t lk Q m p) ∧
      (∀ p ∈ t.allParents, Consulted t p →
        get? lk' p = some (curAfter t Q m lk p ((get? lk p).getD []))) ∧
      (∀ k, (k ∉ t.allParents ∨ k = none ∨ ¬ Consulted t k) → get? lk' k = get? lk k) ∧
      (KeysNodup lk → KeysNodup lk') ∧ GenesFrom lk lk' := by
  obtain ⟨stF, hF, h1, h2, h3⟩ := foldSteps_spec t Q m lk t.allParents.reverse
    ((List.reverse_perm _).nodup_iff.2 hT.parentsNodup)
    (fun p hp => hT.childrenOk p (List.mem_reverse.1 hp)) { lookup := lk } (fun _ _ => rfl)
  simp only [List.mem_reverse, Bool.false_eq_true, false_or, ← errAt_iff_countQ] at h1 h2 h3
  have hv : validateLookup t Q m lk = finish t.allParents.length stF := by
    rw [validateLookup, validateLoop_orig t hT, hF]
  rw [hv, finish]
  cases ha : stF.anyErr with
  | true =>
    rw [if_pos rfl]
    cases stF.bad + stF.skipped == t.allParents.length
    · exact ⟨Or.inr rfl, h3.1 ha⟩
    · exact ⟨Or.inl rfl, h3.1 ha⟩
  | false =>
    have hno : ∀ p ∈ t.allParents, Consulted t p → ¬ errAt t lk Q m p := fun p hp hc he => by
      rw [h3.2 ⟨p, hp, hc, he⟩] at ha; cases ha
    refine ⟨hno, fun p hp hc => ?_, h1, fun hk => ?_, ?_⟩
    · cases p with
      | some ln => exact h2 _ hp (by simp) hc
      | none =>
        -- the root's entry is never written; it is there, or the root would be in the error condition
        rw [h1 none (Or.inr (Or.inl rfl))]
        cases hg : get? lk none with
        | none => exact absurd (Or.inl ⟨rfl, by simp [hg]⟩) (hno none hp hc)
        | some l => rfl
    · exact foldSteps_inv (fun s => KeysNodup s.lookup) _
        (fun s p _ s' => stepOrig_keysNodup t Q m lk s s' p) _ stF hk hF
    · exact foldSteps_inv (fun s => GenesFrom lk s.lookup) _
        (fun s p _ s' => stepOrig_genesFrom t Q m lk s s' p) _ stF (fun e he g hg => ⟨e, he, hg⟩) hF

/-! ### projections of `validateLookup_spec` -/

theorem validateLookup_error (t : RawTree) (hT : TreeOK t) (Q : List Gene) (m : Nat) (lk : Lookup)
    (e : MErr) (h : validateLookup t Q m lk = .error e) :
    (e = .noMarkersAnyLevel ∨ e = .validating) ∧
      ∃ p ∈ t.allParents, Consulted t p ∧ errAt t lk Q m p := by
  have h' := validateLookup_spec t hT Q m lk
  rwa [h] at h'

theorem validateLookup_ok_iff (t : RawTree) (hT : TreeOK t) (Q : List Gene) (m : Nat) (lk : Lookup) :
    (∃ lk', validateLookup t Q m lk = .ok lk') ↔
      ∀ p ∈ t.allParents, Consulted t p → ¬ errAt t lk Q m p := by
  have h' := validateLookup_spec t hT Q m lk
  cases h : validateLookup t Q m lk with
  | ok lk' => rw [h] at h'; exact ⟨fun _ => h'.1, fun _ => ⟨lk', rfl⟩⟩
  | error e =>
    rw [h] at h'
    obtain ⟨-, p, hp, hc, he⟩ := h'
    exact ⟨fun ⟨_, h⟩ => (nomatch h), fun hno => absurd he (hno p hp hc)⟩

theorem validateLookup_entries (t : RawTree) (hT : TreeOK t) (Q : List Gene) (m : Nat) (lk lk' : Lookup)
    (h : validateLookup t Q m lk = .ok lk') :
    (∀ p ∈ t.allParents, Consulted t p →
        ∀ g, (g ∈ (get? lk' p).getD [] ∧ g ∈ Q) ↔ g ∈ specGenes t lk Q m p) ∧
    (∀ k, ¬ (k ∈ t.allParents ∧ Consulted t k) → get? lk' k = get? lk k) := by
  have h' := validateLookup_spec t hT Q m lk
  rw [h] at h'
  refine ⟨fun p hp hc g => ?_, fun k hk => h'.2.2.1 k ?_⟩
  · rw [← curAfter_spec, h'.2.1 p hp hc]; rfl
  · by_cases hp : k ∈ t.allParents
    · exact Or.inr (Or.inr fun hc => hk ⟨hp, hc⟩)
    · exact Or.inl hp

theorem validateLookup_isSome (t : RawTree) (hT : TreeOK t) (Q : List Gene) (m : Nat) (lk lk' : Lookup)
    (h : validateLookup t Q m lk = .ok lk') (p : PKey) (hp : p ∈ t.allParents) (hc : Consulted t p) :
    (get? lk' p).isSome := by
  have h' := validateLookup_spec t hT Q m lk
  rw [h] at h'
  rw [h'.2.1 p hp hc]; rfl

/-- the root's entry is never rewritten -/
theorem validateLookup_root (t : RawTree) (hT : TreeOK t) (Q : List Gene) (m : Nat) (lk lk' : Lookup)
    (h : validateLookup t Q m lk = .ok lk') : get? lk' none = get? lk none := by
  have h' := validateLookup_spec t hT Q m lk
  rw [h] at h'
  exact h'.2.2.1 none (Or.inr (Or.inl rfl))

theorem validateLookup_genesFrom (t : RawTree) (hT : TreeOK t) (Q : List Gene) (m : Nat) (lk lk' : Lookup)
    (h : validateLookup t Q m lk = .ok lk') : GenesFrom lk lk' := by
  have h' := validateLookup_spec t hT Q m lk
  rw [h] at h'
  exact h'.2.2.2.2

theorem validateLookup_keysNodup (t : RawTree) (hT : TreeOK t) (Q : List Gene) (m : Nat) (lk lk' : Lookup)
    (hk : KeysNodup lk) (h : validateLookup t Q m lk = .ok lk') : KeysNodup lk' := by
  have h' := validateLookup_spec t hT Q m lk
  rw [h] at h'
  exact h'.2.2.2.1 hk

/-! ### `TreeWF` gives `TreeOK`

The two facts about `parentLevel` and `parentsAux` used here are proved from the definitions, so
that this file needs no tree lemma file beyond `TreeDefs`. -/

theorem parentLevel_idx (t : RawTree) (hN : t.hierarchy.Nodup) (l pl : Level)
    (hp : t.parentLevel l = some pl) :
    t.hierarchy.idxOf pl + 1 = t.hierarchy.idxOf l := by
  unfold RawTree.parentLevel RawTree.levelIdx at hp
  split at hp
  · cases hp
  · cases hp
  · rename_i i hi
    obtain ⟨hlt, rfl⟩ := List.getElem?_eq_some_iff.1 hp
    rw [show t.hierarchy.idxOf l = i + 1 from (List.findIdx?_eq_some_iff_findIdx_eq.1 hi).2,
      show t.hierarchy.idxOf t.hierarchy[i] = i from
        (List.findIdx_eq hlt).2 ⟨beq_self_eq_true _, fun j hj => beq_eq_false_iff_ne.2 fun e =>
          Nat.ne_of_lt hj ((List.getElem_inj hN).1 e)⟩]

theorem parentsAux_levels (t : RawTree) (hN : t.hierarchy.Nodup) (fuel : Nat) (l : Level) (n : Node) :
    ∀ x ∈ (t.parentsAux fuel l n).map (·.1), t.hierarchy.idxOf x < t.hierarchy.idxOf l := by
  induction fuel generalizing l n with
  | zero => simp [RawTree.parentsAux]
  | succ f ih =>
    intro x hx
    simp only [RawTree.parentsAux] at hx
    cases hp : t.parentLevel l with
    | none => simp [hp] at hx
    | some pl =>
      simp only [hp] at hx
      cases hc : t.childToParent l n with
      | none => simp [hc] at hx
      | some p =>
        simp only [hc, List.map_cons, List.mem_cons] at hx
        have := parentLevel_idx t hN l pl hp
        rcases hx with rfl | hx
        · omega
        · have := ih pl p x hx
          omega

theorem readKeys_level (t : RawTree) (hN : t.hierarchy.Nodup) (l1 : Level) (n1 : Node) (l2 : Level)
    (n2 : Node) (h : some (l2, n2) ∈ readKeys t (some (l1, n1))) :
    t.hierarchy.idxOf l2 < t.hierarchy.idxOf l1 := by
  simp only [readKeys, List.mem_cons, ancestorKeys, List.mem_filterMap, reduceCtorEq, false_or] at h
  obtain ⟨al, _, hal⟩ := h
  cases hl : (t.parents l1 n1).lookup al with
  | none => simp [hl] at hal
  | some a =>
    simp only [hl, Option.map_some, Option.some.injEq, Prod.mk.injEq] at hal
    obtain ⟨rfl, rfl⟩ := hal
    exact parentsAux_levels t hN _ l1 n1 al (List.mem_map.2 ⟨_, ListAux.mem_of_lookup hl, rfl⟩)

/-- Every key read at `(l, n)` lies at a strictly smaller hierarchy index (`readKeys_level`), and
`all_parents` goes through the hierarchy level by level. -/
theorem treeOK_of_wf (t : RawTree) (h : TreeWF t) : TreeOK t := by
  have hsub : t.hierarchy.dropLast.Sublist t.hierarchy := List.dropLast_sublist _
  have hmem : ∀ l ∈ t.hierarchy.dropLast, l ∈ t.hierarchy := fun l hl => hsub.subset hl
  have hself : ∀ p ∈ t.allParents, p ∉ readKeys t p := by
    intro p _ hp
    cases p with
    | none => simp [readKeys] at hp
    | some ln =>
      obtain ⟨l, n⟩ := ln
      have := readKeys_level t h.hierNodup l n l n hp
      omega
  refine { parentsNodup := ?_, childrenOk := ?_, deepestFirst := ?_, selfFree := hself }
  · unfold RawTree.allParents
    refine List.nodup_cons.2 ⟨by simp, ?_⟩
    rw [List.nodup_iff_pairwise_ne, List.pairwise_flatMap]
    constructor
    · intro l hl
      rw [List.pairwise_map]
      refine (h.nodesNodup l (hmem l hl)).imp ?_
      intro a b hab e
      simp at e
      exact hab e
    · have : t.hierarchy.dropLast.Nodup := h.hierNodup.sublist hsub
      refine this.imp ?_
      intro a b hab x hx y hy e
      simp only [List.mem_map] at hx hy
      obtain ⟨_, _, rfl⟩ := hx
      obtain ⟨_, _, rfl⟩ := hy
      simp at e
      exact hab e.1
  · intro p hp
    cases p with
    | none =>
      unfold childrenOf RawTree.children
      cases hh : t.hierarchy.head? with
      | none => exact absurd (List.head?_eq_none_iff.1 hh) h.hierNonempty
      | some l0 => exact ⟨_, rfl⟩
    | some ln =>
      obtain ⟨l, n⟩ := ln
      obtain ⟨hl, hn⟩ := mem_allParents.1 hp
      have h1 : (t.levels.map (·.1)).contains l = true := by
        simp only [List.contains_iff_mem]; exact h.hasLevels l (hmem l hl)
      have h2 : (t.nodesAt l).contains n = true := by simpa using hn
      exact ⟨t.entry l n, by
        simp only [childrenOf, RawTree.children, h1, h2, Bool.not_true, Bool.false_eq_true, if_false]⟩
  · rw [List.pairwise_reverse]
    unfold RawTree.allParents
    refine List.Pairwise.cons (by simp [readKeys]) ?_
    rw [List.pairwise_flatMap]
    constructor
    · intro l _
      rw [List.pairwise_map]
      refine (h.nodesNodup l (hmem l ‹_›)).imp ?_
      intro a b _ hb
      have := readKeys_level t h.hierNodup l a l b hb
      omega
    · have := (ListAux.pairwise_idxOf t.hierarchy h.hierNodup).sublist hsub
      refine this.imp ?_
      intro a b hab x hx y hy hyx
      simp only [List.mem_map] at hx hy
      obtain ⟨n1, _, rfl⟩ := hx
      obtain ⟨n2, _, rfl⟩ := hy
      have := readKeys_level t h.hierNodup a n1 b n2 hyx
      omega

end Markers
end CTM
