/-
  The mapping-loop model (`CTM/Model/LevelLoop.lean`) against the output-serialisation model
  (`CTM/Model/Output.lean`) and the election model's post-loops (`CTM/Model/Election.lean`).

  * `toBlob` converts what `mapPipeline` returns (the records after `backfill_assignments`,
    with the stored tree and `n_runners_up`) into the `Output.Blob` the serialisers consume;
  * `PayloadOK` is what the uninterpreted vote oracle has to guarantee about its payload
    (`LevelLoop.VoteOK` only speaks about the assignment);
  * `outInv_of_cells`: every successful run of the pipeline — plain, flattened, with a level
    dropped, or both — yields a blob that satisfies `Output.outInv`, the hypothesis of
    `C15.h5_roundtrip` / `csv_rows_outInv`;
  * the post-loops and `backfill_assignments` are modelled twice, in `LevelLoop` and in `Election`:
    `finishCell_eq` (closed form), `finishCell_agree`, `backfill_agree`, and `cellResult_raw` /
    `cellResult_election`, which read one finished record off the raw walk, for any oracle;
  * `voteOfChoice` turns the result of `choose_node` into an oracle's answer; `exVoteP` is an
    oracle with a full payload for the non-vacuity examples.
-/
import CTM.Lemmas.LevelLoopTrees
import CTM.Lemmas.Output
import CTM.Lemmas.PostLoops

namespace CTM
namespace OutBridge

open LevelLoop

/-! ## the conversion -/

/-- a JSON number from the level-loop model's optional rational: Python `None` (or an absent key)
becomes JSON `null` -/
def numOfOpt : Option Rat → Output.Num
  | some q => .val q
  | none => .null

/-- the level-loop model's per-level dict ↦ the output model's `LevelRec`.  Field by field:
`assignment`, `bootstrapping_probability` (always a float), `avg_correlation`
(`None` ↦ `null`), `aggregate_probability` (absent ↦ `null`),
`directly_assigned` (absent ↦ `false`), and the three `runner_up_*` lists
(`LevelLoop.Entry.ru` keeps them as one optional triple `(assignment, correlation, probability)`,
so they are present or absent together). -/
def toLevelRec (e : Entry) : Output.LevelRec :=
  { assignment := e.assignment
    prob := .val e.prob
    corr := numOfOpt e.corr
    agg := numOfOpt e.agg
    direct := e.direct.getD false
    runAsg := e.ru.map (fun r => r.1)
    runProb := e.ru.map (fun r => r.2.2.map Output.Num.val)
    runCorr := e.ru.map (fun r => r.2.1.map Output.Num.val) }

/-- the level-loop model's record ↦ the output model's record: the per-level
dict is re-listed in the order of the stored hierarchy `h` (the output model's
convention; a Python dict has no order that matters, the level-loop model keeps
the insertion order: voted levels first, then the inferred ones bottom-up).  A level of `h` the record does not bind is skipped, a key
outside `h` is dropped — neither happens for a pipeline output, see
`cellResult_spec` / `toRecord_lookup`. -/
def toRecord (h : List Level) (r : Record) : Output.Record :=
  { cellId := r.cellId
    levels := h.filterMap (fun l => (r.levels.lookup l).map (fun e => (l, toLevelRec e))) }

abbrev NameMapper := Option (List (Output.Lvl × List (Output.NodeId × Output.NameEntry)))
abbrev HierarchyMapper := Option (List (Output.Lvl × Output.StrId))

/-- the taxonomy dict: the level-loop model's `RawTree` has set the ignorable keys `name_mapper` /
`hierarchy_mapper` aside, the output model's `Tree` carries them; they are handed in
separately (no theorem below depends on them).  `hasHierarchy` / `nodesAreStr`
(validator inputs) are forgotten. -/
def toTree (t : RawTree) (nm : NameMapper) (hm : HierarchyMapper) : Output.Tree :=
  { hierarchy := t.hierarchy, levels := t.levels, nameMapper := nm, hierarchyMapper := hm }

/-- the extended output of a run: the tree embedded by `_run_mapping`
(`Output.embeddedTree` of the *stored* tree — built before `drop_level` /
`flatten`), `n_runners_up`, and the records of `mapPipeline` -/
def toBlob (t0 : RawTree) (cfg : Config) (nm : NameMapper) (hm : HierarchyMapper)
    (nRunners : Nat) (out : List Record) : Output.Blob :=
  { tree := Output.embeddedTree (toTree t0 nm hm) cfg.dropLevel cfg.flatten
    nRunners := nRunners
    results := out.map (toRecord t0.hierarchy) }

/-- the tree `backfill_assignments` reads (`RawTree.dropCells`, `Model/Tree.lean`) is the tree
embedded in the output (`Output.Tree.dropCells`, `Model/Output.lean`), when the level keys of
the dict are distinct (a Python dict) -/
theorem toTree_dropCells (t : RawTree) (nm : NameMapper) (hm : HierarchyMapper)
    (hk : (t.levels.map (·.1)).Nodup) :
    toTree t.dropCells nm hm = (toTree t nm hm).dropCells := by
  unfold RawTree.dropCells Output.Tree.dropCells
  cases hl : t.leafLevel with
  | none =>
    have h0 : (toTree t nm hm).leafLevel = none := hl
    simp only [h0]
    simp [toTree]
  | some ll =>
    have h1 : t.hierarchy.getLast? = some ll := hl
    simp only [toTree, RawTree.setLevel]
    congr 1
    apply List.map_congr_left
    intro kv hkv
    obtain ⟨k, v⟩ := kv
    by_cases he : k = ll
    · subst he
      have hv : t.level k = v := by
        simp only [RawTree.level, ListAux.lookup_of_mem_nodup hk hkv, Option.getD_some]
      simp [hv, h1, Output.Tree.leafLevel]
    · have hb : (k == ll) = false := by simpa using he
      have hne : ¬ (some k = some ll) := fun h => he (Option.some.inj h)
      simp [hb, hne, h1, Output.Tree.leafLevel]

/-! ## what the oracle must guarantee about its payload; a tree that offers every cell a real choice (`hasChoice`) -/

/-- one vote, asked about a parent whose children are `kids`: the correlation
is a number (`choose_node` always returns a float there), at most `nRunners`
runner-up tuples carry the valid flag, and those name children of the parent.
(That the three runner-up lists written to the record have equal length needs
no hypothesis: `entryOf` builds them from one list of tuples.) -/
def PayloadOKVote (nRunners : Nat) (kids : List Node) (v : Vote) : Prop :=
  v.corr.isSome = true ∧
  ∀ r, v.runnersUp = some r →
    (r.filter (·.valid)).length ≤ nRunners ∧ ∀ x ∈ r, x.valid = true → x.node ∈ kids

/-- `PayloadOKVote` for every question the level loop can put to the oracle
(same shape as `VoteOK`) -/
def PayloadOK {κ} (nRunners : Nat) (t : RawTree) (vote : Oracle κ) : Prop :=
  ∀ (p : Parent) (cl : Level) (kids : List Node) (c : κ), 2 ≤ kids.length →
    PayloadOKVote nRunners kids (vote p (kidsOf t cl kids) c)

/-- some parent with at least two children lies on every way down from `p`
through the levels `ls`: then the cell's `avg_correlation` is not `null`
(`false` = a chain of single children all the way: the JSON output has `null`
correlations there, and HDF5 turns them into `NaN` — known finding
`C15/pipeline/h5/avg_correlation/null-becomes-nan/single-leaf-taxonomy`) -/
def choiceFrom (t : RawTree) : List Level → Parent → Bool
  | [], _ => false
  | cl :: rest, p =>
    match kidsD t p with
    | [only] => choiceFrom t rest (some (cl, only))
    | _ => true

/-- the tree of the run offers a real choice to every cell -/
def hasChoice (t : RawTree) : Bool := choiceFrom t t.hierarchy none

/-! ## entries that satisfy `Output.levelOK` -/

/-- the runner-up triple of a directly assigned level -/
def RuOK (nR : Nat) (nodes : List Node) (e : Entry) : Prop :=
  ∃ ra rc rp, e.ru = some (ra, rc, rp) ∧ ra.length = rc.length ∧ ra.length = rp.length ∧
    ra.length ≤ nR ∧ ∀ a ∈ ra, a ∈ nodes

/-- `Output.levelOK` on the level-loop model's side -/
structure Good (nR : Nat) (nodes : List Node) (flag : Bool) (e : Entry) : Prop where
  node : e.assignment ∈ nodes
  corr : e.corr.isSome = true
  agg : e.agg.isSome = true
  direct : e.direct = some flag
  voted : flag = true → RuOK nR nodes e
  inferred : flag = false → e.ru = none

theorem all_numOK_map_val : ∀ (xs : List Rat), (xs.map Output.Num.val).all Output.numOK = true
  | [] => rfl
  | _ :: xs => by simp [Output.numOK, all_numOK_map_val xs]

theorem numOK_numOfOpt {o : Option Rat} (h : o.isSome = true) : Output.numOK (numOfOpt o) = true := by
  cases o with
  | none => cases h
  | some q => rfl

theorem levelOK_of_good {nR : Nat} {nodes : List Node} {flag : Bool} {e : Entry}
    (g : Good nR nodes flag e) : Output.levelOK nodes nR flag (toLevelRec e) = true := by
  have h1 : nodes.contains e.assignment = true := List.contains_iff_mem.mpr g.node
  have h2 : Output.numOK (toLevelRec e).prob = true := rfl
  have h3 : Output.numOK (toLevelRec e).corr = true := numOK_numOfOpt g.corr
  have h4 : Output.numOK (toLevelRec e).agg = true := numOK_numOfOpt g.agg
  have h5 : ((toLevelRec e).direct == flag) = true := by
    simp only [toLevelRec, g.direct, Option.getD_some, beq_self_eq_true]
  have h0 : (toLevelRec e).assignment = e.assignment := rfl
  unfold Output.levelOK
  rw [h0, h1, h2, h3, h4, h5]
  cases flag with
  | false =>
    have hru := g.inferred rfl
    simp [toLevelRec, hru]
  | true =>
    obtain ⟨ra, rc, rp, hru, hl1, hl2, hl3, hmem⟩ := g.voted rfl
    have hall : ra.all nodes.contains = true := by
      simp only [List.all_eq_true, List.contains_iff_mem]
      exact hmem
    simp only [toLevelRec, hru, Option.map_some, Bool.true_and, if_true, List.length_map, hall,
      all_numOK_map_val, Bool.and_true, Bool.and_eq_true, beq_iff_eq, decide_eq_true_eq]
    exact ⟨⟨hl2, hl1⟩, hl3⟩

/-! ## the post-loops of `run_type_assignment`

The election model (`Election.finishCell`, one cell, records in hierarchy order) and the
level-loop model (`LevelLoop.finishCell`) both model the correlation backfill and the running
product of `run_type_assignment`.  Three equations say that they are the same function up to the
record types (`map_finishCell`, `finishCell_corrs`, `finishCell_aggs`); with the election model's
closed form (`Lemmas/PostLoops.lean`) they give `finishCell_eq`, from which the rest is read off. -/

/-- the level-loop model's per-level dict as the election model's record of
the level loop (runner-up lists `[]` when the keys are absent) -/
def toElectionRec (e : Entry) : Election.LevelRec :=
  { assignment := e.assignment, prob := e.prob, avgCorr := e.corr,
    runnerAssignment := (e.ru.getD ([], [], [])).1
    runnerCorrelation := (e.ru.getD ([], [], [])).2.1
    runnerProbability := (e.ru.getD ([], [], [])).2.2 }

/-- the level-loop model's finished dict as the election model's finished
record (absent aggregate ↦ 0, absent flag ↦ false; both are present in a
pipeline output) -/
def toElectionOut (e : Entry) : Election.OutRec :=
  { assignment := e.assignment, prob := e.prob, avgCorr := e.corr,
    aggregate := e.agg.getD 0, runners := e.ru, directlyAssigned := e.direct.getD false }

theorem fillCorr_agree : ∀ (prev : Option Rat) (es : List (Level × Entry)),
    (fillCorr prev es).map (fun le => toElectionRec le.2) =
      Election.fillDown prev (es.map (fun le => toElectionRec le.2))
  | _, [] => rfl
  | prev, (l, e) :: rest => by
    rw [fillCorr_cons, List.map_cons, List.map_cons, Election.fillDown_cons,
      fillCorr_agree _ rest]
    rfl

theorem fillUp_fillDown_agree (es : List (Level × Entry)) :
    (LevelLoop.fillUp (LevelLoop.fillDown es)).map (fun le => toElectionRec le.2) =
      Election.fillUp (Election.fillDown none (es.map (fun le => toElectionRec le.2))) := by
  rw [Election.fillUp_eq_reverse, LevelLoop.fillUp, fillDown_eq_fillCorr, fillDown_eq_fillCorr,
    List.map_reverse, fillCorr_agree, List.map_reverse, fillCorr_agree]

theorem finishCell_corrs (es : List (Level × Entry)) :
    (LevelLoop.finishCell es).map (fun le => le.2.corr) =
      (Election.fillUp (Election.fillDown none (es.map (fun le => toElectionRec le.2)))).map
        (·.avgCorr) := by
  rw [← fillUp_fillDown_agree, List.map_map, LevelLoop.finishCell, map_addAggregate _ (fun _ _ _ => rfl)]
  rfl

theorem addAggregate_aggs : ∀ (acc : Rat) (es : List (Level × Entry)),
    (addAggregate acc es).map (fun le => le.2.agg) =
      (Election.runningProduct acc (es.map (fun le => le.2.prob))).map some
  | _, [] => rfl
  | acc, (l, e) :: rest => by
    simp only [addAggregate, List.map_cons, Election.runningProduct, addAggregate_aggs _ rest]

theorem finishCell_aggs (es : List (Level × Entry)) :
    (LevelLoop.finishCell es).map (fun le => le.2.agg) =
      (Election.runningProduct 1 (es.map (fun le => le.2.prob))).map some := by
  rw [LevelLoop.finishCell, addAggregate_aggs, map_fillUp _ (fun _ _ _ => rfl),
    map_fillDown _ (fun _ _ _ => rfl)]

/-- level `k` of the walk `es` after the post-loops, `le` being that level before them:
`avg_correlation` is the level's own, else that of the nearest level above where a choice was
made, else below; `aggregate_probability` is the product of the probabilities down to `k` -/
def finishAt (es : List (Level × Entry)) (k : Nat) (le : Level × Entry) : Level × Entry :=
  (le.1, { le.2 with
    corr := (le.2.corr.or (Election.corrAbove (es.map (fun le => toElectionRec le.2)) k)).or
      (Election.corrBelow (es.map (fun le => toElectionRec le.2)) k)
    agg := some ((es.map (fun le => le.2.prob)).take (k + 1)).prod })

theorem entry_ext_corr_agg {x y : Level × Entry} {c g : Option Rat}
    (hb : (x.1, { x.2 with corr := none, agg := none }) =
      (y.1, { y.2 with corr := none, agg := none }))
    (hc : x.2.corr = c) (hg : x.2.agg = g) : x = (y.1, { y.2 with corr := c, agg := g }) := by
  obtain ⟨l, a, p, c', ru, g', d⟩ := x
  obtain ⟨l', a', p', c'', ru', g'', d'⟩ := y
  cases hb; cases hc; cases hg; rfl

/-- **the post-loops in closed form** -/
theorem finishCell_eq (es : List (Level × Entry)) :
    LevelLoop.finishCell es = es.mapIdx (finishAt es) := by
  refine List.ext_getElem (by rw [finishCell_length_eq, List.length_mapIdx]) fun k h1 _ => ?_
  have hk : k < es.length := finishCell_length_eq es ▸ h1
  have hk' : k < (es.map (fun le => toElectionRec le.2)).length := by rwa [List.length_map]
  have hb := congrArg (·[k]?) (map_finishCell
    (fun le => (le.1, { le.2 with corr := none, agg := none }))
    (fun _ _ _ => rfl) (fun _ _ _ => rfl) es)
  have hc := congrArg (·[k]?) (finishCell_corrs es)
  have hg := congrArg (·[k]?) (finishCell_aggs es)
  simp only [List.getElem?_map, Election.fillUp_fillDown_getElem? _ k hk',
    Election.runningProduct_getElem? (es.map (fun le => le.2.prob)) 1 k (by rwa [List.length_map]),
    Rat.one_mul, List.getElem?_eq_getElem h1, List.getElem?_eq_getElem hk, Option.map_some,
    Option.some.injEq, List.getElem_map] at hb hc hg
  rw [List.getElem_mapIdx]
  exact entry_ext_corr_agg hb hc hg

theorem finishCell_entry (es : List (Level × Entry)) (k : Nat) (hk : k < es.length) :
    ∃ e, (LevelLoop.finishCell es)[k]? = some (es[k].1, e) ∧
      e.assignment = es[k].2.assignment ∧ e.prob = es[k].2.prob ∧ e.ru = es[k].2.ru ∧
      e.corr = (es[k].2.corr.or (Election.corrAbove (es.map (fun le => toElectionRec le.2)) k)).or
        (Election.corrBelow (es.map (fun le => toElectionRec le.2)) k) ∧
      e.agg = some ((es.map (fun le => le.2.prob)).take (k + 1)).prod :=
  ⟨(finishAt es k es[k]).2,
    by rw [finishCell_eq, List.getElem?_mapIdx, List.getElem?_eq_getElem hk]; rfl,
    rfl, rfl, rfl, rfl, rfl⟩

theorem finishCell_pres (P : Level → Entry → Prop)
    (hP : ∀ l e c a, P l e → P l { e with corr := c, agg := a })
    (es : List (Level × Entry)) (h : ∀ le ∈ es, P le.1 le.2) :
    ∀ le ∈ finishCell es, P le.1 le.2 := by
  intro le hle
  rw [finishCell_eq, List.mem_mapIdx] at hle
  obtain ⟨k, hk, rfl⟩ := hle
  exact hP _ _ _ _ (h _ (List.getElem_mem hk))

theorem finishCell_agg_isSome (es : List (Level × Entry)) :
    ∀ le ∈ finishCell es, le.2.agg.isSome = true := by
  intro le hle
  rw [finishCell_eq, List.mem_mapIdx] at hle
  obtain ⟨k, hk, rfl⟩ := hle
  rfl

theorem finishCell_corr_isSome (es : List (Level × Entry)) (h : ∃ le ∈ es, le.2.corr.isSome = true) :
    ∀ le ∈ finishCell es, le.2.corr.isSome = true := by
  intro le hle
  rw [finishCell_eq, List.mem_mapIdx] at hle
  obtain ⟨k, hk, rfl⟩ := hle
  obtain ⟨le', hle', hs⟩ := h
  have := Election.or_corrAbove_corrBelow_isSome (recs := es.map (fun le => toElectionRec le.2))
    (k := k) (by rwa [List.length_map]) ⟨toElectionRec le'.2, List.mem_map.2 ⟨le', hle', rfl⟩, hs⟩
  rwa [List.getElem_map] at this

/-- **`LevelLoop.finishCell` is `Election.finishCell`** (on the dicts the level
loop writes, which always carry the runner-up keys), the `directly_assigned = True`
mark of `run_type_assignment_on_h5ad` included.  So `C03.finished_level`,
`C03.aggregate`, `C03.single_child`, `C03.pure_chain` speak about the records
of the level-loop model's pipeline. -/
theorem finishCell_agree (es : List (Level × Entry)) (h : ∀ le ∈ es, le.2.ru.isSome = true) :
    (LevelLoop.finishCell es).map (fun le => toElectionOut { le.2 with direct := some true }) =
      Election.finishCell (es.map (fun le => toElectionRec le.2)) := by
  refine List.ext_getElem (by rw [List.length_map, finishCell_length_eq, Election.finishCell_length,
    List.length_map]) fun k h1 h2 => ?_
  have hk : k < es.length := by rwa [List.length_map, finishCell_length_eq] at h1
  apply Option.some.inj
  rw [← List.getElem?_eq_getElem h2,
    Election.finishCell_getElem? _ k (by rwa [List.length_map]), List.getElem_map]
  simp only [finishCell_eq, List.getElem_mapIdx, List.getElem_map]
  have hru := h _ (List.getElem_mem hk)
  cases hr : es[k].2.ru with
  | none => rw [hr] at hru; cases hru
  | some r => simp [finishAt, toElectionOut, toElectionRec, hr, Function.comp_def]

/-! ## the one-cell walk: what is written at each level -/

/-- what the level loop writes at a level, before the post-loops and the flag -/
def RawGood (nR : Nat) (nodes : List Node) (e : Entry) : Prop :=
  e.assignment ∈ nodes ∧ RuOK nR nodes e

theorem entryOf_corr (v : Vote) : (entryOf v).corr = v.corr := by
  unfold entryOf; split <;> rfl

theorem entryOf_ru_isSome (v : Vote) : (entryOf v).ru.isSome = true := by
  unfold entryOf; split <;> rfl

theorem ruOK_entryOf {nR : Nat} {nodes kids : List Node} {v : Vote}
    (hsub : ∀ k ∈ kids, k ∈ nodes)
    (hp : ∀ r, v.runnersUp = some r →
      (r.filter (·.valid)).length ≤ nR ∧ ∀ x ∈ r, x.valid = true → x.node ∈ kids) :
    RuOK nR nodes (entryOf v) := by
  unfold entryOf
  cases hr : v.runnersUp with
  | none => exact ⟨[], [], [], rfl, rfl, rfl, Nat.zero_le _, by simp⟩
  | some r =>
    obtain ⟨h1, h2⟩ := hp r hr
    refine ⟨_, _, _, rfl, by simp, by simp, by simpa using h1, ?_⟩
    intro a ha
    simp only [List.mem_map, List.mem_filter] at ha
    obtain ⟨x, ⟨hx, hval⟩, rfl⟩ := ha
    exact hsub _ (h2 x hx hval)

theorem voteFn_entry {κ} {t : RawTree} {vote : Oracle κ} {nR : Nat}
    (hpay : PayloadOK nR t vote) (p : Parent) (cl : Level) (kids : List Node) (c : κ)
    (hkne : kids ≠ []) {nodes : List Node} (hsub : ∀ k ∈ kids, k ∈ nodes) :
    RuOK nR nodes (entryOf (voteFn t vote p cl kids c)) ∧
    ((∀ only, kids ≠ [only]) → (entryOf (voteFn t vote p cl kids c)).corr.isSome = true) := by
  match kids, hkne with
  | [only], _ =>
    refine ⟨?_, fun h => absurd rfl (h only)⟩
    exact ⟨[], [], [], rfl, rfl, rfl, Nat.zero_le _, by simp⟩
  | a :: b :: rest, _ =>
    have hpv := hpay p cl (a :: b :: rest) c (by simp)
    simp only [voteFn]
    exact ⟨ruOK_entryOf hsub hpv.2, fun _ => by rw [entryOf_corr]; exact hpv.1⟩

theorem steps_rawGood {κ} {t : RawTree} {vote : Oracle κ} {nR : Nat} (hv : VoteOK t vote)
    (hpay : PayloadOK nR t vote) {c : κ} {p : Parent} {es : List (Level × Entry)}
    (h : Compose.Linked (fun p l e => ∃ kids, Compose.Asked t p l kids ∧
      e = entryOf (voteFn t vote p l kids c)) p es) :
    ∀ le ∈ es, RawGood nR (t.nodesAt le.1) le.2 := by
  refine Compose.Linked.forall (R := fun l e => RawGood nR (t.nodesAt l) e) ?_ p es h
  rintro p l e ⟨kids, hask, rfl⟩
  obtain ⟨_, _, _, _, hne, hsub⟩ := id hask  -- `id`: `hask` itself stays
  exact ⟨by rw [assignment_entryOf]; exact hsub _ (hask.vote_mem hv c),
    (voteFn_entry hpay p l kids c hne hsub).1⟩

/-- where the tree offers a choice the oracle is consulted, and reports a correlation -/
theorem steps_choice {κ} {t : RawTree} {vote : Oracle κ} {nR : Nat} (hpay : PayloadOK nR t vote)
    (c : κ) : ∀ (es : List (Level × Entry)) (p : Parent),
    Compose.Linked (fun p l e => ∃ kids, Compose.Asked t p l kids ∧
      e = entryOf (voteFn t vote p l kids c)) p es →
    choiceFrom t (es.map (·.1)) p = true → ∃ le ∈ es, le.2.corr.isSome = true
  | [], _, _, hch => by simp [choiceFrom] at hch
  | (l, _) :: rest, p, ⟨⟨kids, ⟨_, _, _, hk, hne, hsub⟩, he⟩, hrest⟩, hch => by
    subst he
    simp only [List.map_cons, choiceFrom, kidsD_of_ok hk] at hch
    by_cases hone : ∃ only, kids = [only]
    · obtain ⟨only, rfl⟩ := hone
      obtain ⟨le, hle, hs⟩ := steps_choice hpay c rest _ hrest hch
      exact ⟨le, List.mem_cons_of_mem _ hle, hs⟩
    · exact ⟨_, List.mem_cons_self,
        (voteFn_entry hpay p l kids c hne hsub).2 fun only he => hone ⟨only, he⟩⟩

theorem walk_good {κ} {t : RawTree} {vote : Oracle κ} {nR : Nat} (hwf : wfb t = true)
    (hv : VoteOK t vote) (hpay : PayloadOK nR t vote) (hch : hasChoice t = true) (c : κ) :
    (walkD t vote c).map (·.1) = t.hierarchy ∧
    ∀ le ∈ walkD t vote c, RawGood nR (t.nodesAt le.1) le.2 ∧
      le.2.corr.isSome = true ∧ le.2.agg.isSome = true := by
  obtain ⟨es, hes, hfst, hl⟩ := walk_steps hwf hv c
  rw [walkD_of_walkFrom hes]
  exact ⟨(map_finishCell (·.1) (fun _ _ _ => rfl) (fun _ _ _ => rfl) es).trans hfst,
    fun le hle => ⟨finishCell_pres (fun l e => RawGood nR (t.nodesAt l) e) (fun _ _ _ _ h => h)
      es (steps_rawGood hv hpay hl) le hle,
      finishCell_corr_isSome es (steps_choice hpay c es none hl (hfst.symm ▸ hch)) le hle,
      finishCell_agg_isSome es le hle⟩⟩

/-! ## one finished record: the levels of the run's tree are voted, the others inferred from below -/

theorem childToParent_mem {t : RawTree} {cl : Level} {c pn : Node}
    (h : t.childToParent cl c = some pn) :
    ∃ pl, t.parentLevel cl = some pl ∧ pn ∈ t.nodesAt pl := by
  simp only [RawTree.childToParent] at h
  cases hp : t.parentLevel cl with
  | none => rw [hp] at h; cases h
  | some pl =>
    rw [hp] at h
    simp only at h
    cases hf : (t.level pl).reverse.find? (fun x => x.2.contains c) with
    | none => rw [hf] at h; cases h
    | some pc =>
      rw [hf] at h
      simp only [Option.map_some, Option.some.injEq] at h
      subst h
      have hmem : pc ∈ t.level pl := List.mem_reverse.mp (List.mem_of_find?_eq_some hf)
      exact ⟨pl, rfl, List.mem_map.mpr ⟨pc, hmem, rfl⟩⟩

/-- induction up a chain of levels (`xs` = the hierarchy, leaf level first) -/
theorem chain_up (P : Level → Prop) : ∀ (xs : List Level),
    (∀ l, xs.head? = some l → P l) → (∀ cp ∈ pairsOf xs, P cp.1 → P cp.2) → ∀ l ∈ xs, P l
  | [], _, _ => by simp
  | [c], h0, _ => by
    intro l hl
    simp only [List.mem_singleton] at hl
    subst hl; exact h0 l rfl
  | c :: p :: rest, h0, hstep => by
    have hpairs : pairsOf (c :: p :: rest) = (c, p) :: pairsOf (p :: rest) := by simp [pairsOf]
    have hc : P c := h0 c rfl
    have hp : P p := hstep (c, p) (by rw [hpairs]; simp) hc
    have ih := chain_up P (p :: rest) (fun l hl => by simp at hl; subst hl; exact hp)
      (fun cp hm => hstep cp (by rw [hpairs]; exact List.mem_cons_of_mem _ hm))
    intro l hl
    rcases List.mem_cons.mp hl with h | h
    · subst h; exact hc
    · exact ih l h

theorem flagged_lookup {κ} {t : RawTree} {vote : Oracle κ} {nR : Nat} (hwf : wfb t = true)
    (hv : VoteOK t vote) (hpay : PayloadOK nR t vote) (hch : hasChoice t = true)
    (id : CellId) (c : κ) :
    ∀ l ∈ t.hierarchy, ∃ e,
      (markDirect t.hierarchy (mkRecord t vote id c)).levels.lookup l = some e ∧
        Good nR (t.nodesAt l) true e := by
  obtain ⟨hkeys, hall⟩ := walk_good hwf hv hpay hch c
  intro l hl
  rw [markDirect_lookup]
  have hsome : ((mkRecord t vote id c).levels.lookup l).isSome = true :=
    (ListAux.lookup_isSome_iff_keys (k := l)).mpr (by simp only [mkRecord]; rw [hkeys]; exact hl)
  cases hlk : (mkRecord t vote id c).levels.lookup l with
  | none => rw [hlk] at hsome; cases hsome
  | some e0 =>
    obtain ⟨⟨hnode, hru⟩, hcorr, hagg⟩ := hall (l, e0) (ListAux.mem_of_lookup hlk)
    refine ⟨_, rfl, ?_⟩
    simp only [flagDirect, List.contains_iff_mem.mpr hl, if_true]
    exact ⟨hnode, hcorr, hagg, rfl, fun _ => hru, fun h => by cases h⟩

/-- **one record of the output.**  Whatever `backfill_assignments` returns for
the flagged walk of a cell binds every level of the stored hierarchy: a voted
level (one of the run's tree) to a `directly_assigned = True` dict with
runner-up lists, any other level to an inferred dict (`False`, no runner-up
keys, numbers copied from below), each assignment a node of its level in the
stored tree. -/
theorem cellResult_good {κ} {t0 t : RawTree} {vote : Oracle κ} {nR : Nat} (rt : Reduces t0 t)
    (hv : VoteOK t vote) (hpay : PayloadOK nR t vote) (hch : hasChoice t = true)
    (id : CellId) (c : κ) (o : Record) (h : cellResult t0 t vote id c = .ok o) :
    o.cellId = id ∧
    ∀ l ∈ t0.hierarchy, ∃ e, o.levels.lookup l = some e ∧
      Good nR (t0.nodesAt l) (t.hierarchy.contains l) e := by
  have hnd0 := wfb_nodup_hierarchy rt.wf0
  obtain ⟨hid, _, hkeep, hinf⟩ := cellResult_spec rt hv id c o h
  replace hkeep := fun l hl => hkeep l (Or.inl hl)
  refine ⟨hid, ?_⟩
  -- a voted level keeps its dict
  have hvoted : ∀ l ∈ t.hierarchy, ∃ e, o.levels.lookup l = some e ∧
      Good nR (t0.nodesAt l) (t.hierarchy.contains l) e := by
    intro l hl
    obtain ⟨e, he, hg⟩ := flagged_lookup rt.wf hv hpay hch id c l hl
    refine ⟨e, (hkeep l hl).trans he, ?_⟩
    rw [List.contains_iff_mem.mpr hl, ← rt.nodes l hl]
    exact hg
  -- the others are inferred bottom-up, each from the level right below it
  intro l hl
  refine chain_up (fun l => ∃ e, o.levels.lookup l = some e ∧
    Good nR (t0.nodesAt l) (t.hierarchy.contains l) e) t0.hierarchy.reverse ?_ ?_ l
    (List.mem_reverse.mpr hl)
  · intro x hx
    rw [List.head?_reverse] at hx
    exact hvoted x (rt.leaf_mem hx)
  · rintro ⟨cl, pl⟩ hm ⟨ec, hec, hgc⟩
    by_cases hpl : pl ∈ t.hierarchy
    · exact hvoted pl hpl
    · obtain ⟨ec', pn, hec', hq, hpe⟩ := hinf (cl, pl) hm hpl
      simp only at hec' hq hpe hec
      rw [hec] at hec'
      cases hec'
      obtain ⟨a, b, hs⟩ := (mem_pairsOf_reverse_iff cl pl t0.hierarchy).mp hm
      obtain ⟨pl', hpl', hmem⟩ := childToParent_mem hq
      rw [parentLevel_of_split hnd0 hs] at hpl'
      cases hpl'
      refine ⟨_, hpe, ?_⟩
      rw [Bool.eq_false_iff.mpr (fun hb => hpl (List.contains_iff_mem.mp hb))]
      exact ⟨hmem, hgc.corr, hgc.agg, rfl, fun h => (by cases h), fun _ => rfl⟩

/-! ## one finished record in terms of the raw walk -/

theorem cellResult_lookup_walk {κ} {t0 t : RawTree} {vote : Oracle κ} (rt : Reduces t0 t)
    (hv : VoteOK t vote) {id : CellId} {c : κ} {o : Record}
    (h : cellResult t0 t vote id c = .ok o) {r : List (Level × Entry)}
    (hw : walk t vote c = .ok r) :
    ∀ le ∈ r, o.levels.lookup le.1 = some { le.2 with direct := some true } := by
  have hwd := walkD_of_walk hw
  have hkeys : r.map (·.1) = t.hierarchy := by
    have := markDirect_mkRecord_keys rt.wf hv id c
    rwa [markDirect_keys, mkRecord, hwd] at this
  intro le hle
  have hl : le.1 ∈ t.hierarchy := hkeys ▸ List.mem_map_of_mem hle
  rw [(cellResult_spec rt hv id c o h).2.2.1 _ (Or.inl hl), markDirect_lookup, mkRecord, hwd,
    ListAux.lookup_of_mem_nodup (hkeys ▸ wfb_nodup_hierarchy rt.wf) hle]
  simp only [Option.map_some, flagDirect, List.contains_iff_mem.mpr hl, if_true]

/-- `raw`: the oracle's answers, or the constants of the single-child branch, before the
post-loops -/
theorem cellResult_raw {κ} {t0 t : RawTree} {vote : Oracle κ} (rt : Reduces t0 t)
    (hv : VoteOK t vote) {id : CellId} {c : κ} {o : Record}
    (h : cellResult t0 t vote id c = .ok o) :
    ∃ raw : List (Level × Entry), o.cellId = id ∧
      walkFrom t vote c t.hierarchy none = .ok raw ∧ raw.map (·.1) = t.hierarchy ∧
      (∀ (k : Nat) (hk : k < raw.length), ∃ e, o.levels.lookup raw[k].1 = some e ∧
        e.assignment = raw[k].2.assignment ∧ e.prob = raw[k].2.prob ∧ e.ru = raw[k].2.ru ∧
        e.corr = (raw[k].2.corr.or (Election.corrAbove (raw.map (fun le => toElectionRec le.2)) k)).or
          (Election.corrBelow (raw.map (fun le => toElectionRec le.2)) k) ∧
        e.agg = some ((raw.map (fun le => le.2.prob)).take (k + 1)).prod ∧
        e.direct = some true) ∧
      (∀ cp ∈ pairsOf t0.hierarchy.reverse, cp.2 ∉ t.hierarchy →
        ∃ ec pn, o.levels.lookup cp.1 = some ec ∧
          t0.childToParent cp.1 ec.assignment = some pn ∧
          o.levels.lookup cp.2 =
            some { ec with assignment := pn, ru := none, direct := some false }) := by
  obtain ⟨raw, h1, h2, _⟩ := walk_steps rt.wf hv c
  obtain ⟨hid, _, _, hinf⟩ := cellResult_spec rt hv id c o h
  refine ⟨raw, hid, h1, h2, fun k hk => ?_, hinf⟩
  obtain ⟨e, he, ha, hp, hr, hc', hg⟩ := finishCell_entry raw k hk
  exact ⟨{ e with direct := some true },
    cellResult_lookup_walk rt hv h (walk_of_walkFrom h1) (raw[k].1, e) (List.mem_of_getElem? he),
    ha, hp, hr, hc', hg, rfl⟩

/-! ## `toRecord`: the per-level dict re-listed in hierarchy order -/

/-- **`toRecord` forgets only the order of the per-level dict**: on a finished
record, looking any level up after the conversion is looking it up before -/
theorem toRecord_lookup {κ} {t0 t : RawTree} {vote : Oracle κ} (rt : Reduces t0 t)
    (hv : VoteOK t vote) (id : CellId) (c : κ) (o : Record)
    (h : cellResult t0 t vote id c = .ok o) (l : Level) :
    (toRecord t0.hierarchy o).levels.lookup l = (o.levels.lookup l).map toLevelRec := by
  have hk := (cellResult_spec rt hv id c o h).2.1
  rw [toRecord, ListAux.lookup_relist]
  split
  · rfl
  · rename_i hl
    cases hlk : o.levels.lookup l with
    | none => rfl
    | some e => exact absurd ((hk l).mp (by rw [hlk]; rfl)) hl

/-! ## from the records to `Output.outInv` -/

theorem embedded_nodesAt {t0 : RawTree} (hwf : wfb t0 = true) (nm : NameMapper)
    (hm : HierarchyMapper) (dl : Option Level) (fl : Bool) {l : Level} (hl : l ∈ t0.hierarchy) :
    (Output.embeddedTree (toTree t0 nm hm) dl fl).nodesAt l = some (t0.nodesAt l) := by
  simp only [Output.embeddedTree, Output.dropCells_nodesAt]
  have hne := wfb_nodesAt_nonempty hwf hl
  simp only [Output.Tree.nodesAt, toTree, RawTree.nodesAt, RawTree.level] at hne ⊢
  cases hlk : t0.levels.lookup l with
  | none => rw [hlk] at hne; simp at hne
  | some m => simp

theorem embedded_hierarchy (t0 : RawTree) (nm : NameMapper) (hm : HierarchyMapper)
    (dl : Option Level) (fl : Bool) :
    (Output.embeddedTree (toTree t0 nm hm) dl fl).hierarchy = t0.hierarchy := rfl

/-- the flag depends on the level only: `outInv` compares every record's flags with those of the
first record -/
theorem outInv_of_records (t0 : RawTree) (cfg : Config) (nm : NameMapper) (hm : HierarchyMapper)
    (nR : Nat) (flag : Level → Bool) (out : List Record) (hne : out ≠ [])
    (hwf0 : wfb t0 = true)
    (hgood : ∀ o ∈ out, ∀ l ∈ t0.hierarchy, ∃ e, o.levels.lookup l = some e ∧
      Good nR (t0.nodesAt l) (flag l) e) :
    Output.outInv (toBlob t0 cfg nm hm nR out) = true := by
  cases out with
  | nil => exact absurd rfl hne
  | cons first rest =>
    refine Output.outInv_iff.mpr ⟨toRecord t0.hierarchy first, rest.map (toRecord t0.hierarchy), rfl,
      wfb_nodup_hierarchy hwf0, fun r' hr' => ?_⟩
    obtain ⟨o, ho, rfl⟩ := List.mem_map.mp (show r' ∈ (first :: rest).map _ from hr')
    simp only [toBlob]
    refine ⟨?_, ?_⟩
    · exact ListAux.keys_relist o.levels toLevelRec t0.hierarchy
        (fun k hk => by obtain ⟨e, he, _⟩ := hgood o ho k hk; rw [he]; rfl)
    · refine Output.levelsOK_iff.mpr fun x hx => ?_
      simp only [toRecord, List.mem_filterMap] at hx
      obtain ⟨l, hl, hx⟩ := hx
      obtain ⟨e, he, hg⟩ := hgood o ho l hl
      rw [he] at hx
      simp only [Option.map_some, Option.some.injEq] at hx
      subst hx
      obtain ⟨e0, he0, hg0⟩ := hgood first (by simp) l hl
      refine ⟨t0.nodesAt l, toLevelRec e0, embedded_nodesAt hwf0 nm hm _ _ hl, ?_, ?_⟩
      · simp only [toRecord]
        rw [ListAux.lookup_relist, if_pos hl, he0]
        rfl
      · have hd : (toLevelRec e0).direct = flag l := by
          simp only [toLevelRec, hg0.direct, Option.getD_some]
        rw [hd]
        exact levelOK_of_good hg

/-- **The output of the mapping loop satisfies the invariant of the
serialisers.**  `t` the tree the run votes on — any `drop_level` (absent, top or middle level),
`flatten` on or off, or both (`Reduces`, `runTree_reduces`); the oracle returns children (`VoteOK`)
with a payload as `PayloadOK` describes; the run's tree offers a choice on every way down
(`hasChoice`, otherwise `avg_correlation` is legitimately `null`).  Then finished records of
cells, at least one, convert to a blob with `outInv`. -/
theorem outInv_of_cells {κ} {t0 t : RawTree} (cfg : Config) {vote : Oracle κ}
    (nm : NameMapper) (hm : HierarchyMapper) {nR : Nat} (rt : Reduces t0 t)
    (hv : VoteOK t vote) (hpay : PayloadOK nR t vote) (hch : hasChoice t = true)
    {out : List Record} (hne : out ≠ [])
    (hrec : ∀ o ∈ out, ∃ id c, cellResult t0 t vote id c = .ok o) :
    Output.outInv (toBlob t0 cfg nm hm nR out) = true := by
  apply outInv_of_records t0 cfg nm hm nR (fun l => t.hierarchy.contains l) out hne rt.wf0
  intro o ho
  obtain ⟨id, c, hc⟩ := hrec o ho
  exact (cellResult_good rt hv hpay hch id c o hc).2

/-! ## the interpreted oracle: `choose_node` (`Election.chooseCell`) -/

/-- the answer of `_run_type_assignment` for one cell, read off the result of
`choose_node`: winner, vote share, average correlation (always a float) and the
runner-up tuples `(type, votes > 0, avg_corr, vote share)` -/
def voteOfChoice (ch : Election.Choice) : Vote :=
  { assignment := ch.winner, prob := ch.prob, corr := some ch.avgCorr,
    runnersUp := some (ch.runners.map (fun r =>
      { node := r.type, valid := r.valid, corr := r.avgCorr, prob := r.prob })) }

theorem entryOf_voteOfChoice (ch : Election.Choice) :
    entryOf (voteOfChoice ch) =
      { assignment := ch.winner, prob := ch.prob, corr := some ch.avgCorr,
        ru := some (Election.keepRunners ch.runners) } := by
  simp only [entryOf, voteOfChoice, Election.keepRunners, List.filter_map, List.map_map]
  rfl

/-! ## the two models of `backfill_assignments` agree -/

/-- the level-loop model's record as an `Election.Cell` (level ↦ finished record, a Python dict) -/
def toElectionCell (r : Record) : Election.Cell :=
  r.levels.map (fun le => (le.1, toElectionOut le.2))

/-- outcomes: the only failure of `backfill_assignments` is the `KeyError` of
`_child_to_parent[level][node]` -/
def toInferResult : Except Err Record → Except Election.InferErr Election.Cell
  | .ok r => .ok (toElectionCell r)
  | .error _ => .error .keyError

theorem toElectionCell_lookup (r : Record) (k : Level) :
    (toElectionCell r).lookup k = (r.levels.lookup k).map toElectionOut :=
  ListAux.lookup_map_snd toElectionOut k r.levels

theorem backfillOne_agree (tMeta : RawTree) (cl pl : Level) (r : Record) :
    Election.inferStep tMeta.childToParent (toElectionCell r) cl pl =
      toInferResult (backfillOne tMeta cl pl r) := by
  unfold Election.inferStep backfillOne
  rw [toElectionCell_lookup, toElectionCell_lookup]
  cases hp : r.levels.lookup pl with
  | some ep => simp [toInferResult]
  | none =>
    simp only [Option.map_none, Option.isSome_none, Bool.false_eq_true, if_false]
    cases hc : r.levels.lookup cl with
    | none => simp [toInferResult]
    | some e =>
      simp only [Option.map_some]
      have ha : (toElectionOut e).assignment = e.assignment := rfl
      rw [ha]
      cases hq : tMeta.childToParent cl e.assignment with
      | none => simp [toInferResult]
      | some p =>
        simp only [toInferResult, toElectionCell, List.map_append, List.map_cons, List.map_nil]
        rfl

theorem backfillPairs_agree (tMeta : RawTree) : ∀ (ps : List (Level × Level)) (r : Record),
    ps.foldlM (fun c p => Election.inferStep tMeta.childToParent c p.1 p.2) (toElectionCell r) =
      toInferResult (backfillPairs tMeta ps r)
  | [], r => rfl
  | (cl, pl) :: rest, r => by
    simp only [List.foldlM_cons, backfillPairs, backfillOne_agree]
    cases h1 : backfillOne tMeta cl pl r with
    | error e => rfl
    | ok r1 =>
      simp only [toInferResult]
      exact backfillPairs_agree tMeta rest r1

/-- **the level-loop model's `backfill_assignments` (one cell) is
`Election.inferLevels`**, so `C03.inferred` speaks about the records of the
level-loop model's pipeline -/
theorem backfill_agree (tMeta : RawTree) (r : Record) :
    Election.inferLevels tMeta.childToParent tMeta.hierarchy (toElectionCell r) =
      toInferResult (backfillPairs tMeta (pairsOf tMeta.hierarchy.reverse) r) :=
  backfillPairs_agree tMeta _ r

/-- **one record of the level-loop model's pipeline, computed by the election
model**: the flagged walk of a cell is `Election.finishCell` of the raw per-level votes along the walk, and
the finished record is `Election.inferLevels` (parents from the stored tree)
of the flagged walk -/
theorem cellResult_election {κ} {t0 t : RawTree} {vote : Oracle κ}
    (rt : Reduces t0 t) (hv : VoteOK t vote) (id : CellId) (c : κ) (o : Record) (h : cellResult t0 t vote id c = .ok o) :
    ∃ raw, walkFrom t vote c t.hierarchy none = .ok raw ∧
      raw.map (·.1) = t.hierarchy ∧
      (markDirect t.hierarchy (mkRecord t vote id c)).levels.map (·.1) = t.hierarchy ∧
      (markDirect t.hierarchy (mkRecord t vote id c)).levels.map (fun le => toElectionOut le.2) =
        Election.finishCell (raw.map (fun le => toElectionRec le.2)) ∧
      Election.inferLevels t0.childToParent t0.hierarchy
        (toElectionCell (markDirect t.hierarchy (mkRecord t vote id c))) =
          .ok (toElectionCell o) := by
  obtain ⟨es, hes, hfst, hl⟩ := walk_steps rt.wf hv c
  have hwd := walkD_of_walkFrom hes
  have hkeys := markDirect_mkRecord_keys rt.wf hv id c
  have hru : ∀ le ∈ es, le.2.ru.isSome = true :=
    Compose.Linked.forall (R := fun _ e => e.ru.isSome = true)
      (fun _ _ _ ⟨_, _, he⟩ => he ▸ entryOf_ru_isSome _) none es hl
  refine ⟨es, hes, hfst, hkeys, ?_, ?_⟩
  · rw [← finishCell_agree es hru, markDirect_levels, List.map_map]
    simp only [mkRecord, hwd]
    apply List.map_congr_left
    intro le hle
    have hl : le.1 ∈ t.hierarchy := by
      have hk : (LevelLoop.finishCell es).map (·.1) = t.hierarchy := by
        rw [← hkeys, markDirect_keys]; simp only [mkRecord, hwd]
      rw [← hk]
      exact List.mem_map.mpr ⟨le, hle, rfl⟩
    simp only [Function.comp, flagDirect, List.contains_iff_mem.mpr hl, if_true]
  · have hb := backfill_agree t0.dropCells (markDirect t.hierarchy (mkRecord t vote id c))
    unfold cellResult at h
    rw [h, RawTree.dropCells_hierarchy] at hb
    have hfun : t0.dropCells.childToParent = t0.childToParent := by
      funext cl n
      exact RawTree.dropCells_childToParent_of_nodup (wfb_nodup_hierarchy rt.wf0) cl n
    rw [hfun] at hb
    exact hb

/-! ## a concrete instance (non-vacuity examples of `Props/C15/Bridge`, `Props/C03/Bridge`) -/

/-- an oracle with a full payload: the cell's number picks the child, every
other child is a valid runner-up, at most `nR` of them are returned -/
def exVoteP (nR : Nat) : Oracle Nat := fun _ kids c =>
  let w := ((kids[c % kids.length]?).map (·.1)).getD 0
  { assignment := w, prob := 1 / 2, corr := some (1 / 3),
    runnersUp := some (((kids.filter (fun k => k.1 != w)).take nR).map
      (fun k => { node := k.1, valid := true, corr := 1 / 4, prob := 1 / 4 })) }

theorem exVoteP_ok (nR : Nat) (t : RawTree) : VoteOK t (exVoteP nR) := by
  intro p cl kids c hk
  have hlt : c % kids.length < kids.length := Nat.mod_lt _ (by omega)
  simp only [exVoteP, kidsOf, List.length_map, List.getElem?_map, List.getElem?_eq_getElem hlt,
    Option.map_some, Option.getD_some]
  exact List.getElem_mem hlt

theorem exVoteP_payload (nR : Nat) (t : RawTree) : PayloadOK nR t (exVoteP nR) := by
  intro p cl kids c _
  refine ⟨rfl, ?_⟩
  intro r hr
  simp only [exVoteP, Option.some.injEq] at hr
  subst hr
  refine ⟨?_, ?_⟩
  · refine Nat.le_trans (List.length_filter_le _ _) ?_
    simp only [List.length_map, List.length_take]
    exact Nat.min_le_left _ _
  · intro x hx _
    simp only [List.mem_map] at hx
    obtain ⟨k, hk, rfl⟩ := hx
    have hk' := (List.mem_filter.mp (List.mem_of_mem_take hk)).1
    simp only [kidsOf, List.mem_map] at hk'
    obtain ⟨n, hn, rfl⟩ := hk'
    exact hn

end OutBridge
end CTM
