/-
  The well-formedness notions of the separately built models, tied together.

    tree model     `RawTree.WF t` = `validate t = .ok ()` + `DictOK t` (distinct dict keys: the
                                    modelling convention for a Python dict)
    level loop     `LevelLoop.wfb t = true`   (decidable)
    marker stage   `Markers.TreeWF t`, `Markers.Populated t`

  Acceptance by the validator gives all of them (`WF_wfb`, `treeWF_of_WF`, `populated_of_WF`), and
  they pass to the tree of a run with `drop_level` / `flatten` (`WF_runTree`,
  `stage_eq_stage_runTree`).  The converse `wfb → validate` holds with exactly the facts `wfb`
  does not look at (`validate_of_wfb`).  After that: the level loop's root-to-leaf path is the tree
  model's `IsPath`; stored trees equal up to the order of dict keys and child lists give the same
  mapping for an order-blind oracle (`mapPipeline_equiv`); `flatten` of a tree built from label
  columns is the tree built from the leaf column (`flatten_fromRecords_eq`).

  LevelLoop has no child/parent functions of its own: it calls the tree model's `children` /
  `childToParent` (through `kidsD`).
-/
import CTM.Lemmas.Tree
import CTM.Lemmas.LevelLoopTrees
import CTM.Lemmas.MarkersCache

namespace CTM.Bridge
open CTM CTM.RawTree

/-- the taxonomy has at least one node: the top level is not empty -/
def HasNode (t : RawTree) : Prop := ∀ l0, t.hierarchy.head? = some l0 → t.nodesAt l0 ≠ []

/-! ### the level loop's level pairs and children are the tree model's -/

/-- the `(parent_level, child_level)` pairs of the level loop with a parent
level are the adjacent-level pairs of the tree model -/
theorem levelLoop_levelPairs_iff (t : RawTree) (pl cl : Level) :
    (some pl, cl) ∈ LevelLoop.levelPairs t ↔ (pl, cl) ∈ RawTree.levelPairs t.hierarchy := by
  rw [LevelLoop.mem_levelPairs_iff, mem_levelPairs_iff_split]
  constructor
  · rintro (⟨h, _⟩ | ⟨p, a, b, hp, hs⟩)
    · cases h
    · cases hp; exact ⟨a, b, hs⟩
  · rintro ⟨a, b, hs⟩
    exact Or.inr ⟨pl, a, b, rfl, hs⟩

theorem exists_levelPair_of_mem_dropLast {l : Level} {h : List Level} (hm : l ∈ h.dropLast) :
    ∃ cl, (l, cl) ∈ RawTree.levelPairs h := by
  obtain ⟨i, hi, rfl⟩ := List.getElem_of_mem hm
  rw [List.length_dropLast] at hi
  rw [List.getElem_dropLast]
  exact ⟨_, mem_levelPairs_of_idx (by omega)⟩

/-- `TaxonomyTree.children(level, node)` of a node of the tree is its stored list -/
theorem children_eq_entry {t : RawTree} (d : DictOK t) {l : Level} {n : Node}
    (hn : n ∈ t.nodesAt l) : t.children (some (l, n)) = .ok (t.entry l n) :=
  LevelLoop.children_of_mem_level (d.nodesAt_nodup l) (mem_level_entry hn)

theorem children_root {t : RawTree} {l0 : Level} (h0 : t.hierarchy.head? = some l0) :
    t.children none = .ok (t.nodesAt l0) := by
  simp [RawTree.children, h0]

theorem kidsD_root {t : RawTree} {l0 : Level} (h0 : t.hierarchy.head? = some l0) :
    LevelLoop.kidsD t none = t.nodesAt l0 :=
  LevelLoop.kidsD_of_ok (children_root h0)

/-- on a `WF` tree the level loop's children relation is the inverse of the
tree model's `childToParent` (C10 `parent_child_inverse`) -/
theorem mem_kidsD_iff_childToParent {t : RawTree} (w : WF t) {pl cl : Level}
    (hpc : (pl, cl) ∈ RawTree.levelPairs t.hierarchy) {p : Node} (hp : p ∈ t.nodesAt pl) (c : Node) :
    c ∈ LevelLoop.kidsD t (some (pl, p)) ↔ t.childToParent cl c = some p := by
  have s := strict_of_validate w.valid
  obtain ⟨i, hi, rfl, rfl⟩ := mem_levelPairs.1 hpc
  rw [LevelLoop.kidsD_eq_entry (w.dict.nodesAt_nodup _) hp, childToParent_eq_some_iff s w.hNodup hi, isChild_iff w.dict]
  exact ⟨fun h => ⟨hp, h⟩, fun h => h.2⟩

/-! ### acceptance gives `wfb`, `TreeWF`, `Populated`; what `wfb` lacks for the converse -/

/-- **the validator's acceptance implies the level loop's well-formedness**
(`WF` = acceptance + dict-key uniqueness, `RawTree.WF.of_validate`) -/
theorem WF_wfb {t : RawTree} (w : WF t) : LevelLoop.wfb t = true :=
  LevelLoop.wfb_of_strict (strict_of_validate w.valid) w.hNodup (fun l _ => w.dict.nodesAt_nodup l)
    (hasNode_of_validate w.valid)

theorem wfb_of_validate {t : RawTree} (hv : t.validate = .ok ()) (d : DictOK t) :
    LevelLoop.wfb t = true :=
  WF_wfb (WF.of_validate hv d)

/-- `wfb` demands a node at the top: the root must have a child -/
theorem hasNode_of_wfb {t : RawTree} (h : LevelLoop.wfb t = true) : HasNode t :=
  fun _ h0 => LevelLoop.wfb_nodesAt_nonempty h (List.mem_of_mem_head? h0)

/-- what `wfb` refuses, the validator refuses -/
theorem rejected_of_not_wfb {t : RawTree} (d : DictOK t) (h : LevelLoop.wfb t = false) :
    ∃ e, t.validate = .error e := by
  cases hv : t.validate with
  | error e => exact ⟨e, rfl⟩
  | ok u =>
    cases u
    have := wfb_of_validate hv d
    rw [h] at this; cases this

/-- The converse direction.  `wfb` reads the tree only through `children` /
`nodesAt`, so it says nothing about: the hierarchy being non-empty (`wfb` holds
vacuously for `hierarchy = []`, which the validator refuses), the `hierarchy`
key being present (`hasH`), stray level keys outside the hierarchy
(`keysSub`), node keys being `str`, a child listed twice by ONE parent
(`childNodup`; `wfb` only compares different parents), repeated reference rows
(`rows`), and duplicate dict keys (`DictOK`: an association list with a
repeated key is read at its first binding by the model).  With those, `wfb`
gives back the validator's acceptance. -/
theorem validate_of_wfb {t : RawTree} (h : LevelLoop.wfb t = true) (d : DictOK t)
    (hne : t.hierarchy ≠ [])
    (hasH : t.hasHierarchy = true) (str : t.nodesAreStr = true)
    (keysSub : ∀ k, k ∈ t.levels.map (·.1) → k ∈ t.hierarchy)
    (childNodup : ∀ pl cl, (pl, cl) ∈ RawTree.levelPairs t.hierarchy →
      ∀ p cs, (p, cs) ∈ t.level pl → cs.Nodup)
    (rows : t.allRows.Nodup) : t.validate = .ok () := by
  apply validate_of_strict (LevelLoop.wfb_nodup_hierarchy h) hne (hasNode_of_wfb h)
  refine strict_of_links hasH str (fun k => ⟨keysSub k, fun hk => ?_⟩) (fun pl cl hpc => ?_) rows
  · -- every level of the hierarchy has its dict (it has a node)
    have hn := LevelLoop.wfb_nodesAt_nonempty h hk
    rcases level_mem_or_nil t k with hm | hm
    · exact List.mem_map.2 ⟨_, hm, rfl⟩
    · exact absurd (by simp [nodesAt, hm]) hn
  · obtain ⟨pre, post, hs⟩ := mem_levelPairs_iff_split.1 hpc
    exact (LevelLoop.wfb_levelFacts_of_split h hs).link (d.nodesAt_nodup pl) (childNodup pl cl hpc)

/-- `WF` and `wfb` side by side: they differ exactly by the facts listed at
`validate_of_wfb` -/
theorem WF_iff_wfb {t : RawTree} (d : DictOK t) (hne : t.hierarchy ≠ []) :
    WF t ↔
      (LevelLoop.wfb t = true ∧ t.hasHierarchy = true ∧ t.nodesAreStr = true ∧
        (∀ k, k ∈ t.levels.map (·.1) → k ∈ t.hierarchy) ∧
        (∀ pl cl, (pl, cl) ∈ RawTree.levelPairs t.hierarchy →
          ∀ p cs, (p, cs) ∈ t.level pl → cs.Nodup) ∧
        t.allRows.Nodup) := by
  constructor
  · intro w
    have s := strict_of_validate w.valid
    exact ⟨WF_wfb w, s.hasH, s.str, s.keysSub, s.childNodup, s.rowsNodup⟩
  · rintro ⟨h, hasH, str, keysSub, childNodup, rows⟩
    exact WF.of_validate (validate_of_wfb h d hne hasH str keysSub childNodup rows) d

theorem treeWF_of_WF {t : RawTree} (w : WF t) : Markers.TreeWF t :=
  ⟨w.hNodup, w.hNe, (strict_of_validate w.valid).hierSub, fun l _ => w.dict.nodesAt_nodup l⟩

/-- the marker model's `Populated` ("every parent has at least one child"):
the validator's no-childless-parent test, and its no-nodes test for the root -/
theorem populated_of_WF {t : RawTree} (w : WF t) : Markers.Populated t := by
  have s := strict_of_validate w.valid
  have hnode := hasNode_of_validate w.valid
  intro p hp ch hch
  have hch' : t.children p = .ok ch := by
    unfold Markers.childrenOf at hch
    cases hc : t.children p with
    | ok c => rw [hc] at hch; cases hch; rfl
    | error e => rw [hc] at hch; cases hch
  cases p with
  | none =>
    obtain ⟨l0, h0, rfl⟩ := children_none_ok_iff.1 hch'
    exact List.length_pos_iff.2 (hnode l0 h0)
  | some ln =>
    obtain ⟨l, n⟩ := ln
    obtain ⟨hl, hn⟩ := RawTree.mem_allParents.1 hp
    obtain ⟨_, _, rfl⟩ := children_some_ok_iff.1 hch'
    obtain ⟨cl, hpc⟩ := exists_levelPair_of_mem_dropLast hl
    exact List.length_pos_iff.2 (s.childNe l cl hpc n _ (mem_level_entry hn))

/-! ### the tree of a run with `drop_level` / `flatten` -/

/-- induction over `runTree`: one optional `dropLevel`, then one optional `flatten` -/
theorem runTree_preserves {P : RawTree → Prop}
    (hdrop : ∀ {t t' : RawTree} {l : Level}, P t → t.dropLevel l = .ok t' → P t')
    (hflat : ∀ {t : RawTree}, P t → P t.flatten) {t0 t : RawTree} {cfg : LevelLoop.Config}
    (h0 : P t0) (hrun : LevelLoop.runTree t0 cfg = .ok t) : P t := by
  obtain ⟨t1, rfl, h⟩ := LevelLoop.runTree_ok hrun
  have h1 : P t1 := by
    rcases h with ⟨rfl, _⟩ | ⟨l, _, _, hdl⟩
    · exact h0
    · exact hdrop h0 hdl
  split
  · exact hflat h1
  · exact h1

theorem wfb_runTree {t0 t : RawTree} {cfg : LevelLoop.Config} (h0 : LevelLoop.wfb t0 = true)
    (hrun : LevelLoop.runTree t0 cfg = .ok t) : LevelLoop.wfb t = true :=
  (LevelLoop.runTree_reduces h0 hrun).wf

/-- C10 `drop_preserves`, by level name rather than index -/
theorem WF_dropLevel {t t' : RawTree} {l : Level} (w : WF t) (h : t.dropLevel l = .ok t') :
    WF t' := by
  obtain ⟨i, hi, rfl⟩ := List.getElem_of_mem (LevelLoop.dropLevel_hierarchy h).1
  exact dropLevelRaw_wf w hi (dropLevelRaw_of_dropLevel h)

theorem WF_runTree {t0 t : RawTree} {cfg : LevelLoop.Config} (w : WF t0)
    (hrun : LevelLoop.runTree t0 cfg = .ok t) : WF t :=
  runTree_preserves WF_dropLevel flatten_wf w hrun

/-- **the marker stage and the level loop work on the same tree**: the marker
stage with `drop_level` / `flatten` is the plain marker stage on the level
loop's `runTree` (with the flattened table when flattening) -/
theorem stage_eq_stage_runTree {t0 t : RawTree} {cfg : LevelLoop.Config}
    (hrun : LevelLoop.runTree t0 cfg = .ok t) (lk : Markers.Lookup) (R Q : List Markers.Gene)
    (m : Nat) :
    Markers.stage t0 lk R Q m cfg.dropLevel cfg.flatten =
      Markers.stage t (if cfg.flatten then Markers.flattenLookup lk else lk) R Q m none false := by
  obtain ⟨t1, rfl, ⟨rfl, hno⟩ | ⟨l, hd, hl, hdl⟩⟩ := LevelLoop.runTree_ok hrun
  · cases hd : cfg.dropLevel with
    | none => simp only [Markers.stage, Bool.false_eq_true, if_false]
    | some l => simp only [Markers.stage, List.contains_iff_mem, hno l hd, Bool.false_eq_true, if_false]
  · simp only [hd, Markers.stage, List.contains_iff_mem, hl, hdl, if_true, Bool.false_eq_true, if_false]

/-! ### the level loop's root-to-leaf path is the tree model's `IsPath` -/

theorem linkedFrom_getElem {t : RawTree} {A : List (Level × Node)} {p : LevelLoop.Parent}
    (h : LevelLoop.LinkedFrom t p A) {j : Nat} (hj : j + 1 < A.length) :
    t.childToParent A[j+1].1 A[j+1].2 = some (A[j]'(Nat.lt_of_succ_lt hj)).2 := by
  induction A generalizing p j with
  | nil => cases hj
  | cons a rest ih =>
    have h' : LevelLoop.LinkedFrom t (some a) rest := by
      cases p with
      | none => exact h
      | some q => exact h.2
    cases j with
    | zero =>
      cases rest with
      | nil => exact absurd hj (Nat.lt_irrefl 1)
      | cons x rest' => exact h'.1
    | succ j => exact ih h' (Nat.lt_of_succ_lt_succ hj)

/-- C01's `IsRootToLeafPath` (one node per level, consecutive ones related by
`child_to_parent`) is C10's `IsPath` (each node a LISTED CHILD of the previous
one) on a `WF` tree -/
theorem isPath_of_rootToLeaf {t : RawTree} (w : WF t) {es : List (Level × LevelLoop.Entry)}
    (h : LevelLoop.IsRootToLeafPath t es) : IsPath t (es.map (·.2.assignment)) := by
  have s := strict_of_validate w.valid
  obtain ⟨hlv, hnodes, hlink⟩ := h
  have hlen : es.length = t.hierarchy.length := by
    rw [← hlv, List.length_map]
  have hlevel : ∀ j (hj : j < es.length), es[j].1 = t.hierarchy[j]'(hlen ▸ hj) := by
    intro j hj
    have := List.getElem_of_eq hlv (i := j) (by rwa [List.length_map])
    rwa [List.getElem_map] at this
  refine ⟨by rw [List.length_map, hlen], ?_, ?_⟩
  · intro j hj hj'
    have hj0 : j < es.length := hlen ▸ hj'
    have := hnodes es[j] (List.getElem_mem hj0)
    rw [hlevel j hj0] at this
    rwa [List.getElem_map]
  · intro j hj hj'
    have hj0 : j + 1 < es.length := hlen ▸ hj'
    have hc := linkedFrom_getElem hlink (j := j) (by rwa [LevelLoop.assignments, List.length_map])
    simp only [LevelLoop.assignments, List.getElem_map] at hc
    rw [hlevel (j+1) hj0, childToParent_eq_some_iff s w.hNodup hj', isChild_iff w.dict] at hc
    simpa only [List.getElem_map] using hc.2

/-! ### trees equal up to the order of dict keys / child lists give the same mapping

C10's `drop_commutes_build` relates the dropped tree and the tree built without
the column by `TreeEquiv` (same hierarchy, same nodes, same entries UP TO
ORDER).  The level loop hands the oracle the children in stored order, each
with its leaf list in `as_leaves` order; so the two mappings agree for oracles
that do not look at these orders (`OrderBlind`). -/

/-- two `kids` arguments of the oracle that differ only in the order of the
children and of each child's leaf list -/
def KidsEquiv (a b : List (Node × List Node)) : Prop :=
  (a.map (·.1)).Perm (b.map (·.1)) ∧ ∀ k la lb, (k, la) ∈ a → (k, lb) ∈ b → la.Perm lb

/-- the oracle reads the children of the parent and their leaves as SETS (on
arguments whose children are distinct, as they are on a validated tree) -/
def OrderBlind {κ} (vote : LevelLoop.Oracle κ) : Prop :=
  ∀ p a b c, (a.map (·.1)).Nodup → KidsEquiv a b → vote p a c = vote p b c

/-- tree-independent form of `VoteOK`: the oracle returns one of the children it
was given -/
def VoteChild {κ} (vote : LevelLoop.Oracle κ) : Prop :=
  ∀ p kl c, 2 ≤ kl.length → (vote p kl c).assignment ∈ kl.map (·.1)

theorem voteFn_of_ne_singleton {κ} (t : RawTree) (vote : LevelLoop.Oracle κ) (p : LevelLoop.Parent)
    (cl : Level) {kids : List Node} (h : ∀ a, kids ≠ [a]) (c : κ) :
    LevelLoop.voteFn t vote p cl kids c = vote p (LevelLoop.kidsOf t cl kids) c := by
  unfold LevelLoop.voteFn
  split
  · exact absurd rfl (h _)
  · rfl

theorem voteOK_of_voteChild {κ} {vote : LevelLoop.Oracle κ} (h : VoteChild vote) (t : RawTree) :
    LevelLoop.VoteOK t vote := by
  intro p cl kids c hk
  have := h p (LevelLoop.kidsOf t cl kids) c (by rwa [LevelLoop.kidsOf, List.length_map])
  rwa [LevelLoop.map_fst_kidsOf] at this

theorem levelUnder_equiv {t₁ t₂ : RawTree} (e : TreeEquiv t₁ t₂)
    (p : Option (Level × Node)) : t₁.levelUnder p = t₂.levelUnder p := by
  cases p with
  | none => simp only [RawTree.levelUnder, e.hier]
  | some q => simp only [RawTree.levelUnder, RawTree.childLevel, RawTree.levelIdx, e.hier]

theorem children_equiv {t₁ t₂ : RawTree} (e : TreeEquiv t₁ t₂) (w₁ : WF t₁) (w₂ : WF t₂)
    {p : LevelLoop.Parent} {k₁ : List Node} (h₁ : t₁.children p = .ok k₁) :
    ∃ k₂, t₂.children p = .ok k₂ ∧ k₁.Perm k₂ ∧ k₁.Nodup := by
  have s₁ := strict_of_validate w₁.valid
  cases p with
  | none =>
    obtain ⟨l0, h0, rfl⟩ := children_none_ok_iff.1 h₁
    have hl0 : l0 ∈ t₁.hierarchy := List.mem_of_mem_head? h0
    refine ⟨t₂.nodesAt l0, children_root (e.hier ▸ h0), ?_, w₁.dict.nodesAt_nodup l0⟩
    exact (List.perm_ext_iff_of_nodup (w₁.dict.nodesAt_nodup l0) (w₂.dict.nodesAt_nodup l0)).2
      (e.nodes l0 hl0)
  | some ln =>
    obtain ⟨l, n⟩ := ln
    obtain ⟨hlk, hn, rfl⟩ := children_some_ok_iff.1 h₁
    have hl : l ∈ t₁.hierarchy := s₁.keysSub l hlk
    have hn₂ : n ∈ t₂.nodesAt l := (e.nodes l hl n).1 hn
    exact ⟨_, children_eq_entry w₂.dict hn₂, e.entries l hl n hn,
      s₁.entry_nodup_of_mem hl hn⟩

theorem voteFn_equiv {κ} {t₁ t₂ : RawTree} {vote : LevelLoop.Oracle κ} (hob : OrderBlind vote)
    (p : LevelLoop.Parent) (cl : Level) {k₁ k₂ : List Node} (hperm : k₁.Perm k₂) (hnd : k₁.Nodup)
    (hleaves : ∀ k ∈ k₁, (t₁.asLeaves cl k).Perm (t₂.asLeaves cl k)) (c : κ) :
    LevelLoop.voteFn t₁ vote p cl k₁ c = LevelLoop.voteFn t₂ vote p cl k₂ c := by
  by_cases h1 : ∃ a, k₁ = [a]
  · obtain ⟨a, rfl⟩ := h1
    rw [List.perm_singleton.mp hperm.symm]
    rfl
  · have h2 : ¬ ∃ a, k₂ = [a] := fun ⟨a, h⟩ => h1 ⟨a, List.perm_singleton.mp (h ▸ hperm)⟩
    rw [voteFn_of_ne_singleton _ _ _ _ (fun a h => h1 ⟨a, h⟩),
      voteFn_of_ne_singleton _ _ _ _ (fun a h => h2 ⟨a, h⟩)]
    refine hob p _ _ c (by rwa [LevelLoop.map_fst_kidsOf]) ⟨by rwa [LevelLoop.map_fst_kidsOf, LevelLoop.map_fst_kidsOf], ?_⟩
    intro k la lb ha hb
    simp only [LevelLoop.kidsOf, List.mem_map, Prod.mk.injEq] at ha hb
    obtain ⟨k', hk', rfl, rfl⟩ := ha
    obtain ⟨_, _, rfl, rfl⟩ := hb
    exact hleaves _ hk'

/-- replay the steps of `t₁`'s walk in `t₂` (`walkFrom_of_steps`): at each parent asked the two
trees list the same children up to order, so the oracle answers the same -/
theorem walk_equiv {κ} {t₁ t₂ : RawTree} {vote : LevelLoop.Oracle κ} (e : TreeEquiv t₁ t₂)
    (w₁ : WF t₁) (w₂ : WF t₂) (hob : OrderBlind vote) (hv : LevelLoop.VoteOK t₁ vote) (c : κ) :
    LevelLoop.walk t₁ vote c = LevelLoop.walk t₂ vote c := by
  obtain ⟨es, h₁, hfst, hl⟩ := LevelLoop.walk_steps (WF_wfb w₁) hv c
  unfold LevelLoop.walk
  rw [h₁, ← e.hier, ← hfst, LevelLoop.walkFrom_of_steps es none (Compose.Linked.imp ?_ none es hl)]
  rintro p l _ ⟨k₁, ⟨_, hm, _, hk₁, hne, hsub⟩, rfl⟩
  obtain ⟨k₂, hk₂, hperm, hnd⟩ := children_equiv e w₁ w₂ hk₁
  exact ⟨k₂, hk₂, fun h => hne (h ▸ hperm).eq_nil, congrArg _ (voteFn_equiv hob p l hperm hnd
    (fun k hk => asLeaves_equiv e (strict_of_validate w₁.valid) w₁.hNodup (List.of_mem_zip hm).2
      (hsub k hk)) c)⟩

theorem mkRecord_equiv {κ} {t₁ t₂ : RawTree} {vote : LevelLoop.Oracle κ} (e : TreeEquiv t₁ t₂)
    (w₁ : WF t₁) (w₂ : WF t₂) (hob : OrderBlind vote) (hv : LevelLoop.VoteOK t₁ vote) :
    LevelLoop.mkRecord t₁ vote = LevelLoop.mkRecord t₂ vote := by
  funext id c
  simp only [LevelLoop.mkRecord, LevelLoop.walkD, walk_equiv e w₁ w₂ hob hv c]

theorem cellResult_equiv {κ} {t₁ t₂ : RawTree} {vote : LevelLoop.Oracle κ} (e : TreeEquiv t₁ t₂)
    (w₁ : WF t₁) (w₂ : WF t₂) (hob : OrderBlind vote)
    (hv₁ : LevelLoop.VoteOK t₁ vote) (hv₂ : LevelLoop.VoteOK t₂ vote) :
    LevelLoop.cellResult t₁ t₁ vote = LevelLoop.cellResult t₂ t₂ vote := by
  funext id c
  rw [LevelLoop.cellResult_self (WF_wfb w₁) hv₁, LevelLoop.cellResult_self (WF_wfb w₂) hv₂,
    mkRecord_equiv e w₁ w₂ hob hv₁, e.hier]

/-- the whole output of a run without `drop_level` / `flatten`, whatever the two gathering orders -/
theorem mapPipeline_equiv {κ} {t₁ t₂ : RawTree} {vote : LevelLoop.Oracle κ} (e : TreeEquiv t₁ t₂)
    (w₁ : WF t₁) (w₂ : WF t₂) (hob : OrderBlind vote)
    (hv₁ : LevelLoop.VoteOK t₁ vote) (hv₂ : LevelLoop.VoteOK t₂ vote)
    (cfg : LevelLoop.Config) (hdrop : cfg.dropLevel = none) (hflat : cfg.flatten = false)
    (ids : List LevelLoop.CellId) (cells : List κ) (order₁ order₂ : List Nat)
    (hlen : ids.length = cells.length) (hnd : ids.Nodup)
    (hproc : 1 ≤ cfg.nProc) (hcs : 1 ≤ cfg.chunkSize)
    (ho₁ : order₁.Perm (List.range (LevelLoop.chunks cells.length
      (LevelLoop.effChunk cells.length cfg.nProc cfg.chunkSize)).length))
    (ho₂ : order₂.Perm (List.range (LevelLoop.chunks cells.length
      (LevelLoop.effChunk cells.length cfg.nProc cfg.chunkSize)).length)) :
    LevelLoop.mapPipeline t₁ cfg vote ids cells order₁ =
      LevelLoop.mapPipeline t₂ cfg vote ids cells order₂ := by
  have hrun : ∀ t, LevelLoop.runTree t cfg = .ok t := fun t => by
    rw [LevelLoop.runTree_none hdrop, hflat]; rfl
  rw [LevelLoop.mapPipeline_cells (hrun t₁) (WF_wfb w₁) hv₁ hlen hnd hproc hcs ho₁,
    LevelLoop.mapPipeline_cells (hrun t₂) (WF_wfb w₂) hv₂ hlen hnd hproc hcs ho₂,
    cellResult_equiv e w₁ w₂ hob hv₁ hv₂]

/-! ### flatten = build from the leaf column (tree model only; used for C17's flatten clause)

`flatten()` of the taxonomy built from the label columns IS (equal, not only
`TreeEquiv`) the one-level taxonomy built from the leaf column alone: the leaf
level's dict is filled by `tree[leaf_column][leaf].append(i_row)` whatever the
other columns are. -/

/-- the leaf column of the accumulator only depends on the leaf labels -/
theorem go_leaf_col {cols : List Level} (hc : cols.Nodup) {leaf : Level}
    (hl : cols.getLast? = some leaf) (recs : List (List Node)) (hr : RecsOK cols recs)
    {acc acc' : List (Level × LevelMap)} (i : Nat) (hk : acc.map (·.1) = cols)
    (hk' : acc'.map (·.1) = [leaf]) (h : col acc leaf = col acc' leaf) :
    col (fromRecordsRaw.go cols acc i recs) leaf =
      col (fromRecordsRaw.go [leaf] acc' i (recs.map (fun r => [r.getLastD 0]))) leaf := by
  induction recs generalizing acc acc' i with
  | nil => exact h
  | cons r rs ih =>
    have hrl : r.length = cols.length := hr r List.mem_cons_self
    have hrne : r ≠ [] := by
      rintro rfl
      rw [List.eq_nil_of_length_eq_zero hrl.symm] at hl
      cases hl
    have hf : r.getLast? = some (r.getLastD 0) := by
      rw [List.getLastD_eq_getLast?, List.getLast?_eq_some_getLast hrne]
      rfl
    rw [List.map_cons, fromRecordsRaw.go, fromRecordsRaw.go]
    refine ih (fun r' h' => hr r' (List.mem_cons_of_mem _ h')) (i+1) (by rw [addRecord_keys, hk])
      (by rw [addRecord_keys, hk']) ?_
    rw [addRecord_col_leaf hc hk hrl i hl hf,
      addRecord_col_leaf (r := [r.getLastD 0]) (l := leaf) (leaf := r.getLastD 0)
        (List.pairwise_singleton _ leaf) hk' rfl i rfl rfl, h]

theorem filter_not_mem_init (ks : List Level) (leaf : Level) (L : List (Level × LevelMap))
    (hL : L.map (·.1) = ks ++ [leaf]) (hnd : (ks ++ [leaf]).Nodup) :
    L.filter (fun kv => !(ks.contains kv.1)) = [(leaf, col L leaf)] := by
  obtain ⟨L₁, L₂, rfl, h₁, h₂⟩ := List.map_eq_append_iff.1 hL
  obtain ⟨⟨k, v⟩, rfl, hk⟩ := List.map_eq_singleton_iff.1 h₂
  obtain rfl : leaf = k := hk.symm
  have hlk : col (L₁ ++ [(leaf, v)]) leaf = v := by
    unfold col
    rw [ListAux.lookup_of_mem_nodup (hL ▸ hnd) (List.mem_append_right _ (List.mem_singleton_self _))]
    rfl
  have hleaf : leaf ∉ ks := fun h => (List.nodup_append.1 hnd).2.2 _ h _ (List.mem_singleton_self _) rfl
  rw [hlk, List.filter_append, List.filter_eq_nil_iff.2, List.nil_append, List.filter_cons_of_pos,
    List.filter_nil]
  · simpa using hleaf
  · intro kv hkv
    have : kv.1 ∈ ks := h₁ ▸ List.mem_map_of_mem hkv
    simpa using this

theorem eq_singleton_of_keys {leaf : Level} {L : List (Level × LevelMap)}
    (h : L.map (·.1) = [leaf]) : L = [(leaf, col L leaf)] := by
  obtain ⟨⟨k, v⟩, rfl, hk⟩ := List.map_eq_singleton_iff.1 h
  obtain rfl : leaf = k := hk.symm
  simp [col, List.lookup]

theorem flatten_fromRecords_eq {cols : List Level} {recs : List (List Node)} (hc : cols.Nodup)
    (hne : cols ≠ []) (hr : RecsOK cols recs) :
    (fromRecordsRaw cols recs).flatten =
      fromRecordsRaw [cols.getLast hne] (recs.map (fun r => [r.getLastD 0])) := by
  have hl : cols.getLast? = some (cols.getLast hne) := List.getLast?_eq_some_getLast hne
  have hll : (fromRecordsRaw cols recs).leafLevel = some (cols.getLast hne) := hl
  have hsplit : cols.dropLast ++ [cols.getLast hne] = cols := List.dropLast_concat_getLast hne
  -- both level lists are the single binding of the leaf column
  have h1 := filter_not_mem_init cols.dropLast (cols.getLast hne) (fromRecordsRaw cols recs).levels
    (by rw [fromRecordsRaw_keys, hsplit]) (by rw [hsplit]; exact hc)
  have h2 := eq_singleton_of_keys
    (fromRecordsRaw_keys [cols.getLast hne] (recs.map (fun r => [r.getLastD 0])))
  have hcol : col (fromRecordsRaw cols recs).levels (cols.getLast hne) =
      col (fromRecordsRaw [cols.getLast hne] (recs.map (fun r => [r.getLastD 0]))).levels
        (cols.getLast hne) :=
    go_leaf_col hc hl recs hr 0 (acc := cols.map (fun c => (c, []))) (acc' := [(cols.getLast hne, [])])
      (by simp [Function.comp_def]) rfl ((col_init cols _).trans (col_init [cols.getLast hne] _).symm)
  rw [flatten_eq hll, fromRecordsRaw_hierarchy, h1, hcol, ← h2]
  rfl

/-! ### for the non-vacuity examples: an order-blind oracle, `RecsOK` and `Nested` decided, the example
taxonomy is accepted -/

/-- an order-blind oracle for non-vacuity examples: the smallest child -/
def minVote : LevelLoop.Oracle Nat := fun _ kids _ =>
  { assignment := (kids.map (·.1)).foldl min ((kids.map (·.1)).headD 0), prob := 1, corr := none,
    runnersUp := none }

theorem minVote_child : VoteChild minVote := by
  intro p kl c hk
  refine (ListAux.foldl_min_headD ?_).1
  intro h
  rw [← List.length_map (·.1), h] at hk
  cases hk

theorem minVote_orderBlind : OrderBlind minVote := by
  intro p a b c _ hke
  have hperm := hke.1
  simp only [minVote]
  congr 1
  by_cases ha : a.map (·.1) = []
  · rw [ha] at hperm ⊢
    rw [List.nil_perm.mp hperm]
  · -- the minimum of a list does not depend on its order
    have hb : b.map (·.1) ≠ [] := fun h => ha (List.perm_nil.mp (h ▸ hperm))
    obtain ⟨ma, la⟩ := ListAux.foldl_min_headD ha
    obtain ⟨mb, lb⟩ := ListAux.foldl_min_headD hb
    exact Nat.le_antisymm (la _ (hperm.mem_iff.mpr mb)) (lb _ (hperm.mem_iff.mp ma))

instance (cols : List Level) (recs : List (List Node)) : Decidable (RecsOK cols recs) :=
  inferInstanceAs (Decidable (∀ r, r ∈ recs → r.length = cols.length))

instance (cols : List Level) (recs : List (List Node)) : Decidable (Nested cols recs) :=
  decidable_of_iff (∀ j, j < cols.length - 1 → ∀ r ∈ recs, ∀ r' ∈ recs,
      r[j+1]? = r'[j+1]? → r[j]? = r'[j]?)
    (forall_congr' fun _ => by rw [Nat.lt_sub_iff_add_lt])

/-- the example taxonomy of the C01/C06/C17 non-vacuity examples is validator-accepted -/
theorem exTree_accepted : LevelLoop.exTree.validate = .ok () ∧ DictOK LevelLoop.exTree :=
  ⟨by decide +kernel, dictOK_of_b (by decide +kernel)⟩

end CTM.Bridge
