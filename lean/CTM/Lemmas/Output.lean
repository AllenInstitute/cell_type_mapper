/-
  Lemmas for C15 (output serialisers).

  The HDF5 round trip: `encLevel` succeeding gives `Slot.Encodes`, under which `decLevel` returns
  `normLevel` of the level record; `ListAux.mapM_ok_redo` lifts this through the loops over levels and
  cells to `normRecord` and `normBlob`, for any blob `blob_to_hdf5` accepts (`ofH5_toH5_norm`); under
  `outInv` every step succeeds and the normal form is the blob itself (`levelOK_encLevel`,
  `levelsOK_encCell`, `ofH5_toH5_of_outInv`).
  Then the CSV rows column by column against `cellSpec`, the embedded taxonomy, `re_order_blob`, and
  the substring test that types the CSV columns.
-/
import CTM.Model.Output
import CTM.Lemmas.ListAux

namespace CTM.Output
open CTM.ListAux

/-! ### node ↔ integer tables -/

theorem indexIn_eq (n : NodeId) (nodes : List NodeId) :
    indexIn n nodes = if n ∈ nodes then some (nodes.idxOf n) else none :=
  search_eq_idxOf (indexIn n) n rfl (fun _ _ => ite_congr (propext eq_comm) (fun _ => rfl) fun _ => rfl) nodes

theorem indexIn_of_mem {n : NodeId} {nodes : List NodeId} (h : n ∈ nodes) :
    ∃ i, indexIn n nodes = some i :=
  ⟨_, (indexIn_eq n nodes).trans (if_pos h)⟩

theorem indexIn_get {n : NodeId} {nodes : List NodeId} {i : Nat} (h : indexIn n nodes = some i) :
    nodes[i]? = some n := by
  rw [indexIn_eq] at h
  split at h
  · cases h
    rw [List.getElem?_eq_getElem (List.idxOf_lt_length_of_mem ‹_›), List.getElem_idxOf]
  · cases h

theorem pyIndex_natCast {α} {l : List α} {i : Nat} {a : α} (h : l[i]? = some a) :
    pyIndex l (i : Int) = .ok a := by
  unfold pyIndex
  have h1 : ¬ ((i : Int) < 0) := by omega
  simp [h1, h]

/-! ### `None` → `NaN` (`Num.toFloat`) -/

theorem numOK_toFloat {x : Num} (h : numOK x = true) : x.toFloat = x := by
  cases x <;> first | rfl | cases h

theorem toFloat_ne_null (x : Num) : x.toFloat ≠ .null := by
  cases x <;> nofun

theorem map_toFloat_of_all {xs : List Num} (h : xs.all numOK = true) :
    xs.map Num.toFloat = xs := by
  induction xs with
  | nil => rfl
  | cons x xs ih =>
    simp only [List.all_cons, Bool.and_eq_true] at h
    simp [numOK_toFloat h.1, ih h.2]

/-! ### runner-up rows: pad with −1 / 0, read back up to the first negative entry -/

theorem decRunners_replicate (nodes : List NodeId) (room : Nat) :
    decRunners nodes (List.replicate room (-1)) (List.replicate room (.val 0))
      (List.replicate room (.val 0)) = .ok ([], [], []) := by
  cases room with
  | zero => simp [decRunners]
  | succ k => simp [List.replicate_succ, decRunners]

theorem encRunners_ok (nodes : List NodeId) (b : Bool) :
    ∀ (ra : List NodeId) (room : Nat) (rp rc : List Num) (a : List Int) (p c : List Num),
      encRunners nodes b room ra rp rc = .ok (a, p, c) →
      (a.length = room ∧ p.length = room ∧ c.length = room) ∧
      (ra.length ≤ room ∧ ra.length ≤ rp.length ∧ ra.length ≤ rc.length) ∧
      decRunners nodes a p c =
        .ok (ra, (rp.take ra.length).map Num.toFloat, (rc.take ra.length).map Num.toFloat) := by
  intro ra
  induction ra with
  | nil =>
    intro room rp rc a p c h
    simp only [encRunners, Except.ok.injEq, Prod.mk.injEq] at h
    obtain ⟨rfl, rfl, rfl⟩ := h
    simp [decRunners_replicate]
  | cons n ns ih =>
    intro room rp rc a p c h
    unfold encRunners at h
    split at h
    · cases h
    · rename_i idx hidx
      split at h
      · cases h
      · split at h
        · cases h
        · split at h
          · split at h
            · cases h
            · rename_i hr
              cases h
              obtain ⟨⟨h1, h2, h3⟩, ⟨g1, g2, g3⟩, hd⟩ := ih _ _ _ _ _ _ hr
              have h0 : ¬ ((idx : Int) < 0) := by omega
              simp [h1, h2, h3, g1, g2, g3, decRunners, h0, pyIndex_natCast (indexIn_get hidx), hd]
          · cases h

/-! ### one `(cell, level)` -/

/-- the slot `encLevel` writes for a level without runner-up nodes -/
def padSlot (i : Nat) (prob corr agg : Num) (nR : Nat) : Slot :=
  { asg := i, prob := prob.toFloat, corr := corr.toFloat, agg := agg.toFloat,
    rAsg := List.replicate nR (-1), rProb := List.replicate nR (.val 0),
    rCorr := List.replicate nR (.val 0) }

def Slot.width (s : Slot) (nR : Nat) : Prop :=
  s.rAsg.length = nR ∧ s.rProb.length = nR ∧ s.rCorr.length = nR

/-- runner-up lists as `hdf5_to_blob` builds them: all three present with
equal length on a directly assigned level, all three absent otherwise -/
def LevelRec.runnerShape (lr : LevelRec) (width : Nat) : Prop :=
  (lr.direct = true → ∃ ra rp rc, lr.runAsg = some ra ∧ lr.runProb = some rp ∧
      lr.runCorr = some rc ∧ ra.length = rp.length ∧ ra.length = rc.length ∧ ra.length ≤ width) ∧
  (lr.direct = false → lr.runAsg = none ∧ lr.runProb = none ∧ lr.runCorr = none)

/-- the level record `hdf5_to_blob` returns for one that `blob_to_hdf5` accepted: `None` has become
`NaN`, the flag is the level's, and the runner-up lists are present exactly on a directly assigned
level, cut to the number of runner-up nodes -/
def normLevel (flag : Bool) (lr : LevelRec) : LevelRec :=
  let k := (lr.runAsg.getD []).length
  { assignment := lr.assignment, prob := lr.prob.toFloat, corr := lr.corr.toFloat,
    agg := lr.agg.toFloat, direct := flag,
    runAsg := if flag then some (lr.runAsg.getD []) else none,
    runProb := if flag then some (((lr.runProb.getD []).take k).map Num.toFloat) else none,
    runCorr := if flag then some (((lr.runCorr.getD []).take k).map Num.toFloat) else none }

/-- `s` is a slot `blob_to_hdf5` writes for `lr`: all that `hdf5_to_blob` and the shape of the file
depend on, so that neither has to look into `encLevel` again; `fits` is why no runner-up node is
lost on the way back -/
structure Slot.Encodes (nodes : List NodeId) (nR : Nat) (lr : LevelRec) (s : Slot) : Prop where
  asg : pyIndex nodes s.asg = .ok lr.assignment
  prob : s.prob = lr.prob.toFloat
  corr : s.corr = lr.corr.toFloat
  agg : s.agg = lr.agg.toFloat
  width : s.width nR
  fits : (lr.runAsg.getD []).length ≤ nR ∧
    (lr.runAsg.getD []).length ≤ (lr.runProb.getD []).length ∧
    (lr.runAsg.getD []).length ≤ (lr.runCorr.getD []).length
  runners : decRunners nodes s.rAsg s.rProb s.rCorr = .ok (lr.runAsg.getD [],
    ((lr.runProb.getD []).take (lr.runAsg.getD []).length).map Num.toFloat,
    ((lr.runCorr.getD []).take (lr.runAsg.getD []).length).map Num.toFloat)

theorem encLevel_encodes {nodes : List NodeId} {nR : Nat} {lr : LevelRec} {s : Slot}
    (h : encLevel nodes nR lr = .ok s) : s.Encodes nodes nR lr := by
  have pad : ∀ {i : Nat}, indexIn lr.assignment nodes = some i → lr.runAsg.getD [] = [] →
      Slot.Encodes nodes nR lr (padSlot i lr.prob lr.corr lr.agg nR) := fun hi h0 =>
    ⟨pyIndex_natCast (indexIn_get hi), rfl, rfl, rfl, by simp [Slot.width, padSlot],
      by simp [h0], by simp [h0, padSlot, decRunners_replicate]⟩
  unfold encLevel at h
  split at h
  · cases h
  · rename_i i hi
    split at h
    · rename_i h0
      cases h; exact pad hi (by rw [h0]; rfl)
    · rename_i ra h0
      split at h
      · cases h; exact pad hi (by rw [h0]; rfl)
      · rename_i rp rc hp hc
        split at h
        · cases h
        · rename_i a p c he
          cases h
          obtain ⟨⟨w1, w2, w3⟩, f, hd⟩ := encRunners_ok _ _ _ _ _ _ _ _ _ he
          exact ⟨pyIndex_natCast (indexIn_get hi), rfl, rfl, rfl, ⟨w1, w2, w3⟩,
            by simpa [h0, hp, hc] using f, by simpa [h0, hp, hc] using hd⟩
      -- the remaining branches of `encLevel` all raise
      · split at h
        · cases h
        · split at h
          · cases h
          · split at h
            · cases h
            · cases h
            · split at h <;> cases h

theorem Slot.Encodes.decLevel_eq {nodes : List NodeId} {nR : Nat} {lr : LevelRec} {s : Slot}
    (h : s.Encodes nodes nR lr) {i2n : List (Lvl × List NodeId)} {l : Lvl}
    (hl : i2n.lookup l = some nodes) (flag : Bool) :
    decLevel i2n (decide (nR > 0)) l flag s = .ok (l, normLevel flag lr) := by
  unfold decLevel
  simp only [hl, h.asg, h.prob, h.corr, h.agg]
  cases flag with
  | false => rfl
  | true =>
    by_cases hn : nR > 0
    · simp only [hn, decide_true, if_true, h.runners]; rfl
    · have h0 : lr.runAsg.getD [] = [] := List.eq_nil_of_length_eq_zero (by have := h.fits.1; omega)
      simp [hn, normLevel, h0]

theorem Slot.Encodes.shape {nodes : List NodeId} {nR : Nat} {lr : LevelRec} {s : Slot}
    (h : s.Encodes nodes nR lr) (flag : Bool) : (normLevel flag lr).runnerShape nR := by
  obtain ⟨f1, f2, f3⟩ := h.fits
  cases flag with
  | false => exact ⟨nofun, fun _ => ⟨rfl, rfl, rfl⟩⟩
  | true =>
    exact ⟨fun _ => ⟨_, _, _, rfl, rfl, rfl, by simp [f2], by simp [f3], f1⟩, nofun⟩

/-! ### the loops over levels and cells are `mapM`s -/

/-- one `(cell, level)` of `encCell` -/
def encAt (t : Tree) (nR : Nat) (r : Record) (l : Lvl) : Except Err Slot :=
  match r.levels.lookup l with
  | none => .error .keyError
  | some lr =>
    match t.nodesAt l with
    | none => .error .keyError
    | some nodes => encLevel nodes nR lr

theorem encAt_ok {t : Tree} {nR : Nat} {r : Record} {l : Lvl} {s : Slot}
    (h : encAt t nR r l = .ok s) : ∃ lr nodes, r.levels.lookup l = some lr ∧
      t.nodesAt l = some nodes ∧ encLevel nodes nR lr = .ok s := by
  unfold encAt at h
  split at h
  · cases h
  · split at h
    · cases h
    · exact ⟨_, _, by assumption, by assumption, h⟩

theorem encCell_eq_mapM (t : Tree) (nR : Nat) (r : Record) : ∀ ls,
    encCell t nR r ls = ls.mapM (encAt t nR r) :=
  loop_eq_mapM (encCell t nR r) rfl fun l ls => by
    rw [encCell, encAt]
    cases r.levels.lookup l with
    | none => rfl
    | some lr =>
      cases t.nodesAt l with
      | none => rfl
      | some nodes => dsimp only; cases encLevel nodes nR lr <;> cases encCell t nR r ls <;> rfl

theorem encCells_eq_mapM (t : Tree) (nR : Nat) : ∀ rs,
    encCells t nR rs = rs.mapM (fun r => encCell t nR r t.hierarchy) :=
  loop_eq_mapM (encCells t nR) rfl fun r rs => by
    rw [encCells]; cases encCell t nR r t.hierarchy <;> cases encCells t nR rs <;> rfl

theorem decCell_eq_mapM (i2n : List (Lvl × List NodeId)) (hasR : Bool) : ∀ input,
    decCell i2n hasR input = input.mapM (fun x => decLevel i2n hasR x.1 x.2.1 x.2.2) :=
  loop_eq_mapM (decCell i2n hasR) rfl fun (l, d, s) rest => by
    rw [decCell]; cases decLevel i2n hasR l d s <;> cases decCell i2n hasR rest <;> rfl

/-- one cell of `decCells` -/
def decRow (hier : List Lvl) (flags : List Bool) (i2n : List (Lvl × List NodeId)) (hasR : Bool)
    (x : StrId × List Slot) : Except Err Record :=
  match decCell i2n hasR (hier.zip (flags.zip x.2)) with
  | .error e => .error e
  | .ok levels => .ok { cellId := x.1, levels := levels }

theorem decCells_eq_mapM (hier : List Lvl) (flags : List Bool) (i2n : List (Lvl × List NodeId))
    (hasR : Bool) : ∀ input,
    decCells hier flags i2n hasR input = input.mapM (decRow hier flags i2n hasR) :=
  loop_eq_mapM (decCells hier flags i2n hasR) rfl fun (cid, row) rest => by
    rw [decCells, decRow]
    cases decCell i2n hasR (hier.zip (flags.zip row)) <;> cases decCells hier flags i2n hasR rest <;> rfl

/-! ### the round trip of one cell and of all cells -/

/-- the flag of a level = the flag of the first record at that level -/
def flagOf (first : Record) (l : Lvl) : Bool :=
  ((first.levels.lookup l).map (·.direct)).getD false

def nodesOf (t : Tree) (l : Lvl) : List NodeId := (t.nodesAt l).getD []

/-- the record `hdf5_to_blob` returns for one that `blob_to_hdf5` accepted -/
def normRecord (first : Record) (hier : List Lvl) (r : Record) : Record :=
  { cellId := r.cellId,
    levels := hier.map fun l => (l, normLevel (flagOf first l) ((r.levels.lookup l).getD default)) }

theorem decCell_encCell {t : Tree} {nR : Nat} {r first : Record} {i2n : List (Lvl × List NodeId)}
    {ls : List Lvl} {slots : List Slot} (hi : ∀ l ∈ ls, i2n.lookup l = some (nodesOf t l))
    (he : encCell t nR r ls = .ok slots) :
    decCell i2n (decide (nR > 0)) (ls.zip ((ls.map (flagOf first)).zip slots)) =
      .ok (normRecord first ls r).levels := by
  rw [encCell_eq_mapM] at he
  rw [decCell_eq_mapM, zip_map_zip]
  refine mapM_ok_redo he fun l hl s hs => ?_
  obtain ⟨lr, nodes, hlr, hn, hs⟩ := encAt_ok hs
  rw [hlr]
  exact (encLevel_encodes hs).decLevel_eq ((hi l hl).trans (by rw [nodesOf, hn]; rfl)) _

theorem decCells_encCells {t : Tree} {nR : Nat} {first : Record} {i2n : List (Lvl × List NodeId)}
    (hi : ∀ l ∈ t.hierarchy, i2n.lookup l = some (nodesOf t l)) {rs : List Record}
    {slots : List (List Slot)} (he : encCells t nR rs = .ok slots) :
    decCells t.hierarchy (t.hierarchy.map (flagOf first)) i2n (decide (nR > 0))
      ((rs.map (·.cellId)).zip slots) = .ok (rs.map (normRecord first t.hierarchy)) := by
  rw [encCells_eq_mapM] at he
  rw [decCells_eq_mapM, List.zip_eq_zipWith, List.zipWith_map_left]
  refine mapM_ok_redo he fun r _ row hrow => ?_
  simp only [decRow, decCell_encCell hi hrow]
  rfl

theorem encCells_shape {t : Tree} {nR : Nat} {rs : List Record} {rows : List (List Slot)}
    (h : encCells t nR rs = .ok rows) :
    rows.length = rs.length ∧
      ∀ row ∈ rows, row.length = t.hierarchy.length ∧ ∀ s ∈ row, s.width nR := by
  rw [encCells_eq_mapM] at h
  refine ⟨mapM_ok_length h, fun row hrow => ?_⟩
  obtain ⟨r, _, hr⟩ := mapM_ok_of_mem_output h hrow
  rw [encCell_eq_mapM] at hr
  refine ⟨mapM_ok_length hr, fun s hs => ?_⟩
  obtain ⟨l, _, hs⟩ := mapM_ok_of_mem_output hr hs
  obtain ⟨_, _, _, _, hs⟩ := encAt_ok hs
  exact (encLevel_encodes hs).width

/-! ### the first loop of `blob_to_hdf5` (`firstFlags`) -/

theorem firstFlags_eq {t : Tree} {first : Record} : ∀ (ls : List Lvl),
    firstFlags t first ls =
      if ls.all (fun l => (first.levels.lookup l).isSome && (t.nodesAt l).isSome) then
        .ok (ls.map fun l => (flagOf first l, l, nodesOf t l))
      else .error .keyError
  | [] => rfl
  | l :: ls => by
    rw [firstFlags, firstFlags_eq ls, List.all_cons]
    cases hf : first.levels.lookup l with
    | none => rfl
    | some f =>
      cases hn : t.nodesAt l with
      | none => rfl
      | some nodes => cases ls.all _ <;> simp [flagOf, nodesOf, hf, hn]

/-! ### the file: struct of arrays ↔ array of structs -/

/-- `s` with other runner-up rows -/
def reSlot (s : Slot) (ra : List Int) (rp rc : List Num) : Slot :=
  { asg := s.asg, prob := s.prob, corr := s.corr, agg := s.agg, rAsg := ra, rProb := rp, rCorr := rc }

theorem slotRow_maps (row : List Slot) (fa : Slot → List Int) (fp fc : Slot → List Num) :
    slotRow (row.map (·.asg)) (row.map (·.prob)) (row.map (·.corr)) (row.map (·.agg))
      (row.map fa) (row.map fp) (row.map fc) =
    row.map (fun s => reSlot s (fa s) (fp s) (fc s)) := by
  simp [slotRow, List.zip_map', List.map_map, Function.comp_def, reSlot]

theorem rows_maps (slots : List (List Slot)) (fa : Slot → List Int) (fp fc : Slot → List Num) :
    ((slots.map (·.map (·.asg))).zip ((slots.map (·.map (·.prob))).zip
      ((slots.map (·.map (·.corr))).zip ((slots.map (·.map (·.agg))).zip
      ((slots.map (·.map fa)).zip ((slots.map (·.map fp)).zip (slots.map (·.map fc)))))))).map
      (fun (a, p, c, g, ra, rp, rc) => slotRow a p c g ra rp rc) =
    slots.map (fun row => row.map (fun s => reSlot s (fa s) (fp s) (fc s))) := by
  simp [List.zip_map', List.map_map, Function.comp_def, slotRow_maps]

/-- the file `blob_to_hdf5` writes, given the slots of all cells and levels -/
def H5.ofSlots (b : Blob) (slots : List (List Slot)) : H5 :=
  { tree := b.tree, nRunners := b.nRunners,
    directlyAssigned := b.tree.hierarchy.map (flagOf (b.results.headD default)),
    intToNode := b.tree.hierarchy.map fun l => (l, nodesOf b.tree l),
    cellId := b.results.map (·.cellId),
    assignment := slots.map (·.map (·.asg)), prob := slots.map (·.map (·.prob)),
    agg := slots.map (·.map (·.agg)), corr := slots.map (·.map (·.corr)),
    runners := if b.nRunners > 0 then
        some { asg := slots.map (·.map (·.rAsg)), prob := slots.map (·.map (·.rProb)),
               corr := slots.map (·.map (·.rCorr)) }
      else none }

theorem toH5_ok {b : Blob} {h : H5} (hh : toH5 b = .ok h) :
    ∃ slots, encCells b.tree b.nRunners b.results = .ok slots ∧ h = H5.ofSlots b slots := by
  unfold toH5 at hh
  split at hh
  · rename_i hr
    split at hh
    · rename_i hhier
      cases hh
      exact ⟨[], by rw [hr, encCells], by simp [H5.ofSlots, hr, hhier]⟩
    · cases hh
  · rename_i first rest hr
    split at hh
    · cases hh
    · rename_i flags hff
      rw [firstFlags_eq] at hff
      split at hff
      · cases hff
        split at hh
        · cases hh
        · rename_i he
          cases hh
          refine ⟨_, he, ?_⟩
          simp only [H5.ofSlots, hr, List.headD_cons, List.map_map]
          rfl
      · cases hff

/-- a slot as `hdf5_to_blob` re-assembles it: without runner-up datasets its rows are empty -/
def Slot.seen (nR : Nat) (s : Slot) : Slot := if nR > 0 then s else reSlot s [] [] []

theorem Slot.seen_of_width {nR : Nat} {s : Slot} (h : s.width nR) : s.seen nR = s := by
  unfold Slot.seen
  split
  · rfl
  · obtain ⟨h1, h2, h3⟩ := h
    have h0 : nR = 0 := by omega
    subst h0
    simp only [List.length_eq_zero_iff] at h1 h2 h3
    cases s
    simp_all [reSlot]

theorem ofH5_ofSlots (b : Blob) (slots : List (List Slot)) :
    ofH5 (H5.ofSlots b slots) =
      match decCells b.tree.hierarchy (b.tree.hierarchy.map (flagOf (b.results.headD default)))
          (b.tree.hierarchy.map fun l => (l, nodesOf b.tree l)) (decide (b.nRunners > 0))
          ((b.results.map (·.cellId)).zip (slots.map (·.map (Slot.seen b.nRunners)))) with
      | .error e => .error e
      | .ok rs => .ok { tree := b.tree, nRunners := b.nRunners, results := rs } := by
  unfold ofH5
  by_cases hn : b.nRunners > 0
  · have hs : Slot.seen b.nRunners = fun s => reSlot s s.rAsg s.rProb s.rCorr :=
      funext fun s => if_pos hn
    simp only [H5.ofSlots, hn, if_true, rows_maps, hs, decide_true]
    rfl
  · have hs : Slot.seen b.nRunners = fun s => reSlot s [] [] [] := funext fun s => if_neg hn
    simp only [H5.ofSlots, hn, if_false, List.map_map, Function.comp_def, rows_maps, hs,
      decide_false]
    rfl

/-! ### the round trip of any accepted blob -/

/-- the blob `hdf5_to_blob` returns for one that `blob_to_hdf5` accepted -/
def normBlob (b : Blob) : Blob :=
  { b with results := b.results.map (normRecord (b.results.headD default) b.tree.hierarchy) }

theorem ofH5_toH5_norm {b : Blob} {h : H5} (hh : toH5 b = .ok h) : ofH5 h = .ok (normBlob b) := by
  obtain ⟨slots, hes, rfl⟩ := toH5_ok hh
  -- rows of the fixed width are read back as they were written
  have hseen : slots.map (·.map (Slot.seen b.nRunners)) = slots :=
    (List.map_congr_left fun row hrow => (List.map_congr_left fun s hs =>
      Slot.seen_of_width (((encCells_shape hes).2 row hrow).2 s hs)).trans (List.map_id _)).trans
      (List.map_id _)
  rw [ofH5_ofSlots, hseen,
    decCells_encCells (fun l hl => lookup_map_self (nodesOf b.tree) hl) hes]
  rfl

theorem ofH5_toH5_level {b b' : Blob} {h : H5} (h1 : toH5 b = .ok h) (h2 : ofH5 h = .ok b') :
    ∀ r ∈ b'.results, ∀ e ∈ r.levels, ∃ flag lr nodes s,
      Slot.Encodes nodes b.nRunners lr s ∧ e.2 = normLevel flag lr := by
  obtain ⟨slots, hes, _⟩ := toH5_ok h1
  cases (ofH5_toH5_norm h1).symm.trans h2
  intro r hr e he
  obtain ⟨r0, hr0, rfl⟩ := List.mem_map.mp hr
  obtain ⟨l, hl, rfl⟩ := List.mem_map.mp he
  rw [encCells_eq_mapM] at hes
  obtain ⟨row, hrow⟩ := mapM_ok_of_mem_input hes hr0
  rw [encCell_eq_mapM] at hrow
  obtain ⟨s, hs⟩ := mapM_ok_of_mem_input hrow hl
  obtain ⟨lr, nodes, hlr, _, hs⟩ := encAt_ok hs
  exact ⟨_, lr, nodes, s, encLevel_encodes hs, by rw [hlr]; rfl⟩

theorem ofH5_toH5_flags {b b' : Blob} {h : H5} (h1 : toH5 b = .ok h) (h2 : ofH5 h = .ok b') :
    ∀ r ∈ b'.results, r.levels.map (fun e => (e.1, e.2.direct)) =
      b.tree.hierarchy.map fun l => (l, flagOf (b.results.headD default) l) := by
  cases (ofH5_toH5_norm h1).symm.trans h2
  intro r hr
  obtain ⟨r0, _, rfl⟩ := List.mem_map.mp hr
  simp [normRecord, normLevel]

/-! ### under `outInv` every step succeeds (the converses of `encRunners_ok`, `encLevel_encodes`)
and the normal form is the blob itself -/

theorem nodupB_iff : ∀ {xs : List Nat}, nodupB xs = true ↔ xs.Nodup
  | [] => by simp [nodupB]
  | x :: xs => by simp [nodupB, nodupB_iff (xs := xs)]

theorem levelsOK_iff {t : Tree} {nR : Nat} {first : Record} : ∀ {es : List (Lvl × LevelRec)},
    levelsOK t nR first es = true ↔
      ∀ e ∈ es, ∃ nodes f, t.nodesAt e.1 = some nodes ∧ first.levels.lookup e.1 = some f ∧
        levelOK nodes nR f.direct e.2 = true
  | [] => by simp [levelsOK]
  | (l, lr) :: rest => by
    rw [levelsOK, Bool.and_eq_true, levelsOK_iff (es := rest), List.forall_mem_cons]
    refine and_congr_left' ?_
    cases t.nodesAt l <;> cases first.levels.lookup l <;> simp

theorem outInv_iff {b : Blob} : outInv b = true ↔
    ∃ first rest, b.results = first :: rest ∧ b.tree.hierarchy.Nodup ∧
      ∀ r ∈ b.results, r.levels.map (·.1) = b.tree.hierarchy ∧
        levelsOK b.tree b.nRunners first r.levels = true := by
  unfold outInv
  cases b.results with
  | nil => simp
  | cons first rest => simp [nodupB_iff]

theorem encRunners_succeeds (nodes : List NodeId) :
    ∀ (ra : List NodeId) (room : Nat) (rp rc : List Num),
      ra.length ≤ rp.length → ra.length ≤ rc.length → ra.length ≤ room → (∀ n ∈ ra, n ∈ nodes) →
      ∃ x, encRunners nodes true room ra rp rc = .ok x
  | [], _, _, _, _, _, _, _ => by simp [encRunners]
  | _ :: _, 0, _, _, _, _, h3, _ => absurd h3 (Nat.not_succ_le_zero _)
  | _ :: _, _ + 1, [], _, h1, _, _, _ => absurd h1 (Nat.not_succ_le_zero _)
  | _ :: _, _ + 1, _ :: _, [], _, h2, _, _ => absurd h2 (Nat.not_succ_le_zero _)
  | n :: ns, room + 1, p :: ps, c :: cs, h1, h2, h3, hmem => by
    obtain ⟨i, hi⟩ := indexIn_of_mem (hmem n List.mem_cons_self)
    obtain ⟨x, hx⟩ := encRunners_succeeds nodes ns room ps cs (Nat.le_of_succ_le_succ h1)
      (Nat.le_of_succ_le_succ h2) (Nat.le_of_succ_le_succ h3) fun m hm =>
        hmem m (List.mem_cons_of_mem _ hm)
    simp [encRunners, hi, hx]

theorem levelOK_encLevel {nodes : List NodeId} {nR : Nat} {flag : Bool} {lr : LevelRec}
    (hok : levelOK nodes nR flag lr = true) :
    (∃ s, encLevel nodes nR lr = .ok s) ∧ normLevel flag lr = lr := by
  obtain ⟨asg, prob, corr, agg, direct, ra, rp, rc⟩ := lr
  simp only [levelOK, Bool.and_eq_true, beq_iff_eq, List.contains_eq_mem, decide_eq_true_eq] at hok
  obtain ⟨⟨⟨⟨⟨hmem, rfl⟩, hp⟩, hc⟩, hg⟩, hrun⟩ := hok
  obtain ⟨i, hi⟩ := indexIn_of_mem hmem
  cases direct with
  | false =>
    simp only [Bool.false_eq_true, if_false, Bool.and_eq_true, Option.isNone_iff_eq_none] at hrun
    obtain ⟨⟨rfl, rfl⟩, rfl⟩ := hrun
    exact ⟨by simp [encLevel, hi],
      by simp [normLevel, numOK_toFloat hp, numOK_toFloat hc, numOK_toFloat hg]⟩
  | true =>
    simp only [if_true] at hrun
    split at hrun
    · simp only [Bool.and_eq_true, beq_iff_eq, decide_eq_true_eq, List.all_eq_true,
        List.contains_eq_mem] at hrun
      obtain ⟨⟨⟨⟨⟨h1, h2⟩, h3⟩, h4⟩, h5⟩, h6⟩ := hrun
      rename_i ra rp rc
      refine ⟨?_, by simp [normLevel, numOK_toFloat hp, numOK_toFloat hc, numOK_toFloat hg,
        List.take_of_length_le (Nat.le_of_eq h1.symm), List.take_of_length_le (Nat.le_of_eq h2.symm),
        map_toFloat_of_all (List.all_eq_true.mpr h5), map_toFloat_of_all (List.all_eq_true.mpr h6)]⟩
      cases ra with
      | nil => simp [encLevel, hi]
      | cons n ns =>
        have hn : nR > 0 := by simp at h3; omega
        obtain ⟨x, hx⟩ := encRunners_succeeds nodes (n :: ns) nR rp rc (Nat.le_of_eq h1)
          (Nat.le_of_eq h2) h3 fun m hm => by simpa using h4 m hm
        simp [encLevel, hi, hn, hx]
    · cases hrun

theorem levelsOK_encCell {t : Tree} {nR : Nat} {first r : Record} (hnd : t.hierarchy.Nodup)
    (hkeys : r.levels.map (·.1) = t.hierarchy) (hok : levelsOK t nR first r.levels = true) :
    (∃ row, encCell t nR r t.hierarchy = .ok row) ∧ normRecord first t.hierarchy r = r := by
  have key : ∀ e ∈ r.levels, (∃ s, encAt t nR r e.1 = .ok s) ∧
      normLevel (flagOf first e.1) ((r.levels.lookup e.1).getD default) = e.2 := fun e he => by
    obtain ⟨nodes, f, hn, hf, hl⟩ := levelsOK_iff.mp hok e he
    have hfl : flagOf first e.1 = f.direct := by rw [flagOf, hf]; rfl
    rw [encAt, lookup_of_mem_nodup (hkeys ▸ hnd) he, hn, hfl]
    exact levelOK_encLevel hl
  constructor
  · rw [encCell_eq_mapM, ← hkeys]
    exact mapM_ok_of_forall fun l hl => by
      obtain ⟨e, he, rfl⟩ := List.mem_map.mp hl
      exact (key e he).1
  · obtain ⟨cid, levels⟩ := r
    rw [normRecord, ← hkeys, List.map_map]
    refine congrArg _ ((List.map_congr_left fun e he => ?_).trans (List.map_id _))
    exact Prod.ext rfl (key e he).2

theorem ofH5_toH5_of_outInv (b : Blob) (hinv : outInv b = true) :
    ∃ h, toH5 b = .ok h ∧ ofH5 h = .ok b := by
  obtain ⟨first, rest, hres, hnd, hall⟩ := outInv_iff.mp hinv
  have hrec := fun r hr => levelsOK_encCell (first := first) hnd (hall r hr).1 (hall r hr).2
  obtain ⟨slots, hes⟩ : ∃ slots, encCells b.tree b.nRunners b.results = .ok slots := by
    rw [encCells_eq_mapM]
    exact mapM_ok_of_forall fun r hr => (hrec r hr).1
  have hff : firstFlags b.tree first b.tree.hierarchy =
      .ok (b.tree.hierarchy.map fun l => (flagOf first l, l, nodesOf b.tree l)) := by
    rw [firstFlags_eq, if_pos]
    rw [List.all_eq_true]
    intro l hl
    obtain ⟨_, hrow⟩ := (hrec first (hres ▸ List.mem_cons_self)).1
    rw [encCell_eq_mapM] at hrow
    obtain ⟨s, hs⟩ := mapM_ok_of_mem_input hrow hl
    obtain ⟨_, _, h1, h2, _⟩ := encAt_ok hs
    simp [h1, h2]
  have hnorm : normBlob b = b := by
    obtain ⟨t, nR, results⟩ := b
    subst hres
    exact congrArg _ ((List.map_congr_left fun r hr => (hrec r hr).2).trans (List.map_id _))
  obtain ⟨h, h1⟩ : ∃ h, toH5 b = .ok h := by
    rw [hres] at hes
    simp only [toH5, hres, hff, hes]
    exact ⟨_, rfl⟩
  exact ⟨_, h1, (ofH5_toH5_norm h1).trans (congrArg _ hnorm)⟩

/-! ### CSV rows, column by column

`levelKeys`, `csvKeys` and `cellSpec` are the specification that `C15.csv_rows` is stated against. -/

/-- the columns of one level, before level names are made readable -/
def levelKeys (t : Tree) (l : Lvl) : List (Option (Lvl × ColKind)) :=
  [some (l, .label), some (l, .name)]
    ++ (if some l = t.leafLevel then [some (l, .alias)] else [])
    ++ [some (l, .conf)]

/-- the column keys of the CSV file (`none` = `cell_id`) -/
def csvKeys (t : Tree) : List (Option (Lvl × ColKind)) :=
  none :: t.hierarchy.flatMap (levelKeys t)

/-- what a field must hold, given only its column key and the JSON record:
the label is the assignment, name / alias are the table look-ups (defaulting
to the label), the confidence is the number under the confidence key printed
with `%.4f` (unformatted in a level of `taint`) -/
def cellSpec (t : Tree) (taint : List Lvl) (ck : ConfKey) (r : Record) :
    Option (Lvl × ColKind) → Cell
  | none => .str r.cellId
  | some (l, kind) =>
    match r.levels.lookup l with
    | none => .empty
    | some lr =>
      match kind with
      | .label => .str lr.assignment
      | .name => .str (t.labelToName l lr.assignment .name)
      | .alias => .str (t.labelToName l lr.assignment .alias)
      | .conf => confCell (taint.contains l) (lr.conf ck)

theorem csvColumns_eq (t : Tree) :
    csvColumns t = (csvKeys t).map (Option.map (fun (l, k) => (t.levelToName l, k))) := by
  simp only [csvColumns, csvKeys, List.map_cons, Option.map_none, List.map_flatMap]
  congr 1
  refine flatMap_congr fun l _ => ?_
  by_cases h : some l = t.leafLevel <;> simp [levelKeys, h]

theorem csvLevelCells_eq (t : Tree) (taint : List Lvl) (ck : ConfKey) (r : Record) (l : Lvl)
    (lr : LevelRec) (h : r.levels.lookup l = some lr) :
    csvLevelCells t taint ck l lr = (levelKeys t l).map (cellSpec t taint ck r) := by
  by_cases hl : some l = t.leafLevel <;> simp [csvLevelCells, levelKeys, cellSpec, h, hl]

theorem csvLevels_eq (t : Tree) (taint : List Lvl) (ck : ConfKey) (r : Record) :
    ∀ (ls : List Lvl), (∀ l ∈ ls, (r.levels.lookup l).isSome) →
      csvLevels t taint ck r ls =
        .ok ((ls.flatMap (levelKeys t)).map (cellSpec t taint ck r))
  | [], _ => by simp [csvLevels]
  | l :: ls, h => by
    have ih := csvLevels_eq t taint ck r ls (fun l' hl' => h l' (by simp [hl']))
    cases hl : r.levels.lookup l with
    | none => have := h l (by simp); simp [hl] at this
    | some lr =>
      simp [csvLevels, hl, ih, csvLevelCells_eq t taint ck r l lr hl]

theorem csvRows_eq (t : Tree) (taint : List Lvl) (ck : ConfKey) :
    ∀ (rs : List Record), (∀ r ∈ rs, ∀ l ∈ t.hierarchy, (r.levels.lookup l).isSome) →
      csvRows t taint ck rs = .ok (rs.map (fun r => (csvKeys t).map (cellSpec t taint ck r)))
  | [], _ => by simp [csvRows]
  | r :: rs, h => by
    have ih := csvRows_eq t taint ck rs (fun r' hr' => h r' (by simp [hr']))
    have h1 := csvLevels_eq t taint ck r t.hierarchy (h r (by simp))
    simp [csvRows, csvRow, h1, ih, csvKeys, cellSpec]

/-! ### the CSV of a blob read back from HDF5 -/

theorem confCell_toFloat (tainted : Bool) (x : Num) : confCell tainted x.toFloat = confCell tainted x := by
  cases x <;> rfl

theorem levelKeys_fst (t : Tree) (l : Lvl) : ∀ key ∈ levelKeys t l, key.map (·.1) = some l := by
  by_cases hleaf : some l = t.leafLevel <;> simp [levelKeys, hleaf]

theorem mem_csvKeys {t : Tree} {l : Lvl} {k : ColKind} (h : some (l, k) ∈ csvKeys t) :
    l ∈ t.hierarchy := by
  obtain ⟨l', hl', hk⟩ := List.mem_flatMap.mp ((List.mem_cons.mp h).resolve_left nofun)
  have e : l = l' := Option.some.inj (levelKeys_fst t l' _ hk)
  exact e ▸ hl'

/-- the CSV fields do not see the normalisation: the assignment is kept, and `None` and `NaN`
are both written as an empty field -/
theorem cellSpec_normRecord {t : Tree} {taint : List Lvl} {ck : ConfKey} {first r : Record}
    {key : Option (Lvl × ColKind)} (hkey : key ∈ csvKeys t)
    (h : ∀ l ∈ t.hierarchy, (r.levels.lookup l).isSome) :
    cellSpec t taint ck (normRecord first t.hierarchy r) key = cellSpec t taint ck r key := by
  cases key with
  | none => rfl
  | some lk =>
    obtain ⟨l, k⟩ := lk
    have hl := mem_csvKeys hkey
    obtain ⟨lr, hlr⟩ := Option.isSome_iff_exists.mp (h l hl)
    have hn : (normRecord first t.hierarchy r).levels.lookup l = some (normLevel (flagOf first l) lr) := by
      rw [normRecord, lookup_map_self _ hl, hlr]; rfl
    simp only [cellSpec, hn, hlr]
    cases k <;> try rfl
    cases ck <;> exact confCell_toFloat _ _

theorem csvRows_normBlob {b : Blob} {h : H5} (hh : toH5 b = .ok h) (taint : List Lvl) (ck : ConfKey) :
    csvRows b.tree taint ck (normBlob b).results = csvRows b.tree taint ck b.results := by
  obtain ⟨slots, hes, _⟩ := toH5_ok hh
  rw [encCells_eq_mapM] at hes
  have hsome : ∀ r ∈ b.results, ∀ l ∈ b.tree.hierarchy, (r.levels.lookup l).isSome := fun r hr l hl => by
    obtain ⟨row, hrow⟩ := mapM_ok_of_mem_input hes hr
    rw [encCell_eq_mapM] at hrow
    obtain ⟨s, hs⟩ := mapM_ok_of_mem_input hrow hl
    obtain ⟨lr, _, hlr, _⟩ := encAt_ok hs
    rw [hlr]; rfl
  rw [csvRows_eq _ _ _ _ hsome, csvRows_eq, normBlob, List.map_map]
  · exact congrArg _ (List.map_congr_left fun r hr => List.map_congr_left fun key hkey =>
      cellSpec_normRecord hkey (hsome r hr))
  · intro r hr l hl
    obtain ⟨r0, _, rfl⟩ := List.mem_map.mp hr
    rw [normRecord, lookup_map_self _ hl]; rfl

/-! ### the embedded taxonomy -/

/-- what `dropCells` does to the dict of one level -/
def dropLevelCells (t : Tree) (l : Lvl) (m : List (NodeId × List Nat)) : List (NodeId × List Nat) :=
  if some l = t.leafLevel then m.map (fun nv => (nv.1, [])) else m

theorem dropCells_levels (t : Tree) :
    t.dropCells.levels = t.levels.map (fun kv => (kv.1, dropLevelCells t kv.1 kv.2)) := by
  simp only [Tree.dropCells, dropLevelCells]
  apply List.map_congr_left
  intro kv _
  obtain ⟨k, v⟩ := kv
  by_cases h : some k = t.leafLevel <;> simp [h]

theorem dropCells_lookup (t : Tree) (l : Lvl) :
    t.dropCells.levels.lookup l = (t.levels.lookup l).map (dropLevelCells t l) := by
  rw [dropCells_levels]
  exact lookup_map_val (dropLevelCells t) l t.levels

theorem dropCells_nodesAt (t : Tree) (l : Lvl) : t.dropCells.nodesAt l = t.nodesAt l := by
  simp only [Tree.nodesAt, dropCells_lookup, Option.map_map]
  congr 1
  funext m
  by_cases h : some l = t.leafLevel <;> simp [dropLevelCells, h, Function.comp_def]

/-! ### `re_order_blob` -/

theorem lookupLast_some {c : StrId} : ∀ {rs : List Record} {r : Record},
    lookupLast c rs = some r → r ∈ rs ∧ r.cellId = c
  | [], r, h => by simp [lookupLast] at h
  | x :: xs, r, h => by
    simp only [lookupLast] at h
    cases hx : lookupLast c xs with
    | some y =>
      rw [hx] at h
      simp only [Option.some.injEq] at h
      subst h
      have := lookupLast_some hx
      exact ⟨by simp [this.1], this.2⟩
    | none =>
      rw [hx] at h
      by_cases hc : x.cellId = c
      · simp [hc] at h; subst h; exact ⟨by simp, hc⟩
      · simp [hc] at h

theorem lookupLast_isSome {c : StrId} : ∀ {rs : List Record},
    c ∈ rs.map (·.cellId) → (lookupLast c rs).isSome
  | [], h => by simp at h
  | x :: xs, h => by
    simp only [lookupLast]
    cases hx : lookupLast c xs with
    | some y => simp
    | none =>
      by_cases hc : x.cellId = c
      · simp [hc]
      · have : c ∈ xs.map (·.cellId) := by
          simp only [List.map_cons, List.mem_cons] at h
          rcases h with h | h
          · exact absurd h.symm hc
          · exact h
        have := lookupLast_isSome this
        simp [hx] at this

theorem reorder_spec (rs : List Record) : ∀ (order : List StrId),
    (∀ c ∈ order, c ∈ rs.map (·.cellId)) →
    ∃ rs', reorder rs order = .ok rs' ∧ rs'.map (·.cellId) = order ∧ ∀ r ∈ rs', r ∈ rs
  | [], _ => ⟨[], by simp [reorder], by simp, by simp⟩
  | c :: cs, h => by
    obtain ⟨rs', h1, h2, h3⟩ := reorder_spec rs cs (fun c' hc' => h c' (by simp [hc']))
    have hs := lookupLast_isSome (h c (by simp))
    cases hl : lookupLast c rs with
    | none => simp [hl] at hs
    | some r =>
      have := lookupLast_some hl
      refine ⟨r :: rs', by simp [reorder, hl, h1], by simp [this.2, h2], ?_⟩
      intro r' hr'
      cases hr' with
      | head => exact this.1
      | tail _ h' => exact h3 r' h'

/-! ### `blob_to_df`'s substring-based column typing -/

/-- a word without the separator cannot straddle it -/
theorem infixB_append_sep (c : Char) (b w : List Char) (hc : c ∉ w) :
    ∀ (a : List Char), infixB w (a ++ c :: b) = (infixB w a || infixB w b)
  | [] => by
    have h0 := isPrefixOf_append_sep c b w [] hc
    have h1 : w.isPrefixOf [] = w.isEmpty := by cases w <;> rfl
    simp only [List.nil_append] at h0 ⊢
    simp only [infixB, h0, h1]
  | y :: a => by
    have h0 := isPrefixOf_append_sep c b w (y :: a) hc
    simp only [List.cons_append] at h0
    simp only [List.cons_append, infixB, h0, infixB_append_sep c b w hc a, Bool.or_assoc]

/-- a table of 4 × 2 closed substring tests -/
theorem taintWords_keyName (ck : ConfKey) :
    ∀ w ∈ taintWords, '_' ∉ w.toList ∧ infixB w.toList ck.keyName.toList = false := by
  cases ck <;> decide +kernel

/-- the confidence column of a level is categorical exactly when the READABLE
LEVEL NAME contains one of the four words: the suffixes
`_bootstrapping_probability` / `_avg_correlation` contain none, and no word can
straddle the `_` -/
theorem colIsCategory_dfConfColumn (name : String) (ck : ConfKey) :
    colIsCategory (dfConfColumn name ck) = taintWords.any (strContains name) := by
  rw [colIsCategory, Bool.eq_iff_iff, List.any_eq_true, List.any_eq_true]
  refine exists_congr fun w => and_congr_right fun hw => ?_
  obtain ⟨h1, h3⟩ := taintWords_keyName ck w hw
  have : "_".toList = ['_'] := rfl
  rw [strContains, strContains, dfConfColumn, String.toList_append, String.toList_append, this,
    List.append_assoc, List.singleton_append, infixB_append_sep '_' _ _ h1, h3, Bool.or_false]

theorem taintOf_contains (text : Lvl → String) (ck : ConfKey) (hier : List Lvl) (l : Lvl) :
    (taintOf text ck hier).contains l = true ↔
      l ∈ hier ∧ colIsCategory (dfConfColumn (text l) ck) = true := by
  simp [taintOf, List.mem_filter]

end CTM.Output
