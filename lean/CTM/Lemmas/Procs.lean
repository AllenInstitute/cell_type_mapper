/-
  Lemmas over CTM/Model/Procs.lean for C14 and the stage-machine part of C04.
  One poll, for either container (`winnow_cases`), and what the waiting loops return
  (`waitBelowOrBlocked_spec`).  `Keeps I F`: the rules by which every level of the stage machine
  keeps an invariant; its instances are the worker bookkeeping `Good` (`Sound`, which gives
  `exec_ok_all_zero`), the contents of the output location (`exec_file`) and, in ProcsMerge.lean, the
  seeds handed out at dispatch.  The canonical loop `pollLoop` starts every item and, when every
  worker exits 0 and is seen, succeeds (`pollLoop_all_done`).  Last, `runMapping` field by field
  (`runMapping_eq`).
-/
import CTM.Model.Procs

namespace CTM.Procs

/-! ### winnow_process_list -/

/-- exit code of a finished process that is not 0 -/
def badCode (c : ExitCode) : Option Int :=
  match c with
  | some c => if c != 0 then some c else none
  | none => none

theorem badCode_none_iff (c : ExitCode) : badCode c = none ↔ c = none ∨ c = some 0 := by
  cases c with
  | none => simp [badCode]
  | some c => by_cases h : c = 0 <;> simp [badCode, h]

theorem winnowScan_eq {α} (r : List ((α × ExitCode) × Nat)) (acc : List Nat) :
    winnowScan r acc =
      match r.findSome? (fun e => badCode e.1.2) with
      | some c => .error c
      | none => .ok (acc ++ (r.filter (fun e => e.1.2.isSome)).map (·.2)) := by
  induction r generalizing acc with
  | nil => exact congrArg Except.ok (List.append_nil acc).symm
  | cons e r ih =>
    obtain ⟨⟨a, c⟩, i⟩ := e
    cases c with
    | none => exact ih acc  -- a running process: both sides skip it
    | some c =>
      by_cases h : c = 0
      · subst h
        refine (ih (acc ++ [i])).trans ?_
        simp only [List.append_assoc]
        rfl
      · simp [winnowScan, badCode, h]

theorem popAll_append {α} (l : List α) (T U : List Nat) :
    popAll l (T ++ U) = popAll (popAll l T) U := List.foldl_append ..

theorem popAll_cons_succ {α} (x : α) (l : List α) (T : List Nat) :
    popAll (x :: l) (T.map (· + 1)) = x :: popAll l T := by
  induction T generalizing l with
  | nil => rfl
  | cons i T ih => exact ih (l.eraseIdx i)

/-- the positions of `l` at which `p` holds, last first: `to_pop` of `winnow_process_list` -/
def hits {α} (p : α → Bool) (l : List α) : List Nat :=
  (l.zipIdx.reverse.filter (fun e => p e.1)).map (·.2)

theorem hits_cons {α} (p : α → Bool) (x : α) (l : List α) :
    hits p (x :: l) = (hits p l).map (· + 1) ++ if p x then [0] else [] := by
  simp only [hits, List.zipIdx_cons, List.reverse_cons, List.filter_append, List.map_append,
    List.zipIdx_succ (i := 0), ← List.map_reverse, List.filter_map, List.map_map]
  congr 1
  by_cases hx : p x <;> simp [hx]

/-- Popping last first never moves an element that is still to be popped, so what is left are
the elements at which `p` fails. -/
theorem popAll_hits {α} (p : α → Bool) (l : List α) :
    popAll l (hits p l) = l.filter (fun a => !p a) := by
  induction l with
  | nil => rfl
  | cons x l ih =>
    rw [hits_cons, popAll_append, popAll_cons_succ, ih]
    by_cases hx : p x <;> simp [hx, popAll]

/-- the exit code `winnow_process_list` reports: that of the *last* finished
process with a non-zero code -/
def lastBad {α} (ps : List (α × ExitCode)) : Option Int :=
  ps.reverse.findSome? (fun p => badCode p.2)

theorem lastBad_none_iff {α} (ps : List (α × ExitCode)) :
    lastBad ps = none ↔ ∀ p ∈ ps, badCode p.2 = none := by
  simp [lastBad, List.findSome?_eq_none_iff]

theorem exists_of_lastBad_eq_some {α} {ps : List (α × ExitCode)} {d : Int} (h : lastBad ps = some d) :
    ∃ p ∈ ps, badCode p.2 = some d := by
  obtain ⟨p, hp, hd⟩ := List.exists_of_findSome?_eq_some h
  exact ⟨p, List.mem_reverse.mp hp, hd⟩

theorem winnowList_eq {α} (ps : List (α × ExitCode)) :
    winnowList ps =
      match lastBad ps with
      | some c => .error c
      | none => .ok (ps.filter (fun p => p.2.isNone)) := by
  have hbad : ps.zipIdx.reverse.findSome? (fun e => badCode e.1.2) = lastBad ps := by
    have : ps.reverse = ps.zipIdx.reverse.map (·.1) := by rw [List.map_reverse, List.zipIdx_map_fst]
    rw [lastBad, this, List.findSome?_map]
    rfl
  rw [winnowList, winnowScan_eq, hbad]
  cases lastBad ps with
  | some c => rfl
  | none =>
    have := popAll_hits (fun p : α × ExitCode => p.2.isSome) ps
    simp only [hits, Option.not_isSome] at this
    simp only [List.nil_append, this]

theorem winnowList_eq_ok_iff {α} {ps r : List (α × ExitCode)} :
    winnowList ps = .ok r ↔ lastBad ps = none ∧ r = ps.filter (fun p => p.2.isNone) := by
  rw [winnowList_eq]
  cases lastBad ps <;> simp [eq_comm]

/-! ### winnow_process_dict -/

def firstBadKey {κ} (ps : List (κ × ExitCode)) : Option (κ × Int) :=
  ps.findSome? (fun p => (badCode p.2).map (fun c => (p.1, c)))

theorem firstBadKey_none_iff {κ} (ps : List (κ × ExitCode)) :
    firstBadKey ps = none ↔ ∀ p ∈ ps, badCode p.2 = none := by
  simp [firstBadKey, List.findSome?_eq_none_iff]

theorem exists_of_firstBadKey_eq_some {κ} {ps : List (κ × ExitCode)} {e : κ × Int}
    (h : firstBadKey ps = some e) : ∃ p ∈ ps, badCode p.2 = some e.2 := by
  obtain ⟨p, hp, hpe⟩ := List.exists_of_findSome?_eq_some h
  obtain ⟨d, hd, rfl⟩ := Option.map_eq_some_iff.mp hpe
  exact ⟨p, hp, hd⟩

theorem winnowDict_eq {κ} (ps : List (κ × ExitCode)) :
    winnowDict ps =
      match firstBadKey ps with
      | some e => .error e
      | none => .ok (ps.filter (fun p => p.2.isNone)) := by
  induction ps with
  | nil => rfl
  | cons p ps ih =>
    obtain ⟨k, c⟩ := p
    cases c with
    | none =>
      have hk : firstBadKey ((k, none) :: ps) = firstBadKey ps := rfl
      rw [hk, winnowDict, ih]
      cases firstBadKey ps <;> rfl
    | some c =>
      by_cases h : c = 0
      · subst h
        exact ih  -- a process that ended with 0: dropped, and not a bad key
      · simp [winnowDict, firstBadKey, badCode, h]

theorem winnowDict_eq_ok_iff {κ} {ps r : List (κ × ExitCode)} :
    winnowDict ps = .ok r ↔ firstBadKey ps = none ∧ r = ps.filter (fun p => p.2.isNone) := by
  rw [winnowDict_eq]
  cases firstBadKey ps <;> simp [eq_comm]

/-! ### one poll -/

theorem view_of_mem {exit : Nat → Int} {poll : Poll} {w : Nat} (h : w ∈ poll) :
    view exit poll w = some (exit w) := by simp [view, h]

theorem view_of_not_mem {exit : Nat → Int} {poll : Poll} {w : Nat} (h : w ∉ poll) :
    view exit poll w = none := by simp [view, h]

theorem view_isNone (exit : Nat → Int) (poll : Poll) (w : Nat) :
    (view exit poll w).isNone = !poll.contains w := by
  unfold view
  cases poll.contains w <;> rfl

theorem badCode_view (exit : Nat → Int) (poll : Poll) (w : Nat) :
    badCode (view exit poll w) = if w ∈ poll ∧ exit w ≠ 0 then some (exit w) else none := by
  by_cases hp : w ∈ poll <;> by_cases h0 : exit w = 0 <;> simp [view, badCode, hp, h0]

/-- One poll, for either container: which of several failed workers is reported is the only
difference between the two winnow functions. -/
theorem winnow_cases (kind : Container) (exit : Nat → Int) (poll : Poll) (c : Procs) :
    (∃ e ∈ c, e.2 ∈ poll ∧ exit e.2 ≠ 0 ∧ winnow kind exit poll c = .error (exit e.2)) ∨
    ((∀ e ∈ c, e.2 ∈ poll → exit e.2 = 0) ∧
      winnow kind exit poll c = .ok (c.filter fun e => !poll.contains e.2)) := by
  have hkeep : ((c.map fun e => (e, view exit poll e.2)).filter (fun p => p.2.isNone)).map (·.1)
      = c.filter fun e => !poll.contains e.2 := by
    simp only [List.filter_map, List.map_map, Function.comp_def, view_isNone, List.map_id']
  -- `o`: the code that is raised, if any; the two containers differ only in which one it is
  obtain ⟨o, ho, hsome, hnone⟩ : ∃ o : Option Int,
      (winnow kind exit poll c =
        match o with
        | some d => .error d
        | none => .ok (c.filter fun e => !poll.contains e.2)) ∧
      (∀ d, o = some d → ∃ e ∈ c, badCode (view exit poll e.2) = some d) ∧
      (o = none → ∀ e ∈ c, badCode (view exit poll e.2) = none) := by
    cases kind with
    | list =>
      refine ⟨lastBad (c.map fun e => (e, view exit poll e.2)), ?_, fun d hd => ?_, fun hn e he => ?_⟩
      · rw [winnow, winnowList_eq]
        cases lastBad (c.map fun e => (e, view exit poll e.2)) <;> simp only [hkeep]
      · obtain ⟨p, hp, hpd⟩ := exists_of_lastBad_eq_some hd
        obtain ⟨e, he, rfl⟩ := List.mem_map.mp hp
        exact ⟨e, he, hpd⟩
      · exact (lastBad_none_iff _).mp hn _ (List.mem_map_of_mem he)
    | dict =>
      refine ⟨(firstBadKey (c.map fun e => (e, view exit poll e.2))).map (·.2), ?_, fun d hd => ?_,
        fun hn e he => ?_⟩
      · rw [winnow, winnowDict_eq]
        cases firstBadKey (c.map fun e => (e, view exit poll e.2)) <;> simp only [hkeep, Option.map]
      · obtain ⟨k, hk, rfl⟩ := Option.map_eq_some_iff.mp hd
        obtain ⟨p, hp, hpd⟩ := exists_of_firstBadKey_eq_some hk
        obtain ⟨e, he, rfl⟩ := List.mem_map.mp hp
        exact ⟨e, he, hpd⟩
      · exact (firstBadKey_none_iff _).mp (Option.map_eq_none_iff.mp hn) _ (List.mem_map_of_mem he)
  cases o with
  | some d =>
    obtain ⟨e, he, hd⟩ := hsome d rfl
    rw [badCode_view] at hd
    split at hd
    · next h =>
      cases hd
      exact .inl ⟨e, he, h.1, h.2, ho⟩
    · cases hd
  | none =>
    refine .inr ⟨fun e he hp => Decidable.by_contra fun h0 => ?_, ho⟩
    have := hnone rfl e he
    rw [badCode_view, if_pos ⟨hp, h0⟩] at this
    cases this

theorem winnow_zero {kind : Container} {exit : Nat → Int} (poll : Poll) (c : Procs)
    (hz : ∀ e ∈ c, exit e.2 = 0) :
    winnow kind exit poll c = .ok (c.filter fun e => !poll.contains e.2) := by
  rcases winnow_cases kind exit poll c with ⟨e, he, _, h0, _⟩ | ⟨_, h⟩
  · exact absurd (hz e he) h0
  · exact h

/-! ### the `while` loops -/

/-- `procs'` is what is left of `procs` after some polls that did not raise: nothing new, and
whatever is gone was seen with exit code 0 -/
def Winnowed (exit : Nat → Int) (procs procs' : Procs) : Prop :=
  (∀ e ∈ procs, e ∈ procs' ∨ exit e.2 = 0) ∧ ∀ e ∈ procs', e ∈ procs

theorem winnowed_refl (exit : Nat → Int) (procs : Procs) : Winnowed exit procs procs :=
  ⟨fun _ he => .inl he, fun _ he => he⟩

theorem winnowed_trans {exit : Nat → Int} {p₁ p₂ p₃ : Procs} (h₁ : Winnowed exit p₁ p₂)
    (h₂ : Winnowed exit p₂ p₃) : Winnowed exit p₁ p₃ :=
  ⟨fun e he => (h₁.1 e he).elim (h₂.1 e) .inr, fun e he => h₁.2 e (h₂.2 e he)⟩

theorem winnowed_filter {exit : Nat → Int} {poll : Poll} {c : Procs}
    (hz : ∀ e ∈ c, e.2 ∈ poll → exit e.2 = 0) :
    Winnowed exit c (c.filter fun e => !poll.contains e.2) := by
  refine ⟨fun e he => ?_, fun e he => (List.mem_filter.mp he).1⟩
  by_cases hp : e.2 ∈ poll
  · exact .inr (hz e he hp)
  · exact .inl (List.mem_filter.mpr ⟨he, by simpa using hp⟩)

/-- the plain loop is the `select_all_markers` loop with `have_chosen_parent` set -/
theorem waitBelow_eq (kind : Container) (exit : Nat → Int) (limit : Nat) (procs : Procs)
    (sched : List Poll) :
    waitBelow kind exit limit procs sched = waitBelowOrBlocked kind exit limit false procs sched := by
  induction sched generalizing procs with
  | nil => simp [waitBelow, waitBelowOrBlocked]
  | cons poll rest ih =>
    simp only [waitBelow, waitBelowOrBlocked, Bool.not_false, Bool.and_true, decide_eq_true_eq,
      Bool.false_and, ih]

theorem waitBelow_of_lt {kind : Container} {exit : Nat → Int} {limit : Nat} {procs : Procs}
    (h : procs.length < limit) (sched : List Poll) :
    waitBelow kind exit limit procs sched = .done procs sched := by
  cases sched <;> simp [waitBelow, h]

theorem waitBelowOrBlocked_spec {kind : Container} {exit : Nat → Int} {limit : Nat}
    (sched : List Poll) (blocked : Bool) (procs : Procs) :
    match waitBelowOrBlocked kind exit limit blocked procs sched with
    | .done procs' _ => procs'.length < limit ∧ Winnowed exit procs procs'
    | .failed code => code ≠ 0 ∧ ∃ e ∈ procs, exit e.2 = code
    | .spin => True := by
  have hdone : ∀ {procs : Procs} {blocked : Bool},
      (decide (procs.length < limit) && !blocked) = true →
        procs.length < limit ∧ Winnowed exit procs procs :=
    fun hc => ⟨of_decide_eq_true (Bool.and_eq_true_iff.mp hc).1, winnowed_refl ..⟩
  induction sched generalizing procs blocked with
  | nil =>
    rw [waitBelowOrBlocked]
    by_cases hc : (decide (procs.length < limit) && !blocked) = true
    · rw [if_pos hc]
      exact hdone hc
    · rw [if_neg hc]
      trivial
  | cons poll rest ih =>
    rw [waitBelowOrBlocked]
    by_cases hc : (decide (procs.length < limit) && !blocked) = true
    · rw [if_pos hc]
      exact hdone hc
    · rw [if_neg hc]
      rcases winnow_cases kind exit poll procs with ⟨e, he, _, h0, hw⟩ | ⟨hz, hw⟩
      · rw [hw]
        exact ⟨h0, e, he, rfl⟩
      · rw [hw]
        have hstep := winnowed_filter hz
        have := ih (blocked && !((procs.filter fun e => !poll.contains e.2).length < procs.length))
          (procs.filter fun e => !poll.contains e.2)
        simp only
        split <;> rename_i hr <;> rw [hr] at this
        · exact ⟨this.1, winnowed_trans hstep this.2⟩
        · obtain ⟨hc, e, he, hx⟩ := this
          exact ⟨hc, e, hstep.2 e he, hx⟩
        · trivial

/-! ### `dictSet` under a fresh key -/

theorem dictSet_fresh {ν} (d : List (Nat × ν)) (k : Nat) (v : ν) (h : k ∉ d.map (·.1)) :
    dictSet d k v = d ++ [(k, v)] := by
  have : d.any (fun e => e.1 == k) = false :=
    List.any_eq_false.mpr fun e he hc => h (List.mem_map.mpr ⟨e, he, by simpa using hc⟩)
  simp [dictSet, this]

/-! ### invariants of the stage machine -/

/-- dict stages: distinct workers are registered under distinct keys
(`range(0, n_pairs, n_per)`, the parents of `started_parents`) -/
def KeysOK (kind : Container) (keyOf : Nat → Nat) : Prop :=
  kind = .dict → ∀ i j, keyOf i = keyOf j → i = j

/-- every started worker is still in the polled container or has been seen to
exit with code 0; container entries are started workers under their own key -/
structure Good (env : Env) (s : St) : Prop where
  tracked : ∀ w, w < s.started → (∃ k, (k, w) ∈ s.procs) ∨ env.exit w = 0
  keyed : ∀ e ∈ s.procs, e.1 = env.keyOf e.2 ∧ e.2 < s.started

theorem good_init (env : Env) (sched : List Poll) : Good env { sched := sched } :=
  ⟨fun w hw => by simp at hw, fun e he => by simp at he⟩

theorem good_winnowed {env : Env} {s : St} {p : Procs} {sc : List Poll} (hg : Good env s)
    (h : Winnowed env.exit s.procs p) : Good env { s with procs := p, sched := sc } where
  tracked w hw := (hg.tracked w hw).elim
    (fun ⟨k, hk⟩ => (h.1 _ hk).elim (fun h => .inl ⟨k, h⟩) .inr) .inr
  keyed e he := hg.keyed e (h.2 e he)

/-- with distinct keys a registration never overwrites (`register .dict` has the body of `dictSet`,
which is why `dictSet_fresh` applies) -/
theorem register_eq {kind : Container} {env : Env} {s : St} (hk : KeysOK kind env.keyOf)
    (hg : Good env s) :
    register kind s.procs (env.keyOf s.started) s.started =
      s.procs ++ [(env.keyOf s.started, s.started)] := by
  cases kind with
  | list => rfl
  | dict =>
    refine dictSet_fresh s.procs _ _ fun hc => ?_
    obtain ⟨e, he, heq⟩ := List.mem_map.mp hc
    obtain ⟨h1, h2⟩ := hg.keyed e he
    have := hk rfl _ _ (h1.symm.trans heq)
    omega

/-! ### the machine, level by level

Sequencing in `execBody`, `execDispatch` and `exec` is the same: the first step that does not
return normally ends the run; the three waiting statements end in the same three ways.  The model
writes both out as `match`es; `Res.andThen` and `St.wait` below re-express them, and the `rfl`
lemmas after them are the link.  What a run cannot break is said by `Keeps I F`: one rule for
sequencing, one for the steps that always return (`draw`, `start`, the writes), one for the waits,
one for each loop level.  Instances: worker bookkeeping (`Sound`), the output file while workers
run (`execLoopStmt_keeps_file`), the dispatch-order seeds (`seededBody_keeps` in ProcsMerge.lean). -/

namespace Res

/-- `r; k`: the first failure or endless wait ends the run -/
def andThen (r : Res) (k : St → Res) : Res :=
  match r with
  | .ok s => k s
  | r => r

theorem andThen_eq_ok {r : Res} {k : St → Res} {s' : St} :
    r.andThen k = .ok s' ↔ ∃ s₁, r = .ok s₁ ∧ k s₁ = .ok s' := by
  cases r <;> simp [andThen]

theorem andThen_eq_failed {r : Res} {k : St → Res} {code : Int} {s' : St} :
    r.andThen k = .failed code s' ↔ r = .failed code s' ∨ ∃ s₁, r = .ok s₁ ∧ k s₁ = .failed code s' := by
  cases r <;> simp [andThen]

end Res

namespace St

/-- how a statement that is a waiting loop ends -/
def wait (s : St) : WaitRes → Res
  | .done p sc => .ok { s with procs := p, sched := sc }
  | .failed c => .failed c s
  | .spin => .spin s

theorem wait_eq_ok {s s' : St} {r : WaitRes} :
    s.wait r = .ok s' ↔ ∃ p sc, r = .done p sc ∧ s' = { s with procs := p, sched := sc } := by
  cases r with
  | done p sc => exact ⟨fun h => ⟨p, sc, rfl, (Res.ok.inj h).symm⟩, fun ⟨_, _, h, e⟩ => by cases h; rw [e]; rfl⟩
  | failed c => exact ⟨nofun, fun ⟨_, _, h, _⟩ => nomatch h⟩
  | spin => exact ⟨nofun, fun ⟨_, _, h, _⟩ => nomatch h⟩

theorem wait_eq_failed {s s' : St} {r : WaitRes} {code : Int} :
    s.wait r = .failed code s' ↔ r = .failed code ∧ s' = s := by
  cases r <;> simp [wait, eq_comm]

end St

theorem execBody_cons (kind : Container) (env : Env) (ls : LoopStmt) (r : List LoopStmt) (s : St) :
    execBody kind env (ls :: r) s = (execLoopStmt kind env ls s).andThen (execBody kind env r) :=
  rfl

theorem execDispatch_succ (kind : Container) (env : Env) (body : List LoopStmt) (n : Nat) (s : St) :
    execDispatch kind env body (n + 1) s =
      (execBody kind env body s).andThen (execDispatch kind env body n) :=
  rfl

theorem exec_cons (kind : Container) (env : Env) (st : Stmt) (r : List Stmt) (s : St) :
    exec kind env (st :: r) s = (execStmt kind env st s).andThen (exec kind env r) :=
  rfl

theorem execLoopStmt_pollWhileFull (kind : Container) (env : Env) (s : St) :
    execLoopStmt kind env .pollWhileFull s =
      s.wait (waitBelow kind env.exit env.nProc s.procs s.sched) :=
  rfl

theorem execStmt_drain (kind : Container) (env : Env) (s : St) :
    execStmt kind env .drain s = s.wait (waitBelow kind env.exit 1 s.procs s.sched) :=
  rfl

/-- `f` keeps `I` in whatever state it ends, returned, failed or waiting (the theorems about the
output file and the seeds speak of runs that fail or wait for ever), and a failure it reports
satisfies `F` in the state it is reported in -/
structure Keeps (I : St → Prop) (F : Int → St → Prop) (f : St → Res) : Prop where
  state : ∀ {s}, I s → I (f s).state
  failed : ∀ {s s' code}, I s → f s = .failed code s' → F code s'

namespace Keeps
variable {I : St → Prop} {F : Int → St → Prop} {f g : St → Res}

theorem ok (h : Keeps I F f) {s s' : St} (hs : I s) (hf : f s = .ok s') : I s' := by
  have := h.state hs
  rwa [hf] at this

theorem andThen (hf : Keeps I F f) (hg : Keeps I F g) : Keeps I F fun s => (f s).andThen g where
  state {s} hs := by
    have h := hf.state hs
    show I ((f s).andThen g).state
    revert h
    cases f s with
    | ok s₁ => exact fun h => hg.state h
    | failed c s₁ => exact id
    | spin s₁ => exact id
  failed hs h := by
    rcases Res.andThen_eq_failed.mp h with h₁ | ⟨s₁, h₁, h₂⟩
    · exact hf.failed hs h₁
    · exact hg.failed (hf.ok hs h₁) h₂

theorem of_ok {f' : St → St} (hf : ∀ s, f s = .ok (f' s)) (h : ∀ s, I s → I (f' s)) :
    Keeps I F f where
  state {s} hs := by rw [hf]; exact h s hs
  failed {s _ _} _ h' := by rw [hf] at h'; cases h'

end Keeps

section rules
variable {kind : Container} {env : Env} {I : St → Prop} {F : Int → St → Prop}

theorem keeps_waitBelowOrBlocked (limit : Nat) (blocked : St → Bool)
    (hI : ∀ {s p sc}, I s → Winnowed env.exit s.procs p → I { s with procs := p, sched := sc })
    (hF : ∀ {s e}, I s → e ∈ s.procs → env.exit e.2 ≠ 0 → F (env.exit e.2) s) :
    Keeps I F fun s =>
      s.wait (waitBelowOrBlocked kind env.exit limit (blocked s) s.procs s.sched) where
  state {s} hs := by
    have := waitBelowOrBlocked_spec (kind := kind) (exit := env.exit) (limit := limit) s.sched
      (blocked s) s.procs
    cases hw : waitBelowOrBlocked kind env.exit limit (blocked s) s.procs s.sched with
    | done p sc => exact hI hs (hw ▸ this).2
    | failed c => exact hs
    | spin => exact hs
  failed {s _ _} hs h := by
    obtain ⟨hw, hs'⟩ := St.wait_eq_failed.mp h
    have := waitBelowOrBlocked_spec (kind := kind) (exit := env.exit) (limit := limit) s.sched
      (blocked s) s.procs
    rw [hw] at this
    obtain ⟨hc, e, he, rfl⟩ := this
    exact hs' ▸ hF hs he hc

theorem keeps_waitBelow (limit : Nat)
    (hI : ∀ {s p sc}, I s → Winnowed env.exit s.procs p → I { s with procs := p, sched := sc })
    (hF : ∀ {s e}, I s → e ∈ s.procs → env.exit e.2 ≠ 0 → F (env.exit e.2) s) :
    Keeps I F fun s => s.wait (waitBelow kind env.exit limit s.procs s.sched) := by
  simp only [waitBelow_eq]
  exact keeps_waitBelowOrBlocked limit (fun _ => false) hI hF

theorem execBody_keeps : ∀ body : List LoopStmt,
    (∀ ls ∈ body, Keeps I F (execLoopStmt kind env ls)) → Keeps I F (execBody kind env body)
  | [], _ => .of_ok (fun _ => rfl) fun _ h => h
  | ls :: r, h =>
    (h ls (List.mem_cons_self ..)).andThen (execBody_keeps r fun l hl => h l (List.mem_cons_of_mem _ hl))

theorem execDispatch_keeps {body : List LoopStmt} (hb : Keeps I F (execBody kind env body)) :
    ∀ n, Keeps I F (execDispatch kind env body n)
  | 0 => .of_ok (fun _ => rfl) fun _ h => h
  | n + 1 => hb.andThen (execDispatch_keeps hb n)

end rules

/-- `f` keeps `Good`, and when it fails it reports the non-zero exit code of a worker it started -/
abbrev Sound (env : Env) (f : St → Res) : Prop :=
  Keeps (Good env) (fun code s => code ≠ 0 ∧ ∃ w, w < s.started ∧ env.exit w = code) f

theorem sound_of_ok {env : Env} {f : St → Res} {f' : St → St} (hf : ∀ s, f s = .ok (f' s))
    (hp : ∀ s, (f' s).procs = s.procs) (hst : ∀ s, (f' s).started = s.started) : Sound env f :=
  .of_ok hf fun s hs => ⟨hst s ▸ hp s ▸ hs.tracked, hst s ▸ hp s ▸ hs.keyed⟩

theorem sound_failure_of_mem {env : Env} {s : St} {e : Nat × Nat} (hs : Good env s) (he : e ∈ s.procs)
    (hc : env.exit e.2 ≠ 0) : env.exit e.2 ≠ 0 ∧ ∃ w, w < s.started ∧ env.exit w = env.exit e.2 :=
  ⟨hc, _, (hs.keyed _ he).2, rfl⟩

theorem sound_start {kind : Container} {env : Env} (hk : KeysOK kind env.keyOf) :
    Sound env (execLoopStmt kind env (.start true)) :=
  .of_ok (fun _ => rfl) fun s hs => by
    simp only [if_true, register_eq hk hs]
    constructor
    · intro w hw
      rcases Nat.lt_succ_iff_lt_or_eq.mp hw with hw | rfl
      · exact (hs.tracked w hw).imp (fun ⟨k, hk'⟩ => ⟨k, List.mem_append_left _ hk'⟩) id
      · exact .inl ⟨_, List.mem_append_right _ (List.mem_singleton_self _)⟩
    · intro e he
      rcases List.mem_append.mp he with he | he
      · exact ⟨(hs.keyed e he).1, Nat.lt_succ_of_lt (hs.keyed e he).2⟩
      · cases List.mem_singleton.mp he
        exact ⟨rfl, Nat.lt_succ_self _⟩

theorem execLoopStmt_sound {kind : Container} {env : Env} (hk : KeysOK kind env.keyOf) :
    ∀ {ls : LoopStmt}, ls ≠ .start false → Sound env (execLoopStmt kind env ls)
  | .draw, _ => sound_of_ok (fun _ => rfl) (fun _ => rfl) fun _ => rfl
  | .start true, _ => sound_start hk
  | .start false, h => absurd rfl h
  | .pollWhileFull, _ => keeps_waitBelow env.nProc good_winnowed sound_failure_of_mem
  | .pollWhileFullOrBlocked, _ =>
    keeps_waitBelowOrBlocked env.nProc (fun s => env.blocked s.started) good_winnowed
      sound_failure_of_mem

theorem execBody_sound {kind : Container} {env : Env} (hk : KeysOK kind env.keyOf)
    (body : List LoopStmt) (h : ∀ ls ∈ body, ls ≠ .start false) : Sound env (execBody kind env body) :=
  execBody_keeps body fun ls hls => execLoopStmt_sound hk (h ls hls)

theorem allRegistered_dispatch (body : List LoopStmt) (r : List Stmt) :
    allRegistered (.dispatch body :: r) = true ↔
      (∀ ls ∈ body, ls ≠ .start false) ∧ allRegistered r = true := by
  simp [allRegistered]

theorem exec_sound {kind : Container} {env : Env} (hk : KeysOK kind env.keyOf) :
    ∀ prog : List Stmt, allRegistered prog = true → Sound env (exec kind env prog)
  | [], _ => sound_of_ok (fun _ => rfl) (fun _ => rfl) fun _ => rfl
  | .writeOut tag :: r, h =>
    .andThen (f := execStmt kind env (.writeOut tag))
      (sound_of_ok (fun _ => rfl) (fun _ => rfl) fun _ => rfl) (exec_sound hk r h)
  | .moveIntoPlace :: r, h =>
    .andThen (f := execStmt kind env .moveIntoPlace)
      (sound_of_ok (fun _ => rfl) (fun _ => rfl) fun _ => rfl) (exec_sound hk r h)
  | .dispatch body :: r, h =>
    have h := (allRegistered_dispatch body r).mp h
    .andThen (execDispatch_keeps (execBody_sound hk body h.1) env.nItems) (exec_sound hk r h.2)
  | .drain :: r, h => .andThen (keeps_waitBelow 1 good_winnowed sound_failure_of_mem) (exec_sound hk r h)

theorem drain_ok_procs {kind : Container} {env : Env} {s s' : St}
    (h : execStmt kind env .drain s = .ok s') : s'.procs = [] := by
  rw [execStmt_drain, waitBelow_eq] at h
  obtain ⟨p, sc, hw, rfl⟩ := St.wait_eq_ok.mp h
  have := waitBelowOrBlocked_spec (kind := kind) (exit := env.exit) (limit := 1) s.sched false s.procs
  rw [hw] at this
  exact List.eq_nil_of_length_eq_zero (Nat.lt_one_iff.mp this.1)

/-- after a run that succeeds the container is empty if every dispatch loop is followed by a
drain (`pending`: the container may be non-empty now) -/
theorem exec_drained {kind : Container} {env : Env} (prog : List Stmt) (pending : Bool)
    (hdr : drainedFrom pending prog = true) {s s' : St} (hp : pending = false → s.procs = [])
    (h : exec kind env prog s = .ok s') : s'.procs = [] := by
  induction prog generalizing s pending with
  | nil =>
    cases h
    exact hp (by simpa [drainedFrom] using hdr)
  | cons st r ih =>
    rw [exec_cons] at h
    obtain ⟨s₁, h₁, h₂⟩ := Res.andThen_eq_ok.mp h
    cases st with
    | writeOut tag => cases h₁; exact ih pending hdr (s := { s with file := s.file ++ [tag] }) hp h₂
    | moveIntoPlace => cases h₁; exact ih pending hdr (s := { s with file := s.file ++ _ }) hp h₂
    | dispatch body => exact ih true hdr (fun hc => nomatch hc) h₂
    | drain => exact ih false hdr (fun _ => drain_ok_procs h₁) h₂

theorem exec_ok_all_zero {kind : Container} {env : Env} (hk : KeysOK kind env.keyOf)
    {prog : List Stmt} (hwf : wellFormed prog = true) {sched : List Poll} {s : St}
    (h : exec kind env prog { sched := sched } = .ok s) : ∀ w, w < s.started → env.exit w = 0 := by
  simp only [wellFormed, Bool.and_eq_true] at hwf
  have hg := (exec_sound hk prog hwf.1).ok (good_init env sched) h
  have hnil := exec_drained prog false hwf.2 (fun _ => rfl) h
  intro w hw
  rcases hg.tracked w hw with ⟨k, hk'⟩ | h0
  · rw [hnil] at hk'
    cases hk'
  · exact h0

theorem Stage.ok_wellFormed {st : Stage} (h : st.ok = true) : wellFormed st.prog = true := by
  simp only [Stage.ok, Bool.and_eq_true] at h
  exact h.1.1.1

/-! ### what is at the requested output location -/

theorem execLoopStmt_keeps_file (kind : Container) (env : Env) (f₀ : List String) :
    ∀ ls, Keeps (fun s => s.file = f₀) (fun _ _ => True) (execLoopStmt kind env ls)
  | .draw => .of_ok (fun _ => rfl) fun _ h => h
  | .start _ => .of_ok (fun _ => rfl) fun _ h => h
  | .pollWhileFull => keeps_waitBelow _ (fun h _ => h) fun _ _ _ => trivial
  | .pollWhileFullOrBlocked => keeps_waitBelowOrBlocked _ _ (fun h _ => h) fun _ _ _ => trivial

theorem execStmt_sync_file {kind : Container} {env : Env} {st : Stmt} (h : st.isSync = true)
    (s : St) : (execStmt kind env st s).state.file = s.file := by
  cases st with
  | writeOut tag => cases h
  | moveIntoPlace => cases h
  | dispatch body =>
    exact (execDispatch_keeps
      (execBody_keeps body fun ls _ => execLoopStmt_keeps_file kind env s.file ls) _).state rfl
  | drain =>
    exact (keeps_waitBelow (kind := kind) (env := env) (I := fun s' => s'.file = s.file)
      (F := fun _ _ => True) 1 (fun h _ => h) fun _ _ _ => trivial).state rfl

theorem execStmt_of_not_sync {kind : Container} {env : Env} {st : Stmt} (h : st.isSync = false)
    (s : St) : execStmt kind env st s = .ok { s with file := s.file ++ writes [st] } := by
  cases st with
  | writeOut tag => rfl
  | moveIntoPlace => rfl
  | dispatch body => cases h
  | drain => cases h

theorem writes_cons (st : Stmt) (r : List Stmt) : writes (st :: r) = writes [st] ++ writes r := by
  cases st <;> rfl

theorem writes_sync {st : Stmt} (h : st.isSync = true) : writes [st] = [] := by
  cases st <;> first | rfl | cases h

theorem failureFiles_cons (st : Stmt) (r : List Stmt) :
    failureFiles (st :: r) =
      (if st.isSync then [[]] else []) ++ (failureFiles r).map (writes [st] ++ ·) := by
  cases h : st.isSync <;> simp [failureFiles, h]

theorem exec_file {kind : Container} {env : Env} (prog : List Stmt) (s : St) :
    ∃ f, (exec kind env prog s).state.file = s.file ++ f ∧
      if (exec kind env prog s).outcome = .ok then f = writes prog else f ∈ failureFiles prog := by
  induction prog generalizing s with
  | nil => exact ⟨[], (List.append_nil _).symm, rfl⟩
  | cons st r ih =>
    rw [exec_cons, writes_cons, failureFiles_cons]
    cases hs : st.isSync
    · -- a write: the run goes on with the file extended
      rw [execStmt_of_not_sync hs]
      obtain ⟨f, he, hf⟩ := ih { s with file := s.file ++ writes [st] }
      refine ⟨writes [st] ++ f, he.trans (List.append_assoc ..), ?_⟩
      show if (exec kind env r _).outcome = .ok then _ else _
      split at hf <;> rename_i hok
      · rw [if_pos hok, hf]
      · rw [if_neg hok]
        exact List.mem_append_right _ (List.mem_map_of_mem hf)
    · -- a dispatch loop or drain: if it does not return, this is one of the failure points
      have hfile := execStmt_sync_file (kind := kind) (env := env) hs s
      simp only [writes_sync hs, List.nil_append, List.map_id']
      cases h₁ : execStmt kind env st s with
      | ok s₁ =>
        rw [h₁] at hfile
        obtain ⟨f, he, hf⟩ := ih s₁
        refine ⟨f, he.trans (congrArg (· ++ f) hfile), ?_⟩
        show if (exec kind env r s₁).outcome = .ok then _ else _
        split at hf <;> rename_i hok
        · rw [if_pos hok, hf]
        · rw [if_neg hok]
          exact List.mem_append_right _ hf
      | failed c s₁ =>
        exact ⟨[], (h₁ ▸ hfile).trans (List.append_nil _).symm, List.mem_append_left _ (.head _)⟩
      | spin s₁ =>
        exact ⟨[], (h₁ ▸ hfile).trans (List.append_nil _).symm, List.mem_append_left _ (.head _)⟩

/-! ### the canonical loop starts every item -/

theorem canonical_body_ok {kind : Container} {env : Env} {s s' : St} :
    execBody kind env [.start true, .pollWhileFull] s = .ok s' ↔
      ∃ p sc, waitBelow kind env.exit env.nProc
          (register kind s.procs (env.keyOf s.started) s.started) s.sched = .done p sc ∧
        s' = { s with started := s.started + 1, procs := p, sched := sc } := by
  simp only [execBody_cons, Res.andThen_eq_ok, execLoopStmt_pollWhileFull, St.wait_eq_ok]
  constructor
  · rintro ⟨s₁, h₁, s₂, h₂, h₃⟩
    cases h₁
    cases h₃
    exact h₂
  · intro h
    exact ⟨_, rfl, _, h, rfl⟩

theorem canonical_dispatch_started {kind : Container} {env : Env} (n : Nat) {s s' : St}
    (h : execDispatch kind env [.start true, .pollWhileFull] n s = .ok s') :
    s'.started = s.started + n := by
  induction n generalizing s with
  | zero => cases h; rfl
  | succ n ih =>
    rw [execDispatch_succ] at h
    obtain ⟨s₁, h₁, h₂⟩ := Res.andThen_eq_ok.mp h
    obtain ⟨p, sc, -, rfl⟩ := canonical_body_ok.mp h₁
    rw [ih h₂]
    exact Nat.add_right_comm ..

theorem pollLoop_ok_started {kind : Container} {nItems nProc : Nat} {keyOf : Nat → Nat}
    {sched : List Poll} {exit : Nat → Int} {s : St}
    (h : pollLoop kind nItems nProc keyOf sched exit = .ok s) : s.started = nItems := by
  simp only [pollLoop, canonicalProg, exec_cons, Res.andThen_eq_ok, execStmt_drain,
    St.wait_eq_ok] at h
  obtain ⟨s₁, h₁, s₂, ⟨p, sc, -, rfl⟩, h₃⟩ := h
  cases h₃
  simpa using canonical_dispatch_started _ h₁

/-! ### completeness: if every worker exits 0 and its exit code becomes visible, the loop succeeds -/

/-- every poll of the schedule sees every worker `< n` -/
def SeesAll (n : Nat) (sched : List Poll) : Prop := ∀ poll ∈ sched, ∀ w, w < n → w ∈ poll

/-- under such a schedule a wait takes at most one poll, which empties the container -/
theorem waitBelow_all_done {kind : Container} {exit : Nat → Int} {limit n : Nat} (hl : 0 < limit)
    (procs : Procs) (sched : List Poll) (hs : SeesAll n sched) (hne : sched ≠ [])
    (hp : ∀ e ∈ procs, e.2 < n) (hz : ∀ w, w < n → exit w = 0) :
    ∃ procs' sched', waitBelow kind exit limit procs sched = .done procs' sched' ∧
      sched.length ≤ sched'.length + 1 ∧ SeesAll n sched' := by
  cases sched with
  | nil => exact absurd rfl hne
  | cons poll rest =>
    by_cases hlt : procs.length < limit
    · exact ⟨procs, poll :: rest, waitBelow_of_lt hlt _, Nat.le_succ _, hs⟩
    · have hw : winnow kind exit poll procs = .ok [] := by
        rw [winnow_zero poll procs fun e he => hz e.2 (hp e he), List.filter_eq_nil_iff.mpr]
        intro e he
        simpa using hs poll List.mem_cons_self e.2 (hp e he)
      refine ⟨[], rest, ?_, Nat.le_refl _, fun q hq => hs q (List.mem_cons_of_mem _ hq)⟩
      -- the emptied container is below the limit only if `0 < limit`; with `limit = 0` the wait spins
      cases rest <;> simp [waitBelow, hlt, hw, hl]

theorem canonical_body_all_done {kind : Container} {env : Env} (hk : KeysOK kind env.keyOf)
    (hproc : 0 < env.nProc) {n : Nat} (hz : ∀ w, w < n → env.exit w = 0) (s : St)
    (hg : Good env s) (hst : s.started < n) (hs : SeesAll n s.sched) (hne : s.sched ≠ []) :
    ∃ s', execBody kind env [.start true, .pollWhileFull] s = .ok s' ∧ Good env s' ∧
      s'.started = s.started + 1 ∧ s.sched.length ≤ s'.sched.length + 1 ∧ SeesAll n s'.sched := by
  have hg1 := (sound_start hk).ok hg rfl
  obtain ⟨p', sc', hw, hlen, hsee⟩ :=
    waitBelow_all_done (kind := kind) (exit := env.exit) hproc _ s.sched hs hne
      (fun e he => Nat.lt_of_lt_of_le (hg1.keyed e he).2 hst) hz
  have hb := canonical_body_ok.mpr ⟨p', sc', hw, rfl⟩
  exact ⟨_, hb, (execBody_sound hk _ (by decide)).ok hg hb, rfl, hlen, hsee⟩

/-- `k` iterations use up at most `k` polls (`j`: the polls that must be left over) -/
theorem canonical_dispatch_all_done {kind : Container} {env : Env} (hk : KeysOK kind env.keyOf)
    (hproc : 0 < env.nProc) {n : Nat} (hz : ∀ w, w < n → env.exit w = 0) (k j : Nat) (s : St)
    (hg : Good env s) (hst : s.started + k ≤ n) (hs : SeesAll n s.sched)
    (hlen : k + j < s.sched.length) :
    ∃ s', execDispatch kind env [.start true, .pollWhileFull] k s = .ok s' ∧ Good env s' ∧
      j < s'.sched.length ∧ SeesAll n s'.sched := by
  induction k generalizing s with
  | zero => exact ⟨s, rfl, hg, Nat.zero_add j ▸ hlen, hs⟩
  | succ k ih =>
    obtain ⟨s1, h1, hg1, hst1, hl1, hs1⟩ := canonical_body_all_done hk hproc hz s hg
      (Nat.lt_of_lt_of_le (Nat.lt_add_of_pos_right k.succ_pos) hst) hs
      (List.ne_nil_of_length_pos (Nat.zero_lt_of_lt hlen))
    rw [Nat.add_right_comm] at hlen
    obtain ⟨s2, h2, hrest⟩ := ih s1 hg1 (by rw [hst1, Nat.add_assoc, Nat.add_comm 1 k]; exact hst)
      hs1 (Nat.lt_of_succ_lt_succ (Nat.lt_of_lt_of_le hlen hl1))
    exact ⟨s2, Res.andThen_eq_ok.mpr ⟨s1, h1, h2⟩, hrest⟩

/-- `nItems + 1` polls are enough: at most one for each iteration, and the one left over empties
the container in the drain -/
theorem pollLoop_all_done {kind : Container} {nItems nProc : Nat} {keyOf : Nat → Nat}
    (hk : KeysOK kind keyOf) (hproc : 0 < nProc) {sched : List Poll} {exit : Nat → Int}
    (hz : ∀ w, w < nItems → exit w = 0) (hs : SeesAll nItems sched)
    (hlen : nItems < sched.length) :
    ∃ s, pollLoop kind nItems nProc keyOf sched exit = .ok s := by
  obtain ⟨s1, h1, hg1, hl1, hs1⟩ :=
    canonical_dispatch_all_done (kind := kind) (env := { nItems, nProc, keyOf, exit }) hk hproc hz
      nItems 0 { sched := sched } (good_init _ sched) (Nat.le_of_eq (Nat.zero_add _)) hs hlen
  have hst1 : s1.started = 0 + nItems := canonical_dispatch_started _ h1
  obtain ⟨p', sc', hw, -⟩ :=
    waitBelow_all_done (kind := kind) (exit := exit) Nat.one_pos s1.procs s1.sched hs1
      (List.ne_nil_of_length_pos hl1)
      (fun e he => Nat.zero_add nItems ▸ hst1 ▸ (hg1.keyed e he).2) hz
  refine ⟨{ s1 with procs := p', sched := sc' }, ?_⟩
  rw [pollLoop, canonicalProg, exec_cons]
  refine Res.andThen_eq_ok.mpr ⟨s1, h1, ?_⟩
  rw [exec_cons, execStmt_drain, hw]
  rfl

/-! ### `run_mapping` -/

theorem results_not_mem_blobToHdf5_fst (keys : Keys) : "results" ∉ (blobToHdf5 keys).1 := by
  simp [blobToHdf5]

theorem blobToHdf5_of_not_mem {keys : Keys} (h : "results" ∉ keys) :
    blobToHdf5 keys = (keys, ["metadata"]) := by
  have h1 : keys.filter (· != "results") = keys :=
    List.filter_eq_self.mpr fun k hk => bne_iff_ne.mpr fun hc => h (hc ▸ hk)
  have h2 : keys.contains "results" = false := by simpa using h
  rw [blobToHdf5, h1, h2, Bool.and_false]
  rfl

/-- `runMapping` field by field.  Only two facts about `_run_mapping` reach the outputs: whether it
raised at all (then `output` is still the empty dict of the first line) and whether the raise came
from the type assignment (then the CSV was not reached). -/
theorem runMapping_eq (r : InnerRun) :
    runMapping r =
      let failed := r.assignRaises || r.lateRaises
      let raised := failed || r.summaryRaises
      let output :=
        (if failed then [] else ["results", "marker_genes", "taxonomy_tree", "n_unmapped_genes"]) ++
          ["config", "log", "metadata"]
      { raised := raised
        json := if r.jsonRequested then some output else none
        hdf5 := if r.hdf5Requested then some (blobToHdf5 output) else none
        csv := !r.assignRaises && r.csvRequested
        logFile := if r.logRequested then
          some [.info "run", if raised then .traceback else .success, .cleaningUp] else none } := by
  obtain ⟨assignRaises, _, lateRaises, summaryRaises, _, _, _⟩ := r
  cases assignRaises <;> cases lateRaises <;> cases summaryRaises <;> rfl

end CTM.Procs
