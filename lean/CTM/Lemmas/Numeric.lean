/-
  Lemmas for `Model/Numeric.lean`: Pearson correlation on `Rat` (Cauchy–Schwarz and its equality
  case), the signed square, the column selection `pick`, the arg-max scan and `nearestLeaf`,
  rounding, the bootstrap size.  At the end, in `namespace CTM.LevelLoop`, the two facts about
  bootstrap factor 1 (`drawSize_factor_one`, `full_subset_unique`): they are about `Numeric.drawSize`
  and `subsetOk` and need Mathlib, so they stand in this file; `Props/C06`, whose model is the level
  loop, and the documents name them `LevelLoop.…`.
  The Pearson correlation `r` itself is irrational in general and is never a term: the model
  computes `corrSsq`, which is `r * |r|`, and a statement about `r` reads
  `∀ r, r * |r| = corrSsq x y → …`.
-/
import Mathlib.Data.Rat.Floor
import Mathlib.Tactic.FieldSimp
import CTM.Model.Numeric
import CTM.Lemmas.ListAux
import CTM.Lemmas.Round

namespace CTM.Numeric

/-! ### `dot`, Cauchy–Schwarz -/

theorem dot_nil_left (ys : List Rat) : dot [] ys = 0 := by simp [dot]
theorem dot_nil_right (xs : List Rat) : dot xs [] = 0 := by simp [dot]
theorem dot_cons (a b : Rat) (xs ys : List Rat) :
    dot (a :: xs) (b :: ys) = a * b + dot xs ys := by simp [dot]

theorem dot_self_nonneg : ∀ xs : List Rat, 0 ≤ dot xs xs
  | [] => (dot_nil_left []).ge
  | a :: xs => by
    rw [dot_cons]
    exact add_nonneg (mul_self_nonneg a) (dot_self_nonneg xs)

theorem dot_comm : ∀ xs ys : List Rat, dot xs ys = dot ys xs
  | [], ys => by rw [dot_nil_left, dot_nil_right]
  | _ :: _, [] => by rw [dot_nil_left, dot_nil_right]
  | a :: xs, b :: ys => by rw [dot_cons, dot_cons, dot_comm xs ys, mul_comm]

theorem dot_map_mul_right (a : Rat) : ∀ u v : List Rat,
    dot u (v.map (fun t => a * t)) = a * dot u v
  | [], v => by simp [dot_nil_left]
  | _ :: _, [] => by simp [dot_nil_right]
  | p :: u, q :: v => by
    simp only [List.map_cons, dot_cons, dot_map_mul_right a u v]; ring

theorem dot_map_mul_left (a : Rat) (u v : List Rat) :
    dot (u.map (fun t => a * t)) v = a * dot u v := by
  rw [dot_comm, dot_map_mul_right, dot_comm]

/-- the quadratic form of the Gram matrix of two lists is positive semidefinite -/
theorem dot_quadratic_nonneg (s t : Rat) (xs ys : List Rat) :
    0 ≤ s * s * dot xs xs + 2 * s * t * dot xs ys + t * t * dot ys ys := by
  induction xs generalizing ys with
  | nil =>
    rw [dot_nil_left, dot_nil_left, mul_zero, mul_zero, zero_add, zero_add]
    exact mul_nonneg (mul_self_nonneg t) (dot_self_nonneg ys)
  | cons a xs ih =>
    cases ys with
    | nil =>
      rw [dot_nil_right, dot_nil_right, mul_zero, mul_zero, add_zero, add_zero]
      exact mul_nonneg (mul_self_nonneg s) (dot_self_nonneg _)
    | cons b ys =>
      rw [dot_cons, dot_cons, dot_cons]
      linarith [ih ys, mul_self_nonneg (s * a + t * b)]

/-- no length hypothesis: `dot` truncates to the shorter list -/
theorem cauchy_schwarz (xs ys : List Rat) : dot xs ys ^ 2 ≤ dot xs xs * dot ys ys := by
  induction xs generalizing ys with
  | nil => simp [dot_nil_left]
  | cons a xs ih =>
    cases ys with
    | nil => simp [dot_nil_right]
    | cons b ys =>
      rw [dot_cons, dot_cons, dot_cons]
      -- the difference of the two sides is the form above on the tails at `(b, -a)` plus the
      -- difference for the tails
      linarith [ih ys, dot_quadratic_nonneg b (-a) xs ys]

/-! ### `mean`, `center` -/

theorem sum_map_affine (a b : Rat) : ∀ x : List Rat,
    (x.map (fun v => a * v + b)).sum = a * x.sum + b * (x.length : Rat)
  | [] => by simp
  | v :: x => by
    simp only [List.map_cons, List.sum_cons, List.length_cons, sum_map_affine a b x]
    push_cast; ring

theorem mean_map_affine (a b : Rat) (x : List Rat) (hx : x ≠ []) :
    mean (x.map (fun v => a * v + b)) = a * mean x + b := by
  have hn : (x.length : Rat) ≠ 0 := Nat.cast_ne_zero.2 (mt List.eq_nil_of_length_eq_zero hx)
  unfold mean
  rw [sum_map_affine, List.length_map]
  field_simp

theorem center_map_affine (a b : Rat) (x : List Rat) :
    center (x.map (fun v => a * v + b)) = (center x).map (fun v => a * v) := by
  rcases eq_or_ne x [] with rfl | hx
  · rfl
  unfold center
  rw [mean_map_affine a b x hx, List.map_map, List.map_map]
  apply List.map_congr_left
  intro v _
  simp only [Function.comp]
  ring

theorem map_center_add_mean (y : List Rat) : (center y).map (· + mean y) = y := by
  rw [center, List.map_map]
  simp [Function.comp_def]

/-! ### `cov`, `var`, `normSq`, `corrSsq` -/

theorem var_nonneg (x : List Rat) : 0 ≤ var x := dot_self_nonneg _

theorem cov_sq_le (x y : List Rat) : cov x y ^ 2 ≤ var x * var y := cauchy_schwarz _ _

theorem cov_comm (x y : List Rat) : cov x y = cov y x := dot_comm _ _

theorem var_pos_of_ne {x : List Rat} (h : var x ≠ 0) : 0 < var x :=
  lt_of_le_of_ne (var_nonneg x) (Ne.symm h)

theorem normSq_of_var_ne {x : List Rat} (h : var x ≠ 0) : normSq x = var x := if_neg h

theorem normSq_pos (x : List Rat) : 0 < normSq x := by
  unfold normSq
  split
  · exact one_pos
  · next h => exact var_pos_of_ne h

theorem var_le_normSq (x : List Rat) : var x ≤ normSq x := by
  unfold normSq
  split
  · next h => rw [h]; exact zero_le_one
  · exact le_refl _

theorem cov_sq_le_normSq (x y : List Rat) : cov x y ^ 2 ≤ normSq x * normSq y :=
  (cov_sq_le x y).trans
    (mul_le_mul (var_le_normSq x) (var_le_normSq y) (var_nonneg y) (normSq_pos x).le)

theorem cov_eq_zero_of_var_left {x : List Rat} (y : List Rat) (h : var x = 0) : cov x y = 0 := by
  have := cov_sq_le x y
  rw [h, zero_mul] at this
  exact pow_eq_zero_iff (two_ne_zero) |>.1 (le_antisymm this (sq_nonneg _))

theorem abs_corrSsq (x y : List Rat) :
    |corrSsq x y| = cov x y * cov x y / (normSq x * normSq y) := by
  have hN := (mul_pos (normSq_pos x) (normSq_pos y)).le
  have hc := mul_self_nonneg (cov x y)
  by_cases h : 0 ≤ cov x y
  · rw [corrSsq, if_pos h, abs_of_nonneg (div_nonneg hc hN)]
  · rw [corrSsq, if_neg h, neg_div, abs_neg, abs_of_nonneg (div_nonneg hc hN)]

theorem abs_corrSsq_le_one (x y : List Rat) : |corrSsq x y| ≤ 1 := by
  rw [abs_corrSsq, div_le_one (mul_pos (normSq_pos x) (normSq_pos y)), ← sq]
  exact cov_sq_le_normSq x y

theorem corrSsq_le_one (x y : List Rat) : corrSsq x y ≤ 1 := (abs_le.1 (abs_corrSsq_le_one x y)).2

theorem neg_one_le_corrSsq (x y : List Rat) : -1 ≤ corrSsq x y :=
  (abs_le.1 (abs_corrSsq_le_one x y)).1

theorem corrSsq_const_left (x y : List Rat) (h : var x = 0) : corrSsq x y = 0 := by
  rw [← abs_eq_zero, abs_corrSsq, cov_eq_zero_of_var_left y h, zero_mul, zero_div]

theorem corrSsq_const_right (x y : List Rat) (h : var y = 0) : corrSsq x y = 0 := by
  rw [← abs_eq_zero, abs_corrSsq, cov_comm, cov_eq_zero_of_var_left x h, zero_mul, zero_div]

theorem corrSsq_eq_one_iff (x y : List Rat) :
    corrSsq x y = 1 ↔ 0 < cov x y ∧ cov x y * cov x y = var x * var y := by
  by_cases hx : var x = 0
  · rw [corrSsq_const_left x y hx, cov_eq_zero_of_var_left y hx]
    simp
  by_cases hy : var y = 0
  · rw [corrSsq_const_right x y hy, cov_comm, cov_eq_zero_of_var_left x hy]
    simp
  have hN : var x * var y ≠ 0 := mul_ne_zero hx hy
  unfold corrSsq
  rw [normSq_of_var_ne hx, normSq_of_var_ne hy, div_eq_one_iff_eq hN]
  have hpos := mul_pos (var_pos_of_ne hx) (var_pos_of_ne hy)
  split
  · next h0 =>
    constructor
    · intro h
      refine ⟨lt_of_le_of_ne h0 ?_, h⟩
      rintro h'
      rw [← h', zero_mul] at h
      exact hN h.symm
    · exact fun h => h.2
  · next hneg =>
    constructor
    · intro h
      linarith [mul_self_nonneg (cov x y)]
    · exact fun h => absurd h.1.le hneg

theorem corrSsq_self (x : List Rat) (h : var x ≠ 0) : corrSsq x x = 1 :=
  (corrSsq_eq_one_iff x x).2 ⟨var_pos_of_ne h, rfl⟩

/-! ### equality case of Cauchy–Schwarz: perfect correlation = positive affine image -/

theorem corrSsq_affine (x : List Rat) (a b : Rat) (ha : 0 < a) (hx : var x ≠ 0) :
    corrSsq x (x.map (fun v => a * v + b)) = 1 := by
  have hc : cov x (x.map (fun v => a * v + b)) = a * var x := by
    unfold cov; rw [center_map_affine a b x, dot_map_mul_right]; rfl
  have hv : var (x.map (fun v => a * v + b)) = a * a * var x := by
    unfold var cov; rw [center_map_affine a b x, dot_map_mul_right, dot_map_mul_left, mul_assoc]
  rw [corrSsq_eq_one_iff, hc, hv]
  exact ⟨mul_pos ha (var_pos_of_ne hx), by ring⟩

/-- `‖v - a·u‖²` expanded -/
theorem dot_residual (a : Rat) : ∀ u v : List Rat, u.length = v.length →
    dot (List.zipWith (fun q p => q - a * p) v u) (List.zipWith (fun q p => q - a * p) v u) =
      dot v v - 2 * a * dot u v + a * a * dot u u
  | [], [], _ => by simp [dot]
  | [], _ :: _, h => nomatch h
  | _ :: _, [], h => nomatch h
  | p :: u, q :: v, h => by
    rw [List.zipWith_cons_cons, dot_cons, dot_cons, dot_cons, dot_cons,
      dot_residual a u v (Nat.succ.inj h)]
    ring

/-- a sum of squares that is zero is zero termwise -/
theorem eq_map_of_residual_zero (a : Rat) : ∀ u v : List Rat, u.length = v.length →
    dot (List.zipWith (fun q p => q - a * p) v u) (List.zipWith (fun q p => q - a * p) v u) = 0 →
    v = u.map (fun p => a * p)
  | [], [], _, _ => rfl
  | [], _ :: _, h, _ => nomatch h
  | _ :: _, [], h, _ => nomatch h
  | p :: u, q :: v, h, hz => by
    rw [List.zipWith_cons_cons, dot_cons] at hz
    obtain ⟨h0, hz'⟩ := (add_eq_zero_iff_of_nonneg (mul_self_nonneg _) (dot_self_nonneg _)).1 hz
    rw [List.map_cons, eq_map_of_residual_zero a u v (Nat.succ.inj h) hz',
      sub_eq_zero.1 (mul_self_eq_zero.1 h0)]

/-- equality in Cauchy–Schwarz forces proportionality: if `a·⟨u,u⟩ = ⟨u,v⟩` and
    `a·⟨u,v⟩ = ⟨v,v⟩` the residual `v - a·u` has norm 0 -/
theorem eq_map_of_dot_eq (a : Rat) (u v : List Rat) (hlen : u.length = v.length)
    (h1 : a * dot u u = dot u v) (h2 : a * dot u v = dot v v) : v = u.map (fun p => a * p) := by
  apply eq_map_of_residual_zero a u v hlen
  rw [dot_residual a u v hlen, mul_assoc a a, h1, mul_assoc 2 a, h2]
  ring

theorem affine_of_corrSsq_eq_one (x y : List Rat) (hlen : x.length = y.length)
    (h : corrSsq x y = 1) : ∃ a b : Rat, 0 < a ∧ y = x.map (fun v => a * v + b) := by
  obtain ⟨hpos, heq⟩ := (corrSsq_eq_one_iff x y).1 h
  have hx : var x ≠ 0 := fun h0 => hpos.ne' (cov_eq_zero_of_var_left y h0)
  -- the regression line of `y` on `x`: slope `cov / var x`, through the two means
  refine ⟨cov x y / var x, mean y - cov x y / var x * mean x, div_pos hpos (var_pos_of_ne hx), ?_⟩
  -- the centred rows are proportional with that slope
  have hc := eq_map_of_dot_eq (cov x y / var x) (center x) (center y) (by simp [center, hlen])
    (div_mul_cancel₀ _ hx)
    (show cov x y / var x * cov x y = var y by
      rw [div_mul_eq_mul_div, heq, mul_div_cancel_left₀ _ hx])
  refine (map_center_add_mean y).symm.trans ?_
  rw [hc, center, List.map_map, List.map_map]
  apply List.map_congr_left
  intro v _
  simp only [Function.comp]
  ring

/-! ### the signed square `r * |r|`

`corrSsq x y` is the signed square of the Pearson correlation of `x` and `y`.  `r` is a signed
root of `s` when `r * |r| = s`; the map is strictly monotone, so the arg-max taken on `corrSsq`
is the arg-max of the correlations, and bounds on `corrSsq` are bounds on them. -/

theorem signed_square_strictMono : StrictMono fun r : Rat => r * |r| := by
  intro r r' h
  show r * |r| < r' * |r'|
  rcases le_or_gt 0 r with hr | hr
  · rw [abs_of_nonneg hr, abs_of_nonneg (hr.trans h.le)]
    exact mul_self_lt_mul_self hr h
  · rcases le_or_gt 0 r' with hr' | hr'
    · exact (mul_neg_of_neg_of_pos hr (abs_pos.2 hr.ne)).trans_le (mul_nonneg hr' (abs_nonneg _))
    · rw [abs_of_neg hr, abs_of_neg hr', mul_neg, mul_neg, neg_lt_neg_iff, ← neg_mul_neg r,
        ← neg_mul_neg r']
      exact mul_self_lt_mul_self (neg_nonneg.2 hr'.le) (neg_lt_neg h)

theorem signed_square_lt_iff (r r' : Rat) : r * |r| < r' * |r'| ↔ r < r' :=
  signed_square_strictMono.lt_iff_lt

theorem signed_square_le_iff (r r' : Rat) : r * |r| ≤ r' * |r'| ↔ r ≤ r' :=
  signed_square_strictMono.le_iff_le

theorem signed_root_one (r : Rat) (h : r * |r| = 1) : r = 1 :=
  signed_square_strictMono.injective (by simpa using h)

theorem signed_root_range (r s : Rat) (h : r * |r| = s) (h1 : -1 ≤ s) (h2 : s ≤ 1) :
    -1 ≤ r ∧ r ≤ 1 := by
  subst h
  constructor
  · rw [← signed_square_le_iff]; simpa using h1
  · rw [← signed_square_le_iff]; simpa using h2

/-! ### `pick` -/

theorem pick_length (s : List Nat) (v : List Rat) : (pick s v).length = s.length :=
  List.length_map _

theorem pick_getElem? (s : List Nat) (v : List Rat) (j r : Nat) (hj : s[j]? = some r) :
    (pick s v)[j]? = some (v.getD r 0) := by
  rw [pick, List.getElem?_map, hj]; rfl

/-! ### `argmaxFirst`, `nearestLeaf` -/

/-- the `numpy.argmax` scan computes a `FirstMax`, one list element at a time -/
theorem argmaxAux_spec (xs : List Rat) : ∀ (pre : List Rat) (b : Nat) (bv : Rat),
    ListAux.FirstMax id pre b bv → ∃ rv, ListAux.FirstMax id (pre ++ xs) (argmaxAux b bv pre.length xs) rv := by
  induction xs with
  | nil => intro pre b bv h; exact ⟨bv, by simpa [argmaxAux] using h⟩
  | cons x xs ih =>
    intro pre b bv h
    rw [argmaxAux]
    split
    · next hlt => simpa using ih (pre ++ [x]) pre.length x (h.snoc_gt x hlt)
    · next hle => simpa using ih (pre ++ [x]) b bv (h.snoc_le x (not_lt.1 hle))

theorem argmaxFirst_spec (l : List Rat) (i : Nat) (h : argmaxFirst l = some i) :
    ∃ v, ListAux.FirstMax id l i v := by
  cases l with
  | nil => cases h
  | cons x xs =>
    cases h
    exact argmaxAux_spec xs [x] 0 x (.singleton id x)

theorem argmaxFirst_eq_none (l : List Rat) : argmaxFirst l = none ↔ l = [] := by
  cases l <;> simp [argmaxFirst]

theorem nearestLeaf_spec (refs : List (List Rat)) (x : List Rat) (i : Nat) (s : Rat)
    (h : nearestLeaf refs x = some (i, s)) :
    ∃ hi : i < refs.length, s = corrSsq refs[i] x ∧
      (∀ (j : Nat) (hj : j < refs.length), corrSsq refs[j] x ≤ s) ∧
      (∀ (j : Nat) (hj : j < refs.length), j < i → corrSsq refs[j] x < s) := by
  unfold nearestLeaf at h
  simp only at h
  split at h
  · cases h
  · next k hk =>
    cases h
    obtain ⟨v, hv, hmax⟩ := argmaxFirst_spec _ _ hk
    rw [List.getD_eq_getElem?_getD, hv, Option.getD_some]
    obtain ⟨hi, rfl⟩ := List.getElem?_eq_some_iff.1 hv
    rw [List.length_map] at hi
    have key := fun j (hj : j < refs.length) => hmax j (corrSsq refs[j] x) (by simp [hj])
    exact ⟨hi, List.getElem_map _, fun j hj => (key j hj).1, fun j hj => (key j hj).2⟩

theorem nearestLeaf_eq_none (refs : List (List Rat)) (x : List Rat) :
    nearestLeaf refs x = none ↔ refs = [] := by
  unfold nearestLeaf
  simp only
  split
  · next h => rw [argmaxFirst_eq_none] at h; simpa using h
  · next k hk =>
    constructor
    · intro h; cases h
    · intro h; subst h; simp [argmaxFirst] at hk

/-- the one row with signed squared correlation 1 is the row returned -/
theorem nearestLeaf_of_unique_one (refs : List (List Rat)) (x : List Rat) (l : Nat)
    (hl : l < refs.length) (h1 : corrSsq refs[l] x = 1)
    (hother : ∀ (j : Nat) (hj : j < refs.length), j ≠ l → corrSsq refs[j] x ≠ 1) :
    nearestLeaf refs x = some (l, 1) := by
  cases hn : nearestLeaf refs x with
  | none =>
    rw [(nearestLeaf_eq_none refs x).1 hn] at hl
    cases hl
  | some r =>
    obtain ⟨i, s⟩ := r
    obtain ⟨hi, hs, hmax, _⟩ := nearestLeaf_spec refs x i s hn
    -- `s` is the largest correlation, at most 1 and at least that of `l`
    have hs1 : s = 1 := le_antisymm (hs ▸ corrSsq_le_one refs[i] x) (h1 ▸ hmax l hl)
    have hil : i = l := by
      by_contra hne
      exact hother i hi hne (hs.symm.trans hs1)
    rw [hil, hs1]

/-! ### rounding -/

theorem roundHalfEven_eq_rhe : roundHalfEven = Round.rhe := rfl

theorem roundHalfEven_spec (q : Rat) :
    |((roundHalfEven q : Int) : Rat) - q| ≤ 1 / 2 ∧
    (|((roundHalfEven q : Int) : Rat) - q| = 1 / 2 → roundHalfEven q % 2 = 0) := by
  rw [roundHalfEven_eq_rhe]
  refine ⟨Round.rhe_error q, fun ht => (Round.rhe_tie_even q q.floor ?_).1⟩
  -- an error of one half in either direction means the fractional part is one half
  rcases Round.rhe_floor_or q with ⟨e, _⟩ | ⟨e, _⟩
  · rw [e, abs_sub_comm, abs_of_nonneg (sub_nonneg.2 (Rat.floor_le q))] at ht
    exact sub_eq_iff_eq_add'.1 ht
  · have h2 : q < ((q.floor + 1 : Int) : Rat) := Rat.lt_floor_add_one q
    rw [e, abs_of_nonneg (sub_nonneg.2 h2.le), Int.cast_add, Int.cast_one] at ht
    exact (eq_sub_of_add_eq (sub_eq_iff_eq_add'.1 ht).symm).trans (by ring)

theorem roundHalfEven_intCast (n : Int) : roundHalfEven (n : Rat) = n := Round.rhe_intCast n

theorem roundHalfEven_natCast (n : Nat) : roundHalfEven (n : Rat) = (n : Int) :=
  roundHalfEven_intCast n

theorem roundHalfEven_le_of_le_nat (q : Rat) (n : Nat) (h : q ≤ (n : Rat)) :
    roundHalfEven q ≤ (n : Int) :=
  (Round.rhe_mono h).trans_eq (roundHalfEven_natCast n)

theorem roundHalfEven_nonneg (q : Rat) (h : 0 ≤ q) : 0 ≤ roundHalfEven q :=
  (roundHalfEven_intCast 0).symm.trans_le (Round.rhe_mono (by simpa using h))

/-! ### the bootstrap size -/

theorem bootstrapSize_of_pos (p : Rat) {n : Nat} (hn : 0 < n) :
    bootstrapSize p n = max (roundHalfEven p) 1 :=
  if_pos hn

end CTM.Numeric

/-! ### bootstrap factor 1 (in `CTM.LevelLoop`, where `Props/C06` reads them) -/

namespace CTM.LevelLoop
open CTM.Numeric

/-- with factor 1 (the float product `1.0 * n` is `n` exactly) every draw has size `n` -/
theorem drawSize_factor_one (n : Nat) (hn : 0 < n) : drawSize (n : Rat) n = .ok n := by
  have hb : bootstrapSize (n : Rat) n = (n : Int) := by
    rw [bootstrapSize_of_pos _ hn, roundHalfEven_natCast]
    omega
  simp only [drawSize, hb]
  have h1 : ¬ ((n : Int) < 0) := by omega
  simp [h1]

/-- bootstrap factor 1 forces the subset: the only sorted duplicate-free subset of size `n` of
the `n` marker indices is all of them -/
theorem full_subset_unique (n : Nat) (s : List Nat) (h : subsetOk n n s = true) :
    s = List.range n := by
  simp only [subsetOk, Bool.and_eq_true, beq_iff_eq, List.all_eq_true, decide_eq_true_eq] at h
  obtain ⟨⟨hlen, hlt⟩, hp⟩ := h
  -- `n` distinct elements of `range n` are a permutation of it, and both lists are sorted
  have hperm : s.Perm (List.range n) :=
    (List.subperm_of_subset (hp.imp Nat.ne_of_lt) fun y hy => List.mem_range.2 (hlt y hy))
      |>.perm_of_length_le (by rw [hlen, List.length_range])
  exact hperm.eq_of_pairwise (fun a b _ _ hab hba => absurd hba (Nat.lt_asymm hab)) hp
    List.pairwise_lt_range

end CTM.LevelLoop
