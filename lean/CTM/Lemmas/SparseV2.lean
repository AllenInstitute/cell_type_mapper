/-
  The arrays the transposition writes.  `canonOut F n` has two faces: its pointer array is given
  by counts (`countP (·.minor < k)`), which is what the counting pass computes
  (`transposeOnDisk_eq_canonOut`), and it is `ofSegs` of the buckets by minor index (`canonOut_eq_ofSegs`),
  through which everything else is proved: under `WFptr` it is again well formed and denotes the
  transposed matrix (`transposeOnDisk_spec`); an index sub-range writes the buckets of that range
  (`canonOut_sliceEntries`), hence the parallel transposition (`transposeV2_eq`).  Last, the
  chunked copies of the file-level operations.
-/
import CTM.Lemmas.SparseDisjoint

namespace CTM.Sparse
open CTM.Chunking

/-! ### the sizes of the buckets of `bucketSpec` -/

theorem filter_minor_length {α} (F : List (Entry α)) (v : Nat) :
    (F.filter (·.minor == v)).length = (F.map (·.minor)).count v := by
  rw [List.count_eq_countP, List.countP_map, List.countP_eq_length_filter]
  rfl

theorem countP_minor_succ {α} (F : List (Entry α)) (v : Nat) :
    F.countP (·.minor < v + 1) = F.countP (·.minor < v) + (F.filter (·.minor == v)).length := by
  have := ListAux.countP_lt_succ (F.map (·.minor)) v
  rw [List.countP_map, List.countP_map] at this
  rw [filter_minor_length]
  exact this

theorem bucket_lengths_sum {α} (F : List (Entry α)) (n k : Nat) (hk : k ≤ n) :
    ((((List.range n).map fun v => F.filter (·.minor == v)).take k).map List.length).sum
      = F.countP (·.minor < k) := by
  rw [← List.map_take, List.take_range, Nat.min_eq_left hk, List.map_map]
  have : (List.length ∘ fun v => F.filter (·.minor == v))
      = fun v => (F.map (·.minor)).count v := by
    funext v
    simp only [Function.comp]
    exact filter_minor_length F v
  rw [this, ListAux.sum_counts_lt, List.countP_map]
  rfl

theorem bucketSpec_length {α} (F : List (Entry α)) (n : Nat) :
    (bucketSpec F n).length = F.countP (·.minor < n) := by
  unfold bucketSpec
  rw [List.flatMap_def, List.length_flatten, ← bucket_lengths_sum F n n (Nat.le_refl _)]
  rw [List.take_of_length_le (by simp)]

theorem countP_minor_all {α} (F : List (Entry α)) (n : Nat) (h : ∀ e ∈ F, e.minor < n) :
    F.countP (·.minor < n) = F.length := by
  rw [List.countP_eq_length]
  intro e he
  simpa using h e he

theorem mem_bucketSpec {α} (F : List (Entry α)) (n : Nat) : ∀ e ∈ bucketSpec F n, e ∈ F := by
  intro e he
  obtain ⟨v, _, hv⟩ := List.mem_flatMap.mp he
  exact (List.mem_filter.mp hv).1

/-! ### `canonOut`: the arrays `transposeOnDisk` writes, and how the pointer array cuts them -/

/-- the transposed arrays of a list of entries: pointer `k` counts the entries with minor index
`< k`; indices / data are the major indices / values of `bucketSpec` -/
def canonOut {α} (F : List (Entry α)) (n : Nat) : Mat α :=
  ⟨(List.range (n + 1)).map (fun k => F.countP (·.minor < k)),
   (bucketSpec F n).map (·.major), (bucketSpec F n).map (·.val)⟩

theorem transposeOnDisk_eq_canonOut {α} (M : Mat α) (imax : Nat) (sl : Option (Nat × Nat)) (B : Budget)
    (hlo : 1 ≤ B.lo) (hc : 1 ≤ B.loCount) (hlen : M.data.length = M.indices.length)
    (hr : ∀ x ∈ sliceMinors sl M.indices, x < nMinorOf imax sl) :
    transposeOnDisk M imax sl B
      = .ok (canonOut (sliceEntries sl (entriesOf M)) (nMinorOf imax sl)) := by
  unfold transposeOnDisk
  rw [calcIndptr_ok M.indices imax sl B.loCount hc hr]
  simp only [bind, Except.bind, pure, Except.pure]
  rw [transposeEntries_eq_bucketSpec _ _ _ _ _ hlo (entriesOf_majorsSorted M)]
  simp only [List.length_map, List.length_range, Nat.add_sub_cancel]
  unfold canonOut
  congr 2
  apply List.map_congr_left
  intro k _
  rw [← entriesOf_map_minor M hlen, ← sliceEntries_map_minor, List.countP_map]
  rfl

theorem transposeOnDisk_lengths {α} (M : Mat α) (imax : Nat) (sl : Option (Nat × Nat))
    (B : Budget) (P : Mat α) (h : transposeOnDisk M imax sl B = .ok P) :
    P.data.length = P.indices.length := by
  unfold transposeOnDisk at h
  cases hc : calcIndptr M.indices imax sl B.loCount with
  | error e => rw [hc] at h; cases h
  | ok r =>
    rw [hc] at h
    simp only [bind, Except.bind, pure, Except.pure, Except.ok.injEq] at h
    subst h
    simp

def bucketSeg {α} (F : List (Entry α)) (v : Nat) : Seg α :=
  ((F.filter (·.minor == v)).map (·.major), (F.filter (·.minor == v)).map (·.val))

theorem segsOK_map_bucketSeg {α} (F : List (Entry α)) (l : List Nat) : SegsOK (l.map (bucketSeg F)) := by
  intro s hs
  rw [List.mem_map] at hs
  obtain ⟨v, _, rfl⟩ := hs
  simp [bucketSeg]

theorem canonOut_eq_ofSegs {α} (F : List (Entry α)) (n : Nat) :
    canonOut F n = ofSegs ((List.range n).map (bucketSeg F)) := by
  unfold canonOut ofSegs
  simp only [List.length_map, List.length_range]
  congr 1
  · apply List.map_congr_left
    intro k hk
    rw [List.mem_range] at hk
    unfold segPrefix
    rw [← bucket_lengths_sum F n k (by omega)]
    rw [← List.map_take, ← List.map_take, List.map_map, List.map_map]
    congr 1
    apply List.map_congr_left
    intro v _
    simp [bucketSeg]
  · unfold bucketSpec
    rw [List.map_flatMap, List.flatMap_def, List.flatMap_def, List.map_map]
    rfl
  · unfold bucketSpec
    rw [List.map_flatMap, List.flatMap_def, List.flatMap_def, List.map_map]
    rfl

theorem canonOut_slice {α} (F : List (Entry α)) (n v : Nat) (hv : v < n) :
    slice (canonOut F n).indices (ptr (canonOut F n).indptr v) (ptr (canonOut F n).indptr (v + 1))
        = (F.filter (·.minor == v)).map (·.major)
    ∧ slice (canonOut F n).data (ptr (canonOut F n).indptr v) (ptr (canonOut F n).indptr (v + 1))
        = (F.filter (·.minor == v)).map (·.val) := by
  have h := segOf_ofSegs ((List.range n).map (bucketSeg F)) (segsOK_map_bucketSeg F _) v (by simpa using hv)
  rw [← canonOut_eq_ofSegs, List.getElem_map, List.getElem_range] at h
  exact Prod.ext_iff.mp h

theorem canonOut_lengths {α} (F : List (Entry α)) (n : Nat) (h : ∀ e ∈ F, e.minor < n) :
    (canonOut F n).indices.length = F.length ∧ (canonOut F n).data.length = F.length := by
  unfold canonOut
  simp only [List.length_map, bucketSpec_length, countP_minor_all F n h, and_self]

theorem canonOut_wf {α} (F : List (Entry α)) (n : Nat) (h : ∀ e ∈ F, e.minor < n) :
    WFptr (canonOut F n).indptr n F.length := by
  have w := ofSegs_wf ((List.range n).map (bucketSeg F))
  rwa [← canonOut_eq_ofSegs, List.length_map, List.length_range, (canonOut_lengths F n h).1] at w

theorem canonOut_indices_lt {α} (M : Mat α) (nMajor n : Nat)
    (w : WFptr M.indptr nMajor M.indices.length) :
    ∀ x ∈ (canonOut (entriesOf M) n).indices, x < nMajor := by
  intro x hx
  obtain ⟨e, he, rfl⟩ := List.mem_map.mp hx
  exact entriesOf_major_lt M nMajor w e (mem_bucketSpec _ _ e he)

theorem bucketSeg_fst_pairwise_lt {α} (F : List (Entry α)) (hs : MajorsSorted F)
    (hu : UniqueCoords F) (v : Nat) : (bucketSeg F v).1.Pairwise (· < ·) := by
  rw [bucketSeg, List.pairwise_map]
  have hboth : F.Pairwise (fun a b => (decide (a.major ≤ b.major)) = true
      ∧ ¬ (a.major = b.major ∧ a.minor = b.minor)) := List.Pairwise.and hs hu
  have hf := List.Pairwise.filter (fun e : Entry α => e.minor == v) hboth
  rw [List.pairwise_filter] at hf
  rw [List.pairwise_filter]
  apply List.Pairwise.imp _ hf
  intro a b hab ha hb
  have := hab ha hb
  simp only [decide_eq_true_eq, beq_iff_eq] at this ha hb
  have h2 := this.2
  have : a.major ≠ b.major := fun h => h2 ⟨h, by omega⟩
  omega

theorem canonOut_toDense {α} (zero : α) (M : Mat α) (nMajor nMinor : Nat)
    (w : WFptr M.indptr nMajor M.indices.length) :
    toDense zero (canonOut (entriesOf M) nMinor) nMinor nMajor
      = transposeDense zero (toDense zero M nMajor nMinor) nMinor := by
  unfold toDense transposeDense
  apply List.map_congr_left
  intro v hv
  rw [List.mem_range] at hv
  rw [List.map_map]
  apply List.ext_getElem
  · simp [rowSpec, scatter_length]
  · intro i h1 h2
    have hi : i < nMajor := by simpa [rowSpec, scatter_length] using h1
    rw [List.getElem_eq_getD zero]
    simp only [List.getElem_map, List.getElem_range, Function.comp]
    unfold rowSpec
    obtain ⟨e1, e2⟩ := canonOut_slice (entriesOf M) nMinor v hv
    -- cell `(v, i)` is on both sides `lastVal` over the entries with `minor = v ∧ major = i`;
    -- the two sides apply the two filters in opposite order
    rw [e1, e2, scatter_getD zero _ _ _ _ hi, scatter_getD zero _ _ _ _ hv]
    rw [← entriesOf_filter_major M nMajor w i hi]
    rw [List.zip_map', lastVal_map zero _ (·.major) i, lastVal_map zero _ (·.minor) v]
    rw [List.filter_filter, List.filter_filter]
    have : (fun a : Entry α => (a.major == i) && (a.minor == v))
        = (fun a => (a.minor == v) && (a.major == i)) := by
      funext a; exact Bool.and_comm _ _
    rw [this]

theorem transposeOnDisk_spec {α} (zero : α) (M : Mat α) (nMajor nMinor : Nat) (B : Budget)
    (hlo : 1 ≤ B.lo) (hc : 1 ≤ B.loCount)
    (w : WFptr M.indptr nMajor M.indices.length) (hlen : M.data.length = M.indices.length)
    (hr : ∀ x ∈ M.indices, x < nMinor) :
    ∃ out, transposeOnDisk M nMinor none B = .ok out ∧
      WFptr out.indptr nMinor out.indices.length ∧ out.data.length = out.indices.length ∧
      (∀ x ∈ out.indices, x < nMajor) ∧
      toDense zero out nMinor nMajor
        = transposeDense zero (toDense zero M nMajor nMinor) nMinor := by
  have hE := entriesOf_minor_lt M nMinor hlen hr
  have hl := canonOut_lengths (entriesOf M) nMinor hE
  refine ⟨canonOut (entriesOf M) nMinor, transposeOnDisk_eq_canonOut M nMinor none B hlo hc hlen hr,
    ?_, by rw [hl.1, hl.2], canonOut_indices_lt M nMajor nMinor w,
    canonOut_toDense zero M nMajor nMinor w⟩
  rw [hl.1]
  exact canonOut_wf _ _ hE

/-! ### an index sub-range; the parallel transposition -/

theorem bucketSeg_slice {α} (E : List (Entry α)) (a b v : Nat) (hv : v < b - a) :
    bucketSeg (sliceEntries (some (a, b)) E) v = bucketSeg E (a + v) := by
  have key : (sliceEntries (some (a, b)) E).filter (·.minor == v)
      = (E.filter (·.minor == a + v)).map fun e => { e with minor := e.minor - a } := by
    unfold sliceEntries
    simp only
    rw [List.filter_map, List.filter_filter]
    congr 1
    apply List.filter_congr
    intro e _
    simp only [Function.comp]
    apply Bool.eq_iff_iff.mpr
    simp only [Bool.and_eq_true, beq_iff_eq, decide_eq_true_eq]
    omega
  unfold bucketSeg
  rw [key, List.map_map, List.map_map]
  rfl

theorem canonOut_sliceEntries {α} (E : List (Entry α)) (a b : Nat) :
    canonOut (sliceEntries (some (a, b)) E) (b - a) = ofSegs ((rangeOf (a, b)).map (bucketSeg E)) := by
  rw [canonOut_eq_ofSegs, rangeOf_eq_map, List.map_map]
  exact congrArg ofSegs
    (List.map_congr_left fun v hv => bucketSeg_slice E a b v (List.mem_range.mp hv))

theorem toDense_ofSegs_map_bucketSeg {α} (zero : α) (F : List (Entry α)) (l : List Nat) (m : Nat) :
    toDense zero (ofSegs (l.map (bucketSeg F))) l.length m
      = l.map fun v => scatter zero m (bucketSeg F v).1 (bucketSeg F v).2 := by
  have := toDense_ofSegs zero (l.map (bucketSeg F)) (segsOK_map_bucketSeg F l) m
  rwa [List.length_map, List.map_map] at this

theorem canonOut_sliceEntries_toDense {α} (zero : α) (M : Mat α) (nMajor nMinor : Nat)
    (w : WFptr M.indptr nMajor M.indices.length) (a b : Nat) (hb : b ≤ nMinor) :
    toDense zero (canonOut (sliceEntries (some (a, b)) (entriesOf M)) (b - a)) (b - a) nMajor
      = slice (transposeDense zero (toDense zero M nMajor nMinor) nMinor) a b := by
  have h1 := toDense_ofSegs_map_bucketSeg zero (entriesOf M) (rangeOf (a, b)) nMajor
  have h2 := toDense_ofSegs_map_bucketSeg zero (entriesOf M) (List.range nMinor) nMajor
  rw [length_rangeOf] at h1
  rw [List.length_range] at h2
  rw [← canonOut_toDense zero M nMajor nMinor w, canonOut_sliceEntries, canonOut_eq_ofSegs, h1, h2,
    slice_map, slice_range hb]

theorem transposeV2_eq {α} (M : Mat α) (imax nProc : Nat) (B B' : Budget)
    (himax : 1 ≤ imax) (hp : 1 ≤ nProc)
    (hlo : 1 ≤ B.lo) (hc : 1 ≤ B.loCount) (hlo' : 1 ≤ B'.lo) (hc' : 1 ≤ B'.loCount)
    (hlen : M.data.length = M.indices.length) (hr : ∀ x ∈ M.indices, x < imax) :
    transposeV2 M imax nProc B = transposeOnDisk M imax none B' := by
  rw [transposeOnDisk_eq_canonOut M imax none B' hlo' hc' hlen hr]
  unfold transposeV2
  have hstep := ceilDiv_pos imax nProc himax hp
  have hz : (ceilDiv imax nProc == 0) = false := by simp; omega
  simp only [hz, Bool.false_eq_true, if_false, bind, Except.bind]
  -- every worker writes the buckets of its sub-range; the sub-ranges tile `[0, imax)`
  have hparts : (chunks imax (ceilDiv imax nProc)).mapM
        (fun sl => transposeOnDisk M imax (some sl) B)
      = .ok (((chunks imax (ceilDiv imax nProc)).map fun sl =>
          (rangeOf sl).map (bucketSeg (entriesOf M))).map ofSegs) := by
    rw [List.map_map]
    apply ListAux.mapM_eq_ok_map
    intro ⟨a, b⟩ _
    rw [transposeOnDisk_eq_canonOut M imax (some (a, b)) B hlo hc hlen (sliceMinors_lt imax a b _)]
    exact congrArg Except.ok (canonOut_sliceEntries _ a b)
  rw [hparts]
  simp only [pure, Except.pure, nMinorOf, sliceEntries]
  rw [joinParts_ofSegs _ (fun L hL => by
      obtain ⟨sl, _, rfl⟩ := List.mem_map.mp hL
      exact segsOK_map_bucketSeg _ _),
    canonOut_eq_ofSegs, ← List.flatMap_def, ← List.map_flatMap, chunks_flatMap_rangeOf imax _ hstep]

/-! ### chunked copies (`chunkCopy`, `tileCopy`) -/

theorem chunkCopy_id {β} (c : Nat) (l : List β) (hc : 1 ≤ c) : chunkCopy c l = l := by
  rw [chunkCopy, List.flatMap_def]
  exact sliceChunks_flatten l c hc

theorem tileCopy_id {β} (D : List (List β)) (m a b : Nat) (ha : 1 ≤ a) (hb : 1 ≤ b)
    (hrows : ∀ row ∈ D, row.length = m) :
    tileCopy (chunks D.length a) (chunks m b) D = D := by
  unfold tileCopy
  have hrow : ∀ row ∈ D, (chunks m b).flatMap (fun c => slice row c.1 c.2) = row := by
    intro row hrow'
    have := chunkCopy_id b row hb
    unfold chunkCopy at this
    rw [hrows row hrow'] at this
    exact this
  have h1 : ∀ r ∈ chunks D.length a,
      ((slice D r.1 r.2).map fun row => (chunks m b).flatMap fun c => slice row c.1 c.2)
        = slice D r.1 r.2 := by
    intro r _
    have : ∀ row ∈ slice D r.1 r.2, (chunks m b).flatMap (fun c => slice row c.1 c.2) = row :=
      fun row h => hrow row ((slice_sublist _ _ _).subset h)
    rw [List.map_congr_left this, List.map_id']
  rw [ListAux.flatMap_congr h1]
  exact chunkCopy_id a D ha

end CTM.Sparse
