/-
  `numpy.round` / `'%.4f'` on an exact value: round half to even.  The models `Numeric`, `Output`
  and `Validate` (none importing another) each carry a copy of the definition; each copy is `rhe`
  by `rfl` (`roundHalfEven_eq_rhe` in the lemma file of each), and the facts are proved here once,
  about `rhe`.  (`Sparse.roundHalfEven` tests parity with `==` and is only evaluated, never
  reasoned about.)  Nearest and monotone follow from the half-unit error bound `rhe_error`;
  exactness on integers and the tie rule are read off the definition.
-/
import Mathlib.Tactic.Linarith
import Mathlib.Tactic.Ring
import Mathlib.Algebra.Order.Ring.Rat
import Mathlib.Algebra.Order.Field.Rat
import Mathlib.Algebra.Order.Field.Basic

namespace CTM.Round

/-- the common body of `Numeric.roundHalfEven`, `Validate.roundHalfEven` (`numpy.round`) and
`Output.roundHalfEven` (`'%.4f'`) -/
def rhe (q : Rat) : Int :=
  let f := q.floor
  let r := q - (f : Rat)
  if r < 1 / 2 then f
  else if 1 / 2 < r then f + 1
  else if f % 2 = 0 then f else f + 1

theorem rhe_floor_or (q : Rat) :
    (rhe q = q.floor ∧ q - (q.floor : Rat) ≤ 1 / 2) ∨
    (rhe q = q.floor + 1 ∧ 1 / 2 ≤ q - (q.floor : Rat)) := by
  unfold rhe
  dsimp only
  split
  · exact .inl ⟨rfl, le_of_lt ‹_›⟩
  · split
    · exact .inr ⟨rfl, le_of_lt ‹_›⟩
    · split
      · exact .inl ⟨rfl, not_lt.mp ‹_›⟩
      · exact .inr ⟨rfl, not_lt.mp ‹_›⟩

theorem rhe_error (q : Rat) : |((rhe q : Int) : Rat) - q| ≤ 1 / 2 := by
  rcases rhe_floor_or q with ⟨e, h⟩ | ⟨e, h⟩ <;> rw [e]
  · rwa [abs_sub_comm, abs_of_nonneg (sub_nonneg.mpr (Rat.floor_le q))]
  · have h2 : q < ((q.floor + 1 : Int) : Rat) := Rat.lt_floor_add_one q
    rw [abs_of_nonneg (sub_nonneg.mpr h2.le)]
    push_cast
    calc (q.floor : Rat) + 1 - q = 1 - (q - q.floor) := by ring
      _ ≤ 1 - 1 / 2 := sub_le_sub_left h 1
      _ = 1 / 2 := by norm_num

/-- every other integer is at least 1 away from `r` -/
theorem nearest_of_abs_le_half {q : Rat} {r : Int} (h : |(r : Rat) - q| ≤ 1 / 2) (n : Int) :
    |(r : Rat) - q| ≤ |(n : Rat) - q| := by
  by_cases hn : n = r
  · rw [hn]
  · have h1 : (1 : Rat) ≤ |(n : Rat) - (r : Rat)| := by
      exact_mod_cast Int.one_le_abs (sub_ne_zero.mpr hn)
    have h2 := abs_sub_le (n : Rat) q r
    rw [abs_sub_comm q] at h2
    calc |(r : Rat) - q| ≤ 1 - 1 / 2 := h.trans (by norm_num)
      _ ≤ |(n : Rat) - r| - |(r : Rat) - q| := sub_le_sub h1 h
      _ ≤ |(n : Rat) - q| := sub_le_iff_le_add.mpr h2

theorem rhe_nearest (q : Rat) (n : Int) :
    |((rhe q : Int) : Rat) - q| ≤ |(n : Rat) - q| :=
  nearest_of_abs_le_half (rhe_error q) n

/-- monotone, from the error bound alone: `rhe y < rhe x` with `x ≤ y` would force `x = y` -/
theorem rhe_mono {x y : Rat} (h : x ≤ y) : rhe x ≤ rhe y := by
  by_contra hlt
  have h1 : ((rhe y : Int) : Rat) + 1 ≤ rhe x := by
    exact_mod_cast Int.add_one_le_of_lt (not_le.mp hlt)
  have hx := (abs_le.mp (rhe_error x)).2
  have hy := (abs_le.mp (rhe_error y)).1
  have : x = y := le_antisymm h (by linarith)
  subst this
  exact hlt le_rfl

theorem rhe_intCast (n : Int) : rhe (n : Rat) = n := by
  have h : (n : Rat) - ((n : Rat).floor : Rat) < 1 / 2 := by
    rw [Rat.floor_intCast, sub_self]; norm_num
  rw [rhe, if_pos h, Rat.floor_intCast]

theorem rhe_tie_even (q : Rat) (k : Int) (h : q = (k : Rat) + 1 / 2) :
    rhe q % 2 = 0 ∧ (rhe q = k ∨ rhe q = k + 1) := by
  have hf : q.floor = k :=
    le_antisymm
      (Int.lt_add_one_iff.mp (Rat.floor_lt_iff.mpr (by
        rw [h, Int.cast_add, Int.cast_one]; exact (add_lt_add_iff_left _).mpr (by norm_num))))
      (Rat.le_floor_iff.mpr (by rw [h]; exact le_add_of_nonneg_right (by norm_num)))
  have hq : q - (k : Rat) = 1 / 2 := by rw [h, add_sub_cancel_left]
  simp only [rhe, hf, hq, lt_irrefl, if_false]
  split
  · exact ⟨‹_›, .inl rfl⟩
  · exact ⟨by omega, .inr rfl⟩

/-! ### rounding at scale `c` (`'%.nf'` is `c = 10ⁿ`) -/

theorem abs_div_sub (a x : Rat) {c : Rat} (hc : 0 < c) : |a / c - x| = |a - x * c| / c := by
  have e : a / c - x = (a - x * c) / c := by rw [sub_div, mul_div_cancel_right₀ _ hc.ne']
  rw [e, abs_div, abs_of_pos hc]

theorem rhe_scaled_error (x : Rat) {c : Rat} (hc : 0 < c) :
    |((rhe (x * c) : Int) : Rat) / c - x| ≤ 1 / 2 / c := by
  rw [abs_div_sub _ _ hc]
  exact div_le_div_of_nonneg_right (rhe_error _) hc.le

theorem rhe_scaled_nearest (x : Rat) {c : Rat} (hc : 0 < c) (n : Int) :
    |((rhe (x * c) : Int) : Rat) / c - x| ≤ |(n : Rat) / c - x| := by
  rw [abs_div_sub _ _ hc, abs_div_sub _ _ hc]
  exact div_le_div_of_nonneg_right (rhe_nearest _ n) hc.le

theorem rhe_scaled_mono {x y : Rat} (h : x ≤ y) {c : Rat} (hc : 0 < c) :
    ((rhe (x * c) : Int) : Rat) / c ≤ ((rhe (y * c) : Int) : Rat) / c :=
  div_le_div_of_nonneg_right
    (Int.cast_le.mpr (rhe_mono (mul_le_mul_of_nonneg_right h hc.le))) hc.le

theorem rhe_scaled_exact (n : Int) {c : Rat} (hc : 0 < c) :
    ((rhe ((n : Rat) / c * c) : Int) : Rat) / c = (n : Rat) / c := by
  rw [div_mul_cancel₀ _ hc.ne', rhe_intCast]

end CTM.Round
