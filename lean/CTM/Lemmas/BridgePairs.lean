/-
  Glue between the tree model's `leafPairs` (C10: `leaves_to_compare`) and the
  selection model's per-parent pair list (C12: a list of column indices of the
  reference-marker table, obtained through `pair_to_idx`).
-/
import CTM.Model.Tree
import CTM.Model.Selection

namespace CTM.Bridge
open CTM CTM.RawTree

/-- `pair_to_idx` restricted to the pairs of one parent is injective: distinct
taxonomy pairs have distinct columns in the reference-marker table -/
def IdxInjOn (idx : Node × Node → Nat) (ps : List (Node × Node)) : Prop :=
  ∀ x ∈ ps, ∀ y ∈ ps, idx x = idx y → x = y

theorem selection_hasDup_false_iff (xs : List Nat) : Selection.hasDup xs = false ↔ xs.Nodup := by
  induction xs with
  | nil => simp [Selection.hasDup]
  | cons x xs ih => simp [Selection.hasDup, ih]

end CTM.Bridge
