/-
  Lemmas about the Holm model (`CTM/Model/Holm.lean`).

  `IsHolm m p x c` says what `correct_ttest` computes for a p-value `x` without naming a sorting
  order: `c` is the largest `y * (m - #{p-values < y})` over the p-values `y ≤ x`.  Slot `i` of
  `correctTtestWith` holds it for `x = p[i]` under every argsort (`correctTtestWith_getElem?`); that
  the tie order does not matter, raw ≤ corrected ≤ 1, and what the restricted correction returns
  (`approxCorrectTtestWith_getElem?`) are read off `IsHolm`.
-/
import Mathlib.Algebra.Order.Field.Rat
import CTM.Model.Holm
import CTM.Lemmas.ListAux

namespace CTM.Holm

/-! ### `scaled`, the running maximum -/

@[simp] theorem length_scaled (m : Rat) (v : List Rat) : (scaled m v).length = v.length := by
  induction v generalizing m with
  | nil => rfl
  | cons x xs ih => simp [scaled, ih]

@[simp] theorem length_cumMaxFrom (a : Rat) (l : List Rat) : (cumMaxFrom a l).length = l.length := by
  induction l generalizing a with
  | nil => rfl
  | cons x xs ih => simp [cumMaxFrom, ih]

@[simp] theorem length_cumMax (l : List Rat) : (cumMax l).length = l.length := by
  cases l with
  | nil => rfl
  | cons x xs => simp [cumMax]

theorem cumMax_cons (x : Rat) (xs : List Rat) : cumMax (x :: xs) = cumMaxFrom x (x :: xs) := by
  rw [cumMaxFrom, max_self, cumMax]

theorem scaled_getElem? (m : Rat) (v : List Rat) (k : Nat) :
    (scaled m v)[k]? = v[k]?.map (fun x => x * (m - k)) := by
  induction v generalizing m k with
  | nil => rfl
  | cons x xs ih =>
    cases k with
    | zero => rw [scaled, List.getElem?_cons_zero, List.getElem?_cons_zero, Nat.cast_zero, sub_zero]; rfl
    | succ k => rw [scaled, List.getElem?_cons_succ, List.getElem?_cons_succ, ih, sub_sub,
        add_comm (1 : Rat), ← Nat.cast_succ]

theorem scaled_append (m : Rat) (l₁ l₂ : List Rat) :
    scaled m (l₁ ++ l₂) = scaled m l₁ ++ scaled (m - l₁.length) l₂ := by
  induction l₁ generalizing m with
  | nil => simp [scaled]
  | cons x xs ih =>
    rw [List.cons_append, scaled, ih, scaled, List.cons_append, List.length_cons, sub_sub,
      add_comm (1 : Rat), ← Nat.cast_succ]

theorem cumMaxFrom_spec {a : Rat} {l : List Rat} {k : Nat} {c : Rat}
    (h : (cumMaxFrom a l)[k]? = some c) :
    (c = a ∨ ∃ j ≤ k, l[j]? = some c) ∧ a ≤ c ∧ ∀ j ≤ k, ∀ y, l[j]? = some y → y ≤ c := by
  induction l generalizing a k with
  | nil => cases h
  | cons x xs ih =>
    rw [cumMaxFrom] at h
    cases k with
    | zero =>
      cases h
      refine ⟨(max_choice a x).imp id fun e => ⟨0, Nat.le_refl 0, congrArg some e.symm⟩,
        le_max_left a x, fun j hj y hy => ?_⟩
      obtain rfl := Nat.le_zero.mp hj
      obtain rfl : x = y := Option.some.inj hy
      exact le_max_right a x
    | succ k =>
      obtain ⟨hat, hle, hub⟩ := ih h
      refine ⟨?_, (le_max_left a x).trans hle, fun j hj y hy => ?_⟩
      · rcases hat with rfl | ⟨j, hj, e⟩
        · exact (max_choice a x).imp id fun e => ⟨0, Nat.zero_le _, congrArg some e.symm⟩
        · exact .inr ⟨j + 1, Nat.succ_le_succ hj, e⟩
      · cases j with
        | zero =>
          obtain rfl : x = y := Option.some.inj hy
          exact (le_max_right a x).trans hle
        | succ j => exact hub j (Nat.le_of_succ_le_succ hj) y hy

/-- entry `k` of `np.maximum.accumulate` is the largest of the first `k + 1` entries -/
theorem cumMax_spec {l : List Rat} {k : Nat} {c : Rat} (h : (cumMax l)[k]? = some c) :
    (∃ j ≤ k, l[j]? = some c) ∧ ∀ j ≤ k, ∀ y, l[j]? = some y → y ≤ c := by
  cases l with
  | nil => cases h
  | cons x xs =>
    rw [cumMax_cons] at h
    obtain ⟨hat, _, hub⟩ := cumMaxFrom_spec h
    exact ⟨hat.elim (fun e => ⟨0, Nat.zero_le k, congrArg some e.symm⟩) id, hub⟩

/-! ### the step-down value, without reference to a sorting order -/

/-- the number of p-values strictly below `y`: the rank of the first `y` in every ascending order -/
def below (p : List Rat) (y : Rat) : Nat := p.countP fun z => decide (z < y)

/-- `c` is the Holm step-down value of `x` among the p-values `p` for `m` hypotheses: the largest
`y * (m - rank y)` over the p-values `y ≤ x`.  Among equal p-values the first in the sorted order has
the largest multiplier, so `rank y = below p y` and no tie order enters -/
def IsHolm (m : Rat) (p : List Rat) (x c : Rat) : Prop :=
  (∃ y ∈ p, y ≤ x ∧ c = y * (m - below p y)) ∧ ∀ y ∈ p, y ≤ x → y * (m - below p y) ≤ c

theorem IsHolm.unique {m : Rat} {p : List Rat} {x c c' : Rat} (h : IsHolm m p x c)
    (h' : IsHolm m p x c') : c = c' := by
  obtain ⟨⟨y, hy, hyx, rfl⟩, hub⟩ := h
  obtain ⟨⟨y', hy', hyx', rfl⟩, hub'⟩ := h'
  exact le_antisymm (hub' y hy hyx) (hub y' hy' hyx')

theorem IsHolm.perm {m : Rat} {p q : List Rat} {x c : Rat} (hpq : p.Perm q) (h : IsHolm m p x c) :
    IsHolm m q x c := by
  have e : below q = below p := funext fun y => (hpq.countP_eq _).symm
  unfold IsHolm
  rw [e]
  exact ⟨h.1.imp fun y ⟨hy, r⟩ => ⟨hpq.mem_iff.mp hy, r⟩, fun y hy => h.2 y (hpq.mem_iff.mpr hy)⟩

theorem below_lt_length {p : List Rat} {x : Rat} (hx : x ∈ p) : below p x < p.length :=
  lt_of_le_of_ne List.countP_le_length fun e => by
    simpa using List.countP_eq_length.mp e x hx

/-- raw ≤ corrected: the multiplier of `x` itself is at least 1 -/
theorem IsHolm.le {m : Rat} {p : List Rat} {x c : Rat} (h : IsHolm m p x c) (hx : x ∈ p)
    (h0 : 0 ≤ x) (hm : (p.length : Rat) ≤ m) : x ≤ c := by
  have h1 : ((below p x + 1 : Nat) : Rat) ≤ m := (Nat.cast_le.mpr (below_lt_length hx)).trans hm
  rw [Nat.cast_succ] at h1
  exact (le_mul_of_one_le_right h0 (le_sub_iff_add_le'.mpr h1)).trans (h.2 x hx le_rfl)

/-- below a threshold the step-down value only looks at the p-values below the threshold -/
theorem IsHolm.of_filter_lt {m : Rat} {p : List Rat} {x c th : Rat} (hx : x < th)
    (h : IsHolm m (p.filter fun z => decide (z < th)) x c) : IsHolm m p x c := by
  have hb : ∀ y, y ≤ x → below (p.filter fun z => decide (z < th)) y = below p y := fun y hy => by
    unfold below
    rw [List.countP_filter]
    refine List.countP_congr fun z _ => ?_
    simp only [Bool.and_eq_true, decide_eq_true_eq, and_iff_left_iff_imp]
    exact fun hz => hz.trans (hy.trans_lt hx)
  obtain ⟨⟨y, hy, hyx, rfl⟩, hub⟩ := h
  refine ⟨⟨y, (List.mem_filter.mp hy).1, hyx, by rw [hb y hyx]⟩, fun z hz hzx => ?_⟩
  rw [← hb z hzx]
  exact hub z (List.mem_filter.mpr ⟨hz, decide_eq_true (hzx.trans_lt hx)⟩) hzx

theorem below_eq_zero {l : List Rat} {y : Rat} (h : ∀ w ∈ l, y ≤ w) : below l y = 0 :=
  List.countP_eq_zero.mpr fun w hw => by simpa using h w hw

theorem below_cons (z : Rat) (zs : List Rat) (y : Rat) :
    below (z :: zs) y = below zs y + if z < y then 1 else 0 := by
  unfold below
  rw [List.countP_cons]
  simp only [decide_eq_true_eq]

theorem below_le {v : List Rat} (hs : v.Pairwise (· ≤ ·)) {j : Nat} {w y : Rat}
    (hj : v[j]? = some w) (hy : y ≤ w) : below v y ≤ j := by
  induction v generalizing j with
  | nil => cases hj
  | cons z zs ih =>
    obtain ⟨hz, hs'⟩ := List.pairwise_cons.mp hs
    cases j with
    | zero =>
      obtain rfl : z = w := Option.some.inj hj
      rw [below_eq_zero (l := z :: zs) fun w hw =>
        (List.mem_cons.mp hw).elim (fun e => e ▸ hy) fun hw => hy.trans (hz w hw)]
    | succ j =>
      rw [below_cons]
      have := ih hs' hj
      split <;> omega

theorem getElem?_below {v : List Rat} (hs : v.Pairwise (· ≤ ·)) {y : Rat} (hy : y ∈ v) :
    v[below v y]? = some y := by
  induction v with
  | nil => cases hy
  | cons z zs ih =>
    obtain ⟨hz, hs'⟩ := List.pairwise_cons.mp hs
    rw [below_cons]
    by_cases hlt : z < y
    · rw [if_pos hlt]
      exact ih hs' ((List.mem_cons.mp hy).resolve_left (ne_of_gt hlt))
    · obtain rfl : y = z := (List.mem_cons.mp hy).elim id fun h =>
        le_antisymm (not_lt.mp hlt) (hz y h)
      rw [if_neg hlt, below_eq_zero hz]
      rfl

/-- sort, scale by `m - rank`, running maximum: at a position carrying `x` stands the step-down value
of `x`.  The running maximum is attained at some rank `j`; the first entry equal to `v[j]` stands no
later, has a multiplier no smaller, and is also under the maximum.  A larger multiplier gives a
larger product only for a non-negative entry: hence `h0` -/
theorem cumMax_scaled_isHolm {m : Rat} {v : List Rat} (hs : v.Pairwise (· ≤ ·))
    (h0 : ∀ x ∈ v, 0 ≤ x) {k : Nat} {x c : Rat} (hk : v[k]? = some x)
    (hc : (cumMax (scaled m v))[k]? = some c) : IsHolm m v x c := by
  obtain ⟨⟨j, hjk, hj⟩, hub⟩ := cumMax_spec hc
  rw [scaled_getElem?] at hj
  obtain ⟨y, hy, rfl⟩ := Option.map_eq_some_iff.mp hj
  have hyv : y ∈ v := List.mem_of_getElem? hy
  have entry : ∀ z ∈ v, z ≤ x → z * (m - below v z) ≤ y * (m - j) := fun z hz hzx =>
    hub (below v z) (below_le hs hk hzx) _ (by rw [scaled_getElem?, getElem?_below hs hz]; rfl)
  have hyx := ListAux.sorted_getElem?_le hs hy hk hjk
  exact ⟨⟨y, hyv, hyx, le_antisymm
    (mul_le_mul_of_nonneg_left (sub_le_sub_left (Nat.cast_le.mpr (below_le hs hy le_rfl)) m)
      (h0 y hyv)) (entry y hyv hyx)⟩, entry⟩

/-! ### argsort, `gather`, `scatter` -/

@[simp] theorem length_gather (o : List Nat) (p : List Rat) : (gather o p).length = o.length :=
  List.length_map _

theorem gather_perm {o : List Nat} {p : List Rat} (h : o.Perm (List.range p.length)) :
    (gather o p).Perm p := by
  have := h.map (fun i => p.getD i 0)
  rwa [ListAux.map_getD_range] at this

theorem gather_unique {o₁ o₂ : List Nat} {p : List Rat} (h₁ : IsArgsort o₁ p) (h₂ : IsArgsort o₂ p) :
    gather o₁ p = gather o₂ p :=
  List.Perm.eq_of_pairwise (fun _ _ _ _ h1 h2 => le_antisymm h1 h2) h₁.2 h₂.2
    ((gather_perm h₁.1).trans (gather_perm h₂.1).symm)

theorem gather_getElem?_idxOf (o : List Nat) (p : List Rat) (i : Nat) (hi : i ∈ o) :
    (gather o p)[o.idxOf i]? = some (p.getD i 0) :=
  ListAux.getElem?_map_idxOf _ hi

theorem IsArgsort.mem {o : List Nat} {p : List Rat} (h : IsArgsort o p) {i : Nat}
    (hi : i < p.length) : i ∈ o := h.1.mem_iff.mpr (List.mem_range.mpr hi)

theorem IsArgsort.gather_nonneg {o : List Nat} {p : List Rat} (h : IsArgsort o p) (h0 : ∀ x ∈ p, 0 ≤ x) :
    ∀ x ∈ gather o p, 0 ≤ x := fun x hx => h0 x ((gather_perm h.1).mem_iff.mp hx)

theorem argsort_isArgsort (p : List Rat) : IsArgsort (argsort p) p := by
  constructor
  · exact List.mergeSort_perm _ _
  · unfold gather argsort
    rw [List.pairwise_map]
    have := List.pairwise_mergeSort (le := fun i j => decide (p.getD i 0 ≤ p.getD j 0))
      (by intro a b c h1 h2; simp only [decide_eq_true_eq] at *; exact le_trans h1 h2)
      (by intro a b; simp only [Bool.or_eq_true, decide_eq_true_eq]; exact le_total _ _)
      (List.range p.length)
    exact this.imp (by intro a b h; simpa using h)

/-! ### `correct_ttest` -/

@[simp] theorem length_correctTtestWith (o : List Nat) (p : List Rat) (pad : Nat) :
    (correctTtestWith o p pad).length = p.length := by
  simp [correctTtestWith, scatter]

/-- slot `i` of `correct_ttest`, whatever tie order `argsort` chose: the capped step-down value
of `p[i]` -/
theorem correctTtestWith_getElem? {o : List Nat} {p : List Rat} (h : IsArgsort o p)
    (h0 : ∀ x ∈ p, 0 ≤ x) (pad : Nat) {i : Nat} {x : Rat} (hx : p[i]? = some x) :
    ∃ c, IsHolm ((p.length + pad : Nat) : Rat) p x c ∧
      (correctTtestWith o p pad)[i]? = some (cap1 c) := by
  have hi := (List.getElem?_eq_some_iff.mp hx).1
  have him := IsArgsort.mem h hi
  have hk : (gather o p)[o.idxOf i]? = some x := by
    rw [gather_getElem?_idxOf o p i him, List.getD_eq_getElem?_getD, hx]
    rfl
  have hlt : o.idxOf i < (cumMax (scaled ((p.length + pad : Nat) : Rat) (gather o p))).length := by
    rw [length_cumMax, length_scaled, length_gather]
    exact List.idxOf_lt_length_of_mem him
  refine ⟨_, (cumMax_scaled_isHolm h.2 (IsArgsort.gather_nonneg h h0) hk
    (List.getElem?_eq_getElem hlt)).perm (gather_perm h.1), ?_⟩
  simp only [correctTtestWith, scatter, List.getElem?_map, List.getElem?_range hi, Option.map_some]
  rw [ListAux.lookup_zip _ _ _ him, List.getElem?_eq_getElem hlt]
  rfl

theorem correctTtestWith_argsort_irrel {o₁ o₂ : List Nat} {p : List Rat}
    (h₁ : IsArgsort o₁ p) (h₂ : IsArgsort o₂ p) (h0 : ∀ x ∈ p, 0 ≤ x) (pad : Nat) :
    correctTtestWith o₁ p pad = correctTtestWith o₂ p pad := by
  apply List.ext_getElem?
  intro i
  by_cases hi : i < p.length
  · obtain ⟨c, hc, e⟩ := correctTtestWith_getElem? h₁ h0 pad (ListAux.getElem?_eq_some_getD hi 0)
    obtain ⟨c', hc', e'⟩ := correctTtestWith_getElem? h₂ h0 pad (ListAux.getElem?_eq_some_getD hi 0)
    rw [e, e', hc.unique hc']
  · rw [List.getElem?_eq_none (by simpa using hi), List.getElem?_eq_none (by simpa using hi)]

/-- `correct_ttest` of the model, whatever tie order numpy used -/
theorem correctTtestWith_eq_canonical {o : List Nat} {p : List Rat} (h : IsArgsort o p)
    (h0 : ∀ x ∈ p, 0 ≤ x) (pad : Nat) : correctTtestWith o p pad = correctTtest p pad :=
  correctTtestWith_argsort_irrel h (argsort_isArgsort p) h0 pad

theorem cap1_le_one (x : Rat) : cap1 x ≤ 1 := by
  unfold cap1; split
  · rename_i h; exact h.le
  · exact le_refl _

theorem le_cap1 {x z : Rat} (h1 : x ≤ 1) (h : x ≤ z) : x ≤ cap1 z := by
  unfold cap1; split <;> assumption

theorem correctTtestWith_bounds {o : List Nat} {p : List Rat} (h : IsArgsort o p)
    (h0 : ∀ x ∈ p, 0 ≤ x) (h1 : ∀ x ∈ p, x ≤ 1) (pad : Nat) (i : Nat) (hi : i < p.length) :
    ∃ y, (correctTtestWith o p pad)[i]? = some y ∧ p.getD i 0 ≤ y ∧ y ≤ 1 := by
  obtain ⟨c, hc, e⟩ := correctTtestWith_getElem? h h0 pad (ListAux.getElem?_eq_some_getD hi 0)
  have hx := List.mem_of_getElem? (ListAux.getElem?_eq_some_getD hi 0)
  exact ⟨_, e, le_cap1 (h1 _ hx) (hc.le hx (h0 _ hx) (Nat.cast_le.mpr (Nat.le_add_right ..))),
    cap1_le_one _⟩

/-! ### `approx_correct_ttest` -/

@[simp] theorem length_approxCorrectTtestWith (o' : List Nat) (p : List Rat) (th : Rat) :
    (approxCorrectTtestWith o' p th).length = p.length := by
  simp [approxCorrectTtestWith]

theorem mem_interestingIdx {p : List Rat} {th : Rat} {i : Nat} :
    i ∈ interestingIdx p th ↔ i < p.length ∧ p.getD i 0 < th := by
  simp [interestingIdx]

theorem gather_interestingIdx (p : List Rat) (th : Rat) :
    gather (interestingIdx p th) p = p.filter (fun x => decide (x < th)) := by
  simp only [gather, interestingIdx]
  conv_rhs => rw [← ListAux.map_getD_range p 0]
  rw [List.filter_map]
  rfl

/-- `approx_correct_ttest` slot by slot: below the threshold the full correction (the sub-array holds
every p-value that counts, and the padding restores the number of hypotheses), elsewhere the raw
p-value -/
theorem approxCorrectTtestWith_getElem? {o o' : List Nat} {p : List Rat} {th : Rat} (h : IsArgsort o p)
    (h' : IsArgsort o' (gather (interestingIdx p th) p)) (h0 : ∀ x ∈ p, 0 ≤ x)
    (i : Nat) (hi : i < p.length) :
    (approxCorrectTtestWith o' p th)[i]? =
      if p.getD i 0 < th then (correctTtestWith o p 0)[i]? else some (p.getD i 0) := by
  split
  · next hlt =>
    have hsubf := gather_interestingIdx p th
    have hsub0 : ∀ x ∈ gather (interestingIdx p th) p, 0 ≤ x := fun x hx =>
      h0 x (List.mem_filter.mp (hsubf ▸ hx)).1
    have hm : (gather (interestingIdx p th) p).length + (p.length - (interestingIdx p th).length)
        = p.length + 0 := by
      have : (gather (interestingIdx p th) p).length ≤ p.length :=
        hsubf ▸ List.length_filter_le _ _
      rw [length_gather] at this ⊢
      exact Nat.add_sub_cancel' this
    have himem : i ∈ interestingIdx p th := mem_interestingIdx.mpr ⟨hi, hlt⟩
    obtain ⟨c, hc, e⟩ := correctTtestWith_getElem? h' hsub0
      (p.length - (interestingIdx p th).length) (gather_getElem?_idxOf _ p i himem)
    obtain ⟨c', hc', e'⟩ := correctTtestWith_getElem? h h0 0 (ListAux.getElem?_eq_some_getD hi 0)
    rw [hm, hsubf] at hc
    simp only [approxCorrectTtestWith, List.getElem?_map, List.getElem?_range hi, Option.map_some]
    rw [ListAux.lookup_zip _ _ _ himem, e, e', (hc.of_filter_lt hlt).unique hc']
    rfl
  · next hge =>
    have hnot : i ∉ interestingIdx p th := fun hm => hge (mem_interestingIdx.mp hm).2
    simp only [approxCorrectTtestWith, List.getElem?_map, List.getElem?_range hi, Option.map_some,
      ListAux.lookup_zip_none _ _ _ hnot, Option.getD_none]

/-- the two corrections fall on the same side of the threshold: above it the raw p-value stands, and
the full correction is no smaller -/
theorem approxCorrectTtestWith_lt_iff {o o' : List Nat} {p : List Rat} {th : Rat} (h : IsArgsort o p)
    (h' : IsArgsort o' (gather (interestingIdx p th) p)) (h0 : ∀ x ∈ p, 0 ≤ x) (h1 : ∀ x ∈ p, x ≤ 1)
    (i : Nat) (hi : i < p.length) :
    ∃ a b, (approxCorrectTtestWith o' p th)[i]? = some a ∧ (correctTtestWith o p 0)[i]? = some b ∧
      (a < th ↔ b < th) := by
  have e := approxCorrectTtestWith_getElem? h h' h0 i hi
  obtain ⟨y, hy, hle, _⟩ := correctTtestWith_bounds h h0 h1 0 i hi
  split at e
  · exact ⟨y, y, e.trans hy, hy, Iff.rfl⟩
  · next hge => exact ⟨_, y, e, hy, iff_of_false hge (not_lt.mpr ((not_lt.mp hge).trans hle))⟩

theorem approxCorrectTtestWith_mask_eq {o o' : List Nat} {p : List Rat} {th : Rat} (h : IsArgsort o p)
    (h' : IsArgsort o' (gather (interestingIdx p th) p)) (h0 : ∀ x ∈ p, 0 ≤ x) (h1 : ∀ x ∈ p, x ≤ 1) :
    (approxCorrectTtestWith o' p th).map (fun x => decide (x < th))
      = (correctTtestWith o p 0).map (fun x => decide (x < th)) := by
  apply List.ext_getElem?
  intro i
  rw [List.getElem?_map, List.getElem?_map]
  by_cases hi : i < p.length
  · obtain ⟨a, b, ha, hb, hab⟩ := approxCorrectTtestWith_lt_iff h h' h0 h1 i hi
    rw [ha, hb, Option.map_some, Option.map_some, decide_eq_decide.mpr hab]
  · rw [List.getElem?_eq_none (by simpa using hi), List.getElem?_eq_none (by simpa using hi)]

end CTM.Holm
