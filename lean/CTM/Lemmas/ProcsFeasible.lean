/-
  The completion orders the start / poll loop can produce (`Procs.feasibleOrder`)
  against the stage machine (`Procs.pollLoop`).

  Part 1 (`window_of_feasible`, `feasible_of_window`): for a permutation `σ` of the workers,
  `feasibleOrder nProc σ` says exactly that the `k`-th worker to complete is one of the first
  `k + nProc` workers dispatched (`Window`: the workers that can have been started when `k` workers
  have completed and at most `nProc` are outstanding).
  Parts 2 and 3 run the machine on the schedule `sing σ`, which shows the workers one at a time in
  the order `σ`: it returns normally if `σ` is in the window (`machine_produces`) and only then
  (`machine_accepts_window`).  The invariants are nested, `Tidy` (the container) within `Polled`
  (container against schedule) within `ProducedInv` and `AcceptedInv`.  Part 2 knows that no poll
  is lost, so container and polls add up to `started` exactly (`ProducedInv.len`); Part 3 has to
  allow lost polls and records instead where each worker shown outside its window is
  (`AcceptedInv.past`).
-/
import CTM.Lemmas.Procs
import CTM.Lemmas.ListAux

namespace CTM.Procs

/-! ### Part 1: `feasibleOrder` is the window condition -/

/-- the `k`-th completion is one of the first `k + nProc` workers -/
def Window (nProc : Nat) (σ : List Nat) : Prop := ∀ (k w : Nat), σ[k]? = some w → w < k + nProc

theorem feasible_of_window {nProc n : Nat} {σ : List Nat} (hp : σ.Perm (List.range n))
    (hw : Window nProc σ) : feasibleOrder nProc σ = true := by
  unfold feasibleOrder
  rw [List.all_eq_true]
  rintro ⟨w, k⟩ hm
  have hk : σ[k]? = some w := by simpa using List.mem_zipIdx_iff_getElem?.1 hm
  obtain ⟨hkl, hkw⟩ := List.getElem?_eq_some_iff.1 hk
  have hwn : w < n := List.mem_range.1 (hp.subset (List.mem_of_getElem? hk))
  have hsplit : σ.take k ++ w :: σ.drop (k + 1) = σ := by
    rw [← hkw, ← List.drop_eq_getElem_cons hkl, List.take_append_drop]
  -- count the workers `< w` and those `< k + nProc` on both sides of position `k`
  have hW := ListAux.countP_lt_perm hp w
  have hM := ListAux.countP_lt_perm hp (k + nProc)
  rw [← hsplit, List.countP_append, List.countP_cons] at hW hM
  have hL : (σ.take k).countP (fun x => decide (x < k + nProc)) = k := by
    rw [List.countP_eq_length.2, List.length_take, Nat.min_eq_left (Nat.le_of_lt hkl)]
    intro x hx
    obtain ⟨j, hj, rfl⟩ := List.mem_take_iff_getElem.1 hx
    have := hw j _ (List.getElem?_eq_getElem (Nat.lt_of_lt_of_le hj (Nat.min_le_right ..)))
    exact decide_eq_true (Nat.lt_of_lt_of_le this (Nat.add_le_add_right (Nat.le_of_lt (Nat.lt_of_lt_of_le hj (Nat.min_le_left ..))) _))
  have := hw k w hk
  have hmono : (σ.drop (k + 1)).countP (fun x => decide (x < w)) ≤
      (σ.drop (k + 1)).countP (fun x => decide (x < k + nProc)) :=
    List.countP_mono_left fun x _ hx => decide_eq_true (Nat.lt_trans (of_decide_eq_true hx) this)
  simp only [decide_eq_true_eq, ← List.countP_eq_length_filter]
  simp only [this, Nat.lt_irrefl, decide_true, decide_false, if_true, Bool.false_eq_true, if_false] at hW hM
  omega

theorem window_of_feasible {nProc : Nat} {σ : List Nat} (hf : feasibleOrder nProc σ = true) :
    Window nProc σ := by
  intro k w hk
  have := List.all_eq_true.1 hf (w, k) (List.mem_zipIdx_iff_getElem?.2 (by simpa using hk))
  simp only [decide_eq_true_eq] at this
  have h1 : ((σ.take k).filter (fun x => decide (x < w))).length ≤ k :=
    Nat.le_trans (List.length_filter_le _ _) (List.length_take_le ..)
  omega

/-! ### for Parts 2 and 3: the run in which the workers complete one at a time, `Tidy`, `Polled`

List container, `keyOf = id`, all workers exit with code 0. -/

/-- the schedule that makes the workers' exit codes visible one at a time, in
the order `σ` -/
def sing (σ : List Nat) : List Poll := σ.map (fun w => [w])

/-- the environment of that run: `n` items, `p` slots, every worker exits with code 0 -/
def zeroEnv (n p : Nat) : Env := { nItems := n, nProc := p, keyOf := id, exit := fun _ => 0 }

theorem winnow_sing {kind : Container} {exit : Nat → Int} (a : Nat) (c : Procs)
    (hz : ∀ e ∈ c, exit e.2 = 0) :
    winnow kind exit [a] c = .ok (c.filter fun e => e.2 != a) := by
  rw [winnow_zero [a] c hz]
  congr 2
  funext e
  simp only [List.contains_cons, List.contains_nil, Bool.or_false, bne]

theorem waitBelow_sing_cons {limit : Nat} (a : Nat) (rest : List Nat) (c : Procs) :
    waitBelow .list (fun _ => 0) limit c (sing (a :: rest)) =
      if c.length < limit then .done c (sing (a :: rest))
      else waitBelow .list (fun _ => 0) limit (c.filter fun e => e.2 != a) (sing rest) := by
  have hw : winnow .list (fun _ => (0 : Int)) [a] c = .ok (c.filter fun e => e.2 != a) :=
    winnow_sing a c fun _ _ => rfl
  simp only [sing, List.map_cons, waitBelow, hw]

/-- The waiting loop on `sing σ`, from the container `c` after `k` polls, for any `I` that a poll
of a full container keeps: the loop stops in a state `(c', k')` with `I`, and returns iff `c'` is
below the limit; otherwise the schedule is used up and it waits for ever. -/
theorem waitBelow_sing {σ : List Nat} {limit : Nat} {I : Procs → Nat → Prop}
    (poll : ∀ c k a, I c k → limit ≤ c.length → σ[k]? = some a →
      I (c.filter fun e => e.2 != a) (k + 1))
    (c : Procs) (k : Nat) (h : I c k) :
    ∃ c' k', I c' k' ∧ (limit ≤ c'.length → σ.length ≤ k') ∧
      waitBelow .list (fun _ => 0) limit c (sing (σ.drop k)) =
        if c'.length < limit then .done c' (sing (σ.drop k')) else .spin := by
  obtain ⟨rest, hr⟩ : ∃ rest, σ.drop k = rest := ⟨_, rfl⟩
  induction rest generalizing c k with
  | nil => exact ⟨c, k, h, fun _ => List.drop_eq_nil_iff.1 hr, hr ▸ rfl⟩
  | cons a rest ih =>
    by_cases hlt : c.length < limit
    · exact ⟨c, k, h, fun hle => absurd hlt (Nat.not_lt.2 hle),
        (waitBelow_of_lt hlt _).trans (if_pos hlt).symm⟩
    · have ha : σ[k]? = some a := by
        rw [← Nat.add_zero k, ← List.getElem?_drop, hr]
        rfl
      have hrest : σ.drop (k + 1) = rest := by
        rw [← List.drop_drop, hr]
        rfl
      obtain ⟨c', k', h', hk', e⟩ := ih _ (k + 1) (poll c k a h (Nat.le_of_not_lt hlt) ha) hrest
      exact ⟨c', k', h', hk', by rw [hr, waitBelow_sing_cons, if_neg hlt, ← hrest, e]⟩

theorem length_filter_ne (l : Procs) (a : Nat) :
    (l.filter fun e => e.2 != a).length + (l.map (·.2)).count a = l.length := by
  rw [List.length_eq_countP_add_countP (fun e : Nat × Nat => e.2 == a) (l := l), List.count_eq_countP,
    List.countP_map, ← List.countP_eq_length_filter, Nat.add_comm]
  congr 2
  funext e
  simp only [bne, Bool.not_eq_true, Bool.decide_eq_false]

/-- the container holds each worker once, under its own number -/
structure Tidy (s : St) : Prop where
  shape : ∀ e ∈ s.procs, e.1 = e.2 ∧ e.2 < s.started
  nodup : (s.procs.map (·.2)).Nodup

theorem tidy_filter {s : St} (h : Tidy s) (q : Nat × Nat → Bool) (sc : List Poll) :
    Tidy { s with procs := s.procs.filter q, sched := sc } :=
  ⟨fun e he => h.shape e (List.mem_filter.1 he).1, h.nodup.sublist ((List.filter_sublist).map _)⟩

theorem tidy_start {s : St} (h : Tidy s) :
    Tidy { s with started := s.started + 1, procs := s.procs ++ [(s.started, s.started)] } := by
  refine ⟨fun e he => ?_, ?_⟩
  · rcases List.mem_append.1 he with he | he
    · exact ⟨(h.shape e he).1, Nat.lt_succ_of_lt (h.shape e he).2⟩
    · cases List.mem_singleton.1 he
      exact ⟨rfl, Nat.lt_succ_self _⟩
  · rw [List.map_append, List.nodup_append]
    refine ⟨h.nodup, List.nodup_cons.2 ⟨List.not_mem_nil, List.nodup_nil⟩, fun a ha b hb => ?_⟩
    obtain ⟨e, he, rfl⟩ := List.mem_map.1 ha
    cases List.mem_singleton.1 hb
    exact Nat.ne_of_lt (h.shape e he).2

/-- state of a run of the machine on `sing σ` after `c` polls: every started worker is in the
container or was shown by one of them (a poll removes at most one worker) -/
structure Polled (σ : List Nat) (s : St) (c : Nat) : Prop extends Tidy s where
  sched : s.sched = sing (σ.drop c)
  count : s.started ≤ s.procs.length + c
  seen : ∀ w, w < s.started → (w, w) ∈ s.procs ∨ w ∈ σ.take c

theorem polled_poll {σ : List Nat} {s : St} {c a : Nat} (inv : Polled σ s c)
    (ha : σ[c]? = some a) :
    Polled σ { s with procs := s.procs.filter (fun e => e.2 != a), sched := sing (σ.drop (c + 1)) }
      (c + 1) := by
  refine ⟨tidy_filter inv.toTidy _ _, rfl, ?_, fun w hw' => ?_⟩
  · have h1 := length_filter_ne s.procs a
    have h2 := inv.count
    have h3 := List.nodup_iff_count.1 inv.nodup a
    simp only
    omega
  · rw [ListAux.take_succ_of_getElem? ha, List.mem_append, List.mem_singleton]
    by_cases hwa : w = a
    · exact .inr (.inr hwa)
    · exact (inv.seen w hw').imp (fun h => List.mem_filter.2 ⟨h, bne_iff_ne.2 hwa⟩) .inl

theorem polled_start {σ : List Nat} {s : St} {c : Nat} (inv : Polled σ s c) :
    Polled σ { s with started := s.started + 1, procs := s.procs ++ [(s.started, s.started)] } c := by
  refine ⟨tidy_start inv.toTidy, inv.sched, ?_, fun w hw' => ?_⟩
  · have := inv.count
    simp only [List.length_append, List.length_singleton]
    omega
  · rcases Nat.lt_succ_iff_lt_or_eq.1 hw' with h | rfl
    · exact (inv.seen w h).imp_left (List.mem_append_left _)
    · exact .inl (List.mem_append_right _ (List.mem_singleton_self _))

/-! ### Part 2: every order in the window is produced by the machine -/

/-- state of the machine when `r` workers have completed, in the order `σ`, and every one of
them had been started when its exit code was shown: each of the `r` polls removed a worker -/
structure ProducedInv (σ : List Nat) (s : St) (r : Nat) : Prop extends Polled σ s r where
  le_started : s.procs.length + r ≤ s.started

theorem ProducedInv.len {σ : List Nat} {s : St} {r : Nat} (inv : ProducedInv σ s r) :
    s.procs.length + r = s.started :=
  Nat.le_antisymm inv.le_started inv.count

/-- one poll: the revealed worker has been started, so it leaves the container -/
theorem produced_poll {σ : List Nat} (hσ : σ.Nodup) {s : St} {r a : Nat} (inv : ProducedInv σ s r)
    (ha : σ[r]? = some a) (hst : a < s.started) :
    ProducedInv σ { s with procs := s.procs.filter (fun e => e.2 != a), sched := sing (σ.drop (r + 1)) }
      (r + 1) := by
  refine ⟨polled_poll inv.toPolled ha, ?_⟩
  have hin : a ∈ s.procs.map (·.2) :=
    List.mem_map.2 ⟨_, (inv.seen a hst).resolve_right (ListAux.not_mem_take_of_getElem? hσ ha), rfl⟩
  have h1 := length_filter_ne s.procs a
  rw [inv.nodup.count, if_pos hin] at h1
  exact Nat.le_of_eq ((Nat.add_right_comm ..).trans (h1 ▸ inv.len))

/-- `while len(c) >= limit` when nothing has been lost and every worker shown while `limit` are
outstanding has been started (`hst`: in the dispatch loop this is what `Window` gives, in the drain
every worker has been started): the schedule cannot run out with a worker outstanding, so the
loop ends -/
theorem produced_wait {σ : List Nat} (hσ : σ.Nodup) {limit : Nat} (hl : 0 < limit) {s : St} {r : Nat}
    (inv : ProducedInv σ s r) (hn : s.started ≤ σ.length)
    (hst : ∀ k a, k + limit ≤ s.started → σ[k]? = some a → a < s.started) :
    ∃ r' procs', waitBelow .list (fun _ => 0) limit s.procs s.sched
        = .done procs' (sing (σ.drop r')) ∧
      ProducedInv σ { s with procs := procs', sched := sing (σ.drop r') } r' ∧ procs'.length < limit := by
  obtain ⟨c', k', inv', hk', e⟩ := waitBelow_sing (limit := limit)
    (I := fun c k => ProducedInv σ { s with procs := c, sched := sing (σ.drop k) } k)
    (fun c k a h hle ha => produced_poll hσ h ha
      (hst k a (by have : c.length + k = s.started := h.len; omega) ha))
    s.procs r (inv.sched ▸ inv)
  have hlt : c'.length < limit := Nat.lt_of_not_le fun hge => by
    have : c'.length + k' = s.started := inv'.len
    have := hk' hge
    omega
  exact ⟨k', c', by rw [inv.sched, e, if_pos hlt], inv', hlt⟩

theorem produced_start {σ : List Nat} {s : St} {r : Nat} (inv : ProducedInv σ s r) :
    ProducedInv σ { s with started := s.started + 1, procs := s.procs ++ [(s.started, s.started)] } r := by
  refine ⟨polled_start inv.toPolled, ?_⟩
  rw [List.length_append, List.length_singleton, Nat.add_right_comm]
  exact Nat.succ_le_succ inv.le_started

theorem produced_dispatch {σ : List Nat} {n p : Nat} (hσ : σ.Nodup) (hlen : σ.length = n) (hp : 0 < p)
    (hw : Window p σ) (d : Nat) (s : St) (r : Nat) (hid : s.started + d = n) (inv : ProducedInv σ s r)
    (hlt : s.procs.length < p) :
    ∃ s' r', execDispatch .list (zeroEnv n p) [.start true, .pollWhileFull] d s = .ok s' ∧
      ProducedInv σ s' r' ∧ s'.started = n := by
  induction d generalizing s r with
  | zero => exact ⟨s, r, rfl, inv, hid⟩
  | succ d ih =>
    obtain ⟨r', procs', hwb, inv2, hlt'⟩ := produced_wait hσ hp (produced_start inv)
      (by rw [hlen, ← hid]; exact Nat.add_le_add_left (Nat.le_add_left 1 d) _)
      (fun k a hk ha => Nat.lt_of_lt_of_le (hw k a ha) hk)
    obtain ⟨s', r'', hs', inv', hst'⟩ := ih _ r' ((Nat.add_right_comm _ 1 d).trans hid) inv2 hlt'
    exact ⟨s', r'', (execDispatch_succ ..).trans
      (Res.andThen_eq_ok.2 ⟨_, (canonical_body_ok (env := zeroEnv n p)).2 ⟨_, _, hwb, rfl⟩, hs'⟩), inv', hst'⟩

/-- **completeness of `feasibleOrder` w.r.t. the machine**: if every `k`-th
completion is among the first `k + nProc` workers, the poll loop fed with the
exit codes one at a time in that order returns normally (so it has seen the
workers complete in exactly that order) -/
theorem machine_produces {σ : List Nat} {n p : Nat} (hperm : σ.Perm (List.range n)) (hp : 0 < p)
    (hw : Window p σ) :
    (pollLoop .list n p id (sing σ) (fun _ => 0)).outcome = .ok := by
  have hσ : σ.Nodup := hperm.symm.nodup List.nodup_range
  have hlen : σ.length = n := by simpa using hperm.length_eq
  have inv0 : ProducedInv σ ({ sched := sing σ } : St) 0 :=
    { shape := nofun, nodup := List.nodup_nil, sched := rfl, count := Nat.le_refl _,
      seen := fun _ h => absurd h (Nat.not_lt_zero _), le_started := Nat.le_refl _ }
  obtain ⟨s1, r, hd, inv1, hst1⟩ :=
    produced_dispatch hσ hlen hp hw n { sched := sing σ } 0 (Nat.zero_add n) inv0 hp
  -- the drain: every worker has been started
  obtain ⟨r', procs', hwb, -⟩ := produced_wait hσ Nat.one_pos inv1 (Nat.le_of_eq (hst1.trans hlen.symm))
    (fun k a _ ha => hst1 ▸ List.mem_range.1 (hperm.subset (List.mem_of_getElem? ha)))
  have h : pollLoop .list n p id (sing σ) (fun _ => 0) =
      (s1.wait (waitBelow .list (fun _ => 0) 1 s1.procs s1.sched)).andThen
        (exec .list (zeroEnv n p) []) := by
    show Res.andThen (execDispatch .list (zeroEnv n p) _ n _) _ = _
    rw [hd]
    rfl
  rw [h, hwb]
  rfl

/-! ### Part 3: every order the machine accepts is in the window

If the poll loop, shown the exit codes one worker at a time in the order `σ`,
returns normally, then every `k`-th completion was among the first `k + nProc`
workers: a reveal of a worker that is not in the container is lost (the worker
is never shown again), so a normal return means that no reveal was lost. -/

/-- state of an arbitrary run after `c` polls -/
structure AcceptedInv (σ : List Nat) (p : Nat) (s : St) (c : Nat) : Prop extends Polled σ s c where
  /-- a worker shown outside its window is still in the container or yet to be started, and it will
  not be shown again -/
  past : ∀ (j a : Nat), j < c → σ[j]? = some a → a < j + p ∨ (a, a) ∈ s.procs ∨ s.started ≤ a

theorem accepted_poll {σ : List Nat} (hσ : σ.Nodup) {p : Nat} {s : St} {c a : Nat}
    (inv : AcceptedInv σ p s c) (ha : σ[c]? = some a) (hlen : s.procs.length ≤ p) :
    AcceptedInv σ p { s with procs := s.procs.filter (fun e => e.2 != a), sched := sing (σ.drop (c + 1)) }
      (c + 1) := by
  refine ⟨polled_poll inv.toPolled ha, fun j b hj hb => ?_⟩
  rcases Nat.lt_succ_iff_lt_or_eq.1 hj with hjc | rfl
  · refine (inv.past j b hjc hb).imp_right (Or.imp_left fun h => List.mem_filter.2 ⟨h, ?_⟩)
    -- `b` was shown at poll `j < c`, so it is not the worker shown now
    refine bne_iff_ne.2 fun hba => ?_
    have := (List.getElem?_inj (List.getElem?_eq_some_iff.1 hb).1 hσ).1 (hb.trans (hba ▸ ha.symm))
    omega
  · -- the worker revealed by this very poll: if it has been started it is in the container
    cases ha.symm.trans hb
    by_cases hst : a < s.started
    · have := inv.count
      exact .inl (by omega)
    · exact .inr (.inr (Nat.le_of_not_lt hst))

theorem accepted_wait {σ : List Nat} (hσ : σ.Nodup) {p limit : Nat} {s : St} {c : Nat} (inv : AcceptedInv σ p s c)
    (hlen : s.procs.length ≤ p) {procs' : Procs} {sched' : List Poll}
    (h : waitBelow .list (fun _ => 0) limit s.procs s.sched = .done procs' sched') :
    procs'.length < limit ∧ ∃ c', AcceptedInv σ p { s with procs := procs', sched := sched' } c' := by
  obtain ⟨c', k', ⟨inv', -⟩, -, e⟩ := waitBelow_sing (limit := limit)
    (I := fun c k => AcceptedInv σ p { s with procs := c, sched := sing (σ.drop k) } k ∧ c.length ≤ p)
    (fun c k a h _ ha => ⟨accepted_poll hσ h.1 ha h.2, Nat.le_trans (List.length_filter_le _ _) h.2⟩)
    s.procs c ⟨inv.sched ▸ inv, hlen⟩
  rw [inv.sched, e] at h
  split at h
  · next hlt =>
    cases h
    exact ⟨hlt, k', inv'⟩
  · cases h

theorem accepted_start {σ : List Nat} {p : Nat} {s : St} {c : Nat} (inv : AcceptedInv σ p s c) :
    AcceptedInv σ p { s with started := s.started + 1, procs := s.procs ++ [(s.started, s.started)] } c := by
  refine ⟨polled_start inv.toPolled, fun j a hj ha => ?_⟩
  rcases inv.past j a hj ha with h1 | h1 | h1
  · exact .inl h1
  · exact .inr (.inl (List.mem_append_left _ h1))
  · rcases Nat.eq_or_lt_of_le h1 with rfl | h2
    · exact .inr (.inl (List.mem_append_right _ (List.mem_singleton_self _)))
    · exact .inr (.inr h2)

theorem accepted_dispatch {σ : List Nat} (hσ : σ.Nodup) {n p : Nat} (d : Nat) {s : St} {c : Nat}
    (inv : AcceptedInv σ p s c) (hlen : s.procs.length < p) {s' : St}
    (h : execDispatch .list (zeroEnv n p) [.start true, .pollWhileFull] d s = .ok s') :
    s'.procs.length < p ∧ ∃ c', AcceptedInv σ p s' c' := by
  induction d generalizing s c with
  | zero =>
    cases h
    exact ⟨hlen, c, inv⟩
  | succ d ih =>
    obtain ⟨s₁, hb, h⟩ := Res.andThen_eq_ok.1 ((execDispatch_succ ..).symm.trans h)
    obtain ⟨procs', sched', hw, rfl⟩ := (canonical_body_ok (env := zeroEnv n p)).1 hb
    obtain ⟨hlt, c', inv2⟩ := accepted_wait hσ (accepted_start inv)
      (Nat.le_trans (Nat.le_of_eq List.length_append) hlen) hw
    exact ih inv2 hlt h

/-- **soundness of `feasibleOrder` w.r.t. the machine**: if the poll loop, shown
the exit codes one worker at a time in the order `σ` (a permutation of the
workers), returns normally, then `σ` is in the window -/
theorem machine_accepts_window {σ : List Nat} {n p : Nat} (hperm : σ.Perm (List.range n))
    (hp : 0 < p) {s : St} (h : pollLoop .list n p id (sing σ) (fun _ => 0) = .ok s) :
    Window p σ := by
  have hσ : σ.Nodup := hperm.symm.nodup List.nodup_range
  have hstarted := pollLoop_ok_started h
  have inv0 : AcceptedInv σ p ({ sched := sing σ } : St) 0 :=
    { shape := nofun, nodup := List.nodup_nil, sched := rfl, count := Nat.le_refl _,
      seen := fun _ h => absurd h (Nat.not_lt_zero _), past := fun _ _ h => absurd h (Nat.not_lt_zero _) }
  rw [pollLoop, canonicalProg, exec_cons] at h
  obtain ⟨s1, hd, h⟩ := Res.andThen_eq_ok.1 h
  obtain ⟨hlt, c1, inv1⟩ := accepted_dispatch hσ n inv0 hp hd
  rw [exec_cons, execStmt_drain] at h
  obtain ⟨s2, h2, h⟩ := Res.andThen_eq_ok.1 h
  cases h
  obtain ⟨procs', sched', hw, rfl⟩ := St.wait_eq_ok.1 h2
  obtain ⟨hl1, c', inv'⟩ := accepted_wait hσ inv1 (Nat.le_of_lt hlt) hw
  cases List.eq_nil_of_length_eq_zero (Nat.lt_one_iff.1 hl1)
  -- the container is empty and every worker has been started
  intro k w hk
  have hkn : k < n := by
    have := (List.getElem?_eq_some_iff.1 hk).1
    rwa [hperm.length_eq, List.length_range] at this
  have hc := inv'.count
  simp only [List.length_nil, Nat.zero_add] at hc hstarted
  rcases inv'.past k w (by omega) hk with h1 | h1 | h1
  · exact h1
  · cases h1
  · have hwn : w < n := List.mem_range.1 (hperm.subset (List.mem_of_getElem? hk))
    simp only at h1
    omega

end CTM.Procs
