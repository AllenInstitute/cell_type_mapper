/-
  Lemmas about the stage-file model (`CTM.Model.StageFiles`), used by `CTM.Props.C18.Names`,
  `Lemmas/StageFilesPairs.lean` and `Lemmas/EndToEnd.lean`: rearrangements of a list (and of the
  name → column dict), `mapME`, the reader of the statistics file (`leafMeanRow`, `leafMeans`) and
  that it sees neither the row order nor the gene order of the file, the matrices
  `downsampleGenes` / `downsampleCells`, the per-node data of the mapper, the file written
  by the first stage.  At the end, outside the namespace of the lemmas, the small instance `Ex.*`
  on which the examples of `Props/C18` and `Props/C02/EndToEnd` are evaluated.
  Mathlib is imported for `List.Perm`, `Nodup` and `Pairwise` lemmas.
-/
import CTM.Model.StageFiles
import CTM.Lemmas.StatsFiles
import CTM.Lemmas.Markers
import CTM.Lemmas.NameToIdx
import CTM.Lemmas.Tree
import CTM.Lemmas.TreeLca
import CTM.Lemmas.ListAux
import Mathlib.Data.List.Perm.Basic
import Mathlib.Data.List.Nodup
import Mathlib.Data.List.Pairwise

namespace CTM.StageFiles
open CTM CTM.Stats CTM.Markers

/-! ### rearrangements of a list -/

/-- `perm` lists `0 … n-1`, each once, in some order -/
def IsPerm (perm : List Nat) (n : Nat) : Prop := perm.Perm (List.range n)

theorem IsPerm.length_eq {perm : List Nat} {n : Nat} (h : IsPerm perm n) : perm.length = n := by
  simpa using List.Perm.length_eq h

theorem IsPerm.nodup {perm : List Nat} {n : Nat} (h : IsPerm perm n) : perm.Nodup :=
  (List.Perm.nodup_iff h).2 List.nodup_range

theorem IsPerm.mem_iff {perm : List Nat} {n : Nat} (h : IsPerm perm n) (i : Nat) :
    i ∈ perm ↔ i < n := by
  rw [List.Perm.mem_iff h]; simp

theorem IsPerm.getElem_lt {perm : List Nat} {n : Nat} (h : IsPerm perm n) (j : Nat)
    (hj : j < perm.length) : perm[j] < n :=
  (h.mem_iff _).1 (List.getElem_mem hj)

theorem IsPerm.idxOf_lt {perm : List Nat} {n : Nat} (h : IsPerm perm n) (i : Nat) (hi : i < n) :
    perm.idxOf i < n := by
  have := List.idxOf_lt_length_of_mem ((h.mem_iff i).2 hi)
  rwa [h.length_eq] at this

/-- under `IsPerm` the `filterMap` of `permuteList` drops no position -/
theorem permuteList_map_some {α : Type} (perm : List Nat) (xs : List α) (h : IsPerm perm xs.length) :
    (permuteList perm xs).map some = (List.range xs.length).map (fun i => xs[perm.idxOf i]?) :=
  ListAux.filterMap_map_some _ _ (fun i hi => by
    rw [List.getElem?_eq_getElem (h.idxOf_lt i (List.mem_range.1 hi))]; rfl)

theorem permuteList_length {α : Type} (perm : List Nat) (xs : List α) (h : IsPerm perm xs.length) :
    (permuteList perm xs).length = xs.length := by
  simpa using congrArg List.length (permuteList_map_some perm xs h)

theorem permuteList_getElem? {α : Type} (perm : List Nat) (xs : List α) (h : IsPerm perm xs.length)
    (i : Nat) (hi : i < xs.length) : (permuteList perm xs)[i]? = xs[perm.idxOf i]? := by
  have := congrArg (·[i]?) (permuteList_map_some perm xs h)
  simp only [List.getElem?_map, List.getElem?_range hi, Option.map_some] at this
  cases hp : (permuteList perm xs)[i]? with
  | none => rw [hp] at this; cases this
  | some a => rw [hp] at this; exact Option.some.inj this

/-- the element at position `j` moves to position `perm[j]` -/
theorem permuteList_at {α : Type} (perm : List Nat) (xs : List α) (h : IsPerm perm xs.length)
    (j : Nat) (hj : j < perm.length) : (permuteList perm xs)[perm[j]]? = xs[j]? := by
  rw [permuteList_getElem? perm xs h _ (h.getElem_lt j hj), h.nodup.idxOf_getElem]

theorem permuteList_at' {α : Type} (perm : List Nat) (xs : List α) (h : IsPerm perm xs.length)
    (j q : Nat) (hq : perm[j]? = some q) : (permuteList perm xs)[q]? = xs[j]? := by
  obtain ⟨hj, rfl⟩ := List.getElem?_eq_some_iff.1 hq
  exact permuteList_at perm xs h j hj

/-- the same for a position inside or outside the list (outside, `permuteRows` leaves the pointer
as it is) -/
theorem permuteList_at_getD {α : Type} (perm : List Nat) (xs : List α) (h : IsPerm perm xs.length)
    (j : Nat) : (permuteList perm xs)[perm[j]?.getD j]? = xs[j]? := by
  by_cases hj : j < perm.length
  · rw [List.getElem?_eq_getElem hj]
    exact permuteList_at perm xs h j hj
  · have hj' : xs.length ≤ j := by rw [← h.length_eq]; omega
    rw [List.getElem?_eq_none (Nat.le_of_not_lt hj), List.getElem?_eq_none hj',
      List.getElem?_eq_none (by rw [permuteList_length perm xs h]; exact hj')]

theorem permuteList_perm {α : Type} (perm : List Nat) (xs : List α) (h : IsPerm perm xs.length) :
    (permuteList perm xs).Perm xs := by
  -- read along `perm` instead of `range`, position `j` holds `xs[j]`
  have h2 : perm.map (fun i => xs[perm.idxOf i]?) = xs.map some := by
    refine List.ext_getElem (by simp [h.length_eq]) (fun j h1 h2 => ?_)
    simp only [List.getElem_map]
    rw [h.nodup.idxOf_getElem j (by simpa using h1)]
    exact List.getElem?_eq_getElem _
  rw [← List.map_perm_map_iff (Option.some_injective _), permuteList_map_some perm xs h, ← h2]
  exact h.symm.map _

theorem permuteList_nodup {α : Type} (perm : List Nat) (xs : List α) (h : IsPerm perm xs.length)
    (hn : xs.Nodup) : (permuteList perm xs).Nodup :=
  (List.Perm.nodup_iff (permuteList_perm perm xs h)).2 hn

theorem permuteList_mem {α : Type} (perm : List Nat) (xs : List α) (h : IsPerm perm xs.length)
    (a : α) : a ∈ permuteList perm xs ↔ a ∈ xs :=
  List.Perm.mem_iff (permuteList_perm perm xs h)

theorem permuteList_map {α β : Type} (perm : List Nat) (φ : α → β) (xs : List α) :
    permuteList perm (xs.map φ) = (permuteList perm xs).map φ := by
  simp only [permuteList, List.length_map, List.getElem?_map, List.map_filterMap]

/-! ### `mapME` -/

section mapME
universe u v w
variable {α : Type u} {β : Type v} {ε : Type w} (f : α → Except ε β)

theorem mapME_eq_mapM (xs : List α) : mapME f xs = xs.mapM f :=
  ListAux.loop_eq_mapM (mapME f) rfl (fun a as => by rw [mapME]; cases f a <;> cases mapME f as <;> rfl) xs

theorem mapME_ok_iff (xs : List α) (ys : List β) :
    mapME f xs = .ok ys ↔ List.Forall₂ (fun x y => f x = .ok y) xs ys := by
  rw [mapME_eq_mapM, ListAux.mapM_eq_ok_iff, ← List.forall₂_eq_eq_eq, List.forall₂_map_left_iff,
    List.forall₂_map_right_iff]

theorem mapME_error (xs : List α) (e : ε) (h : mapME f xs = .error e) : ∃ x ∈ xs, f x = .error e :=
  ListAux.mapM_error (mapME_eq_mapM f xs ▸ h)

theorem mapME_ok_getElem? (l : List α) (out : List β) (h : mapME f l = .ok out) :
    out.length = l.length ∧
      ∀ (i : Nat) (a : α), l[i]? = some a → ∃ b, out[i]? = some b ∧ f a = .ok b := by
  have h2 := (mapME_ok_iff f l out).1 h
  refine ⟨h2.length_eq.symm, fun i a hi => ?_⟩
  obtain ⟨hil, rfl⟩ := List.getElem?_eq_some_iff.1 hi
  have hio : i < out.length := h2.length_eq ▸ hil
  exact ⟨out[i], List.getElem?_eq_getElem hio, h2.get hil hio⟩

theorem mapME_ok_of_forall (l : List α) (h : ∀ a ∈ l, ∃ b, f a = .ok b) :
    ∃ out, mapME f l = .ok out := by
  rw [mapME_eq_mapM]; exact ListAux.mapM_ok_of_forall h

theorem mapME_ok_map (g : α → β) (l : List α) (h : ∀ a ∈ l, f a = .ok (g a)) :
    mapME f l = .ok (l.map g) :=
  (mapME_eq_mapM f l).trans (ListAux.mapM_eq_ok_map h)

end mapME

theorem mapME_congr {α β ε : Type} (f g : α → Except ε β) : ∀ (l : List α),
    (∀ a ∈ l, f a = g a) → mapME f l = mapME g l := by
  intro l
  induction l with
  | nil => intro _; rfl
  | cons a l ih =>
    intro h
    simp only [mapME]
    rw [h a (by simp), ih (fun x hx => h x (by simp [hx]))]

/-! ### the reader of the statistics file -/

/-- the value the mapper sees for (leaf, gene NAME) -/
def meanByName (f : StatsFile) (leaf : Leaf) (g : Gene) : Option Rat :=
  match leafMeanRow f leaf, nameToIdx f.colNames g with
  | .ok row, some j => row[j]?
  | _, _ => none

/-- every leaf of the stored taxonomy has a row inside the arrays, of the width of `col_names` -/
def FileOK (f : StatsFile) : Prop :=
  ∀ leaf ∈ leavesOf f.tree, ∃ r row, f.clusterToRow.lookup leaf = some r ∧
    f.data[r]? = some row ∧ row.genes.length = f.colNames.length

/-- `FileOK` as a check -/
def fileOKb (f : StatsFile) : Bool :=
  (leavesOf f.tree).all (fun leaf =>
    match f.clusterToRow.lookup leaf with
    | none => false
    | some r => match f.data[r]? with
      | none => false
      | some row => row.genes.length == f.colNames.length)

theorem fileOK_of_check (f : StatsFile) (h : fileOKb f = true) : FileOK f := by
  intro leaf hl
  have := List.all_eq_true.1 h leaf hl
  cases h1 : f.clusterToRow.lookup leaf with
  | none => simp [h1] at this
  | some r =>
    cases h2 : f.data[r]? with
    | none => simp [h1, h2] at this
    | some row =>
      simp only [h1, h2, beq_iff_eq] at this
      exact ⟨r, row, rfl, h2, this⟩

/-- `sum / max(1, n_cells)` of one row read into a zeroed accumulator of `g` genes -/
def meanRow (g : Nat) (row : Row) : List Rat :=
  ((Row.zero g).add row).genes.map (fun s => meanOf ((Row.zero g).add row).n s.sum)

theorem meanRow_of_width (g : Nat) (row : Row) (h : row.genes.length = g) :
    meanRow g row = row.genes.map (fun s => meanOf row.n s.sum) := by
  simp only [meanRow, Row.add, Row.zero, Nat.zero_add]
  rw [vadd_replicate_zero_left g row.genes (by omega)]

theorem meanRow_length (g : Nat) (row : Row) (h : row.genes.length = g) :
    (meanRow g row).length = g := by
  rw [meanRow_of_width g row h]; simpa using h

/-- `leafMeanRow` depends on the file only through the row `cluster_to_row` points to -/
theorem leafMeanRow_eq (f : StatsFile) (leaf : Leaf) :
    leafMeanRow f leaf = match readRow f.data f.clusterToRow leaf with
      | .error e => .error (.stats e)
      | .ok row => .ok (meanRow f.colNames.length row) := by
  unfold leafMeanRow aggregateStats
  simp only [mapMExcept]
  cases h : readRow f.data f.clusterToRow leaf with
  | error e => rfl
  | ok row => simp [meanRow]

theorem leafMeanRow_of_row (f : StatsFile) (leaf : Leaf) (r : Nat) (row : Row)
    (h1 : f.clusterToRow.lookup leaf = some r) (h2 : f.data[r]? = some row)
    (h3 : row.genes.length = f.colNames.length) :
    leafMeanRow f leaf = .ok (row.genes.map (fun s => meanOf row.n s.sum)) := by
  rw [leafMeanRow_eq, readRow_ok _ _ _ _ _ h1 h2]
  simp only
  rw [meanRow_of_width _ _ h3]

theorem meanByName_of_row (f : StatsFile) (leaf : Leaf) (r : Nat) (row : Row)
    (h1 : f.clusterToRow.lookup leaf = some r) (h2 : f.data[r]? = some row)
    (h3 : row.genes.length = f.colNames.length) (g : Gene) (j : Nat)
    (hj : nameToIdx f.colNames g = some j) :
    meanByName f leaf g = (row.genes.map (fun s => meanOf row.n s.sum))[j]? := by
  rw [meanByName, leafMeanRow_of_row f leaf r row h1 h2 h3, hj]

/-- `get_leaf_means`: one read per leaf of the stored taxonomy, in sorted order -/
theorem leafMeans_eq (f : StatsFile) :
    leafMeans f = (mapME (leafMeanRow f) (RawTree.sortNat (leavesOf f.tree))).map
      fun rows => ⟨RawTree.sortNat (leavesOf f.tree), f.colNames, rows⟩ := by
  cases h : mapME (leafMeanRow f) (RawTree.sortNat (leavesOf f.tree)) <;> simp only [leafMeans, h] <;> rfl

theorem leafMeans_shape (f : StatsFile) (M : Matrix) (h : leafMeans f = .ok M) :
    M.cellIds = RawTree.sortNat (leavesOf f.tree) ∧ M.geneIds = f.colNames ∧
    M.data.length = M.cellIds.length ∧
    ∀ (i : Nat) (leaf : Leaf), M.cellIds[i]? = some leaf →
      ∃ row, M.data[i]? = some row ∧ leafMeanRow f leaf = .ok row := by
  rw [leafMeans_eq] at h
  cases hm : mapME (leafMeanRow f) (RawTree.sortNat (leavesOf f.tree)) with
  | error e => rw [hm] at h; cases h
  | ok rows =>
    rw [hm] at h
    cases h
    obtain ⟨i1, i2⟩ := mapME_ok_getElem? _ _ _ hm
    exact ⟨rfl, rfl, i1, i2⟩

theorem leafMeans_ok (f : StatsFile) (h : FileOK f) : ∃ M, leafMeans f = .ok M := by
  obtain ⟨rows, hr⟩ := mapME_ok_of_forall (leafMeanRow f) (RawTree.sortNat (leavesOf f.tree)) (by
    intro leaf hl
    obtain ⟨r, row, h1, h2, h3⟩ := h leaf (RawTree.mem_sortNat.1 hl)
    exact ⟨_, leafMeanRow_of_row f leaf r row h1 h2 h3⟩)
  exact ⟨_, by rw [leafMeans_eq, hr]; rfl⟩

theorem leafMeans_row_by_name (f : StatsFile) (M : Matrix) (h : leafMeans f = .ok M) (leaf : Leaf)
    (hl : leaf ∈ leavesOf f.tree) :
    leafMeanRow f leaf = .ok (M.data.getD (colOf M.cellIds leaf) []) := by
  obtain ⟨h1, _, _, h4⟩ := leafMeans_shape f M h
  obtain ⟨row, e1, e2⟩ := h4 _ leaf (getElem?_of_nameToIdx _ _ _ (nameToIdx_colOf _ leaf (by
    rw [h1, RawTree.mem_sortNat]; exact hl)))
  rw [List.getD_eq_getElem?_getD, e1]
  exact e2

theorem leafMeanRow_length_of_fileOK (f : StatsFile) (hf : FileOK f) (leaf : Leaf)
    (hl : leaf ∈ leavesOf f.tree) (row : List Rat) (h : leafMeanRow f leaf = .ok row) :
    row.length = f.colNames.length := by
  obtain ⟨r, row', e1, e2, e3⟩ := hf leaf hl
  rw [leafMeanRow_of_row f leaf r row' e1 e2 e3] at h
  cases h
  rw [List.length_map]
  exact e3

theorem leafMeanRow_length_of_rect (f : StatsFile) (hw : ∀ row ∈ f.data, row.genes.length = f.colNames.length)
    (leaf : Leaf) (row : List Rat) (h : leafMeanRow f leaf = .ok row) :
    row.length = f.colNames.length := by
  rw [leafMeanRow_eq] at h
  cases hr : readRow f.data f.clusterToRow leaf with
  | error e => simp [hr] at h
  | ok r =>
    simp only [hr, Except.ok.injEq] at h
    subst h
    exact meanRow_length _ _ (hw r (readRow_mem _ _ _ _ hr))

/-! ### another row order -/

theorem permuteRows_lookup (perm : List Nat) (f : StatsFile) (leaf : Leaf) :
    (permuteRows perm f).clusterToRow.lookup leaf
      = (f.clusterToRow.lookup leaf).map (fun r => perm[r]?.getD r) := by
  have : (permuteRows perm f).clusterToRow
      = f.clusterToRow.map (fun p => (p.1, (fun r => perm[r]?.getD r) p.2)) := by
    simp only [permuteRows]
    congr 1
    funext p
    cases perm[p.2]? <;> rfl
  rw [this]
  exact ListAux.lookup_map_snd (fun r => perm[r]?.getD r) leaf f.clusterToRow

theorem readRow_permuteRows (perm : List Nat) (f : StatsFile) (h : IsPerm perm f.data.length)
    (leaf : Leaf) :
    readRow (permuteRows perm f).data (permuteRows perm f).clusterToRow leaf
      = readRow f.data f.clusterToRow leaf := by
  simp only [readRow, permuteRows_lookup]
  cases f.clusterToRow.lookup leaf with
  | none => rfl
  | some r =>
    simp only [Option.map_some]
    rw [show (permuteRows perm f).data = permuteList perm f.data from rfl,
      permuteList_at_getD perm f.data h r]

theorem leafMeanRow_permuteRows (perm : List Nat) (f : StatsFile) (h : IsPerm perm f.data.length)
    (leaf : Leaf) : leafMeanRow (permuteRows perm f) leaf = leafMeanRow f leaf := by
  rw [leafMeanRow_eq, leafMeanRow_eq, readRow_permuteRows perm f h leaf]
  rfl

theorem leafMeans_permuteRows (perm : List Nat) (f : StatsFile) (h : IsPerm perm f.data.length) :
    leafMeans (permuteRows perm f) = leafMeans f := by
  rw [leafMeans_eq, leafMeans_eq, funext (leafMeanRow_permuteRows perm f h)]
  rfl

theorem meanByName_permuteRows (perm : List Nat) (f : StatsFile) (h : IsPerm perm f.data.length)
    (leaf : Leaf) (g : Gene) : meanByName (permuteRows perm f) leaf g = meanByName f leaf g := by
  unfold meanByName
  rw [leafMeanRow_permuteRows perm f h leaf]
  rfl

theorem fileOK_permuteRows (σ : List Nat) (f : StatsFile) (hσ : IsPerm σ f.data.length)
    (h : FileOK f) : FileOK (permuteRows σ f) := by
  intro leaf hl
  obtain ⟨r, row, h1, h2, h3⟩ := h leaf hl
  refine ⟨σ[r]?.getD r, row, by rw [permuteRows_lookup, h1]; rfl, ?_, h3⟩
  rw [← h2]
  exact permuteList_at_getD σ f.data hσ r

/-! ### another gene order -/

theorem readRow_permuteGenes (perm : List Nat) (f : StatsFile) (leaf : Leaf) :
    readRow (permuteGenes perm f).data (permuteGenes perm f).clusterToRow leaf
      = match readRow f.data f.clusterToRow leaf with
        | .error e => .error e
        | .ok row => .ok { row with genes := permuteList perm row.genes } := by
  simp only [permuteGenes, readRow]
  cases hl : f.clusterToRow.lookup leaf with
  | none => rfl
  | some r =>
    simp only [List.getElem?_map]
    cases hr : f.data[r]? with
    | none => rfl
    | some row => rfl

theorem leafMeanRow_permuteGenes (perm : List Nat) (f : StatsFile)
    (h : IsPerm perm f.colNames.length)
    (hw : ∀ row ∈ f.data, row.genes.length = f.colNames.length) (leaf : Leaf) :
    leafMeanRow (permuteGenes perm f) leaf = match leafMeanRow f leaf with
      | .error e => .error e
      | .ok row => .ok (permuteList perm row) := by
  rw [leafMeanRow_eq, leafMeanRow_eq, readRow_permuteGenes]
  cases hr : readRow f.data f.clusterToRow leaf with
  | error e => rfl
  | ok row =>
    have hlen := hw row (readRow_mem _ _ _ _ hr)
    have hcl : (permuteGenes perm f).colNames.length = f.colNames.length :=
      permuteList_length perm f.colNames h
    simp only [hcl]
    rw [meanRow_of_width _ row hlen, meanRow_of_width _ _ (by
      simp only
      rw [permuteList_length perm row.genes (by rw [hlen]; exact h)]
      exact hlen)]
    simp only [permuteList_map]

theorem nameToIdx_permuteList (perm : List Nat) (names : List Gene) (h : IsPerm perm names.length)
    (hn : names.Nodup) (g : Gene) :
    nameToIdx (permuteList perm names) g = (nameToIdx names g).bind (fun j => perm[j]?) := by
  cases hj : nameToIdx names g with
  | none =>
    simp only [Option.bind_none]
    rw [nameToIdx_eq_none_iff, permuteList_mem perm names h, ← nameToIdx_eq_none_iff]
    exact hj
  | some j =>
    have hj' := getElem?_of_nameToIdx names g j hj
    obtain ⟨hlt, _⟩ := List.getElem?_eq_some_iff.1 hj'
    have hlt' : j < perm.length := by rw [h.length_eq]; exact hlt
    simp only [Option.bind_some, List.getElem?_eq_getElem hlt']
    rw [nameToIdx_eq_some_iff _ (permuteList_nodup perm names h hn),
      permuteList_at perm names h j hlt']
    exact hj'

theorem meanByName_permuteGenes (perm : List Nat) (f : StatsFile)
    (h : IsPerm perm f.colNames.length) (hn : f.colNames.Nodup)
    (hw : ∀ row ∈ f.data, row.genes.length = f.colNames.length) (leaf : Leaf) (g : Gene) :
    meanByName (permuteGenes perm f) leaf g = meanByName f leaf g := by
  unfold meanByName
  rw [leafMeanRow_permuteGenes perm f h hw leaf]
  have hc : (permuteGenes perm f).colNames = permuteList perm f.colNames := rfl
  rw [hc, nameToIdx_permuteList perm f.colNames h hn g]
  cases hr : leafMeanRow f leaf with
  | error e => rfl
  | ok row =>
    cases hj : nameToIdx f.colNames g with
    | none => rfl
    | some j =>
      have hj' := getElem?_of_nameToIdx _ g j hj
      obtain ⟨hlt, _⟩ := List.getElem?_eq_some_iff.1 hj'
      have hlt' : j < perm.length := by rw [h.length_eq]; exact hlt
      have hrl := leafMeanRow_length_of_rect f hw leaf row hr
      simp only [Option.bind_some, List.getElem?_eq_getElem hlt']
      exact permuteList_at perm row (by rw [hrl]; exact h) j hlt'

theorem fileOK_permuteGenes (π : List Nat) (f : StatsFile) (hπ : IsPerm π f.colNames.length)
    (h : FileOK f) : FileOK (permuteGenes π f) := by
  intro leaf hl
  obtain ⟨r, row, h1, h2, h3⟩ := h leaf hl
  refine ⟨r, { row with genes := permuteList π row.genes }, h1, ?_, ?_⟩
  · simp only [permuteGenes, List.getElem?_map, h2, Option.map_some]
  · simp only [permuteGenes]
    rw [permuteList_length π row.genes (by rw [h3]; exact hπ), permuteList_length π f.colNames hπ]
    exact h3

/-! ### both rearrangements at once -/

theorem meanByName_permute (σ π : List Nat) (f : StatsFile) (hσ : IsPerm σ f.data.length)
    (hπ : IsPerm π f.colNames.length) (hn : f.colNames.Nodup)
    (hw : ∀ row ∈ f.data, row.genes.length = f.colNames.length) (leaf : Leaf) (g : Gene) :
    meanByName (permuteGenes π (permuteRows σ f)) leaf g = meanByName f leaf g := by
  rw [meanByName_permuteGenes π (permuteRows σ f) hπ hn (by
    intro row hr
    exact hw row ((permuteList_mem σ f.data hσ row).1 hr))]
  exact meanByName_permuteRows σ f hσ leaf g

theorem fileOK_permute (σ π : List Nat) (f : StatsFile) (hσ : IsPerm σ f.data.length)
    (hπ : IsPerm π f.colNames.length) (h : FileOK f) :
    FileOK (permuteGenes π (permuteRows σ f)) :=
  fileOK_permuteGenes π (permuteRows σ f) hπ (fileOK_permuteRows σ f hσ h)

/-! ### `downsample_genes`, `downsample_cells` -/

theorem pick_eq_mapM (row : List Rat) (idx : List Nat) :
    pick row idx = idx.mapM fun i => ListAux.orRaise .badIndex row[i]? :=
  ListAux.loop_eq_mapM (pick row) rfl (fun i is => by rw [pick]; cases row[i]? <;> cases pick row is <;> rfl) idx

theorem pickRows_eq_mapM (data : List (List Rat)) (idx : List Nat) :
    pickRows data idx = idx.mapM fun i => ListAux.orRaise .badIndex data[i]? :=
  ListAux.loop_eq_mapM (pickRows data) rfl
    (fun i is => by rw [pickRows]; cases data[i]? <;> cases pickRows data is <;> rfl) idx

/-- `[name_to_col[n] for n in sel]`: the columns of the selected names, or `KeyError` -/
theorem colsOf_eq (names sel : List Gene) :
    colsOf names sel =
      if ∀ g ∈ sel, g ∈ names then .ok (sel.map (colOf names)) else .error .keyError := by
  rw [colsOf, mapME_eq_mapM]
  refine ListAux.mapM_eq_ite (fun g => ?_) sel
  rw [← orRaise_nameToIdx]
  cases nameToIdx names g <;> rfl

theorem pick_eq (row : List Rat) (idx : List Nat) (h : ∀ i ∈ idx, i < row.length) :
    pick row idx = .ok (idx.map (row.getD · 0)) := by
  rw [pick_eq_mapM, ListAux.mapM_eq_ite (ListAux.orRaise_getElem? _ 0 row), if_pos h]

/-- the columns NAMED `sel`, in that order, of a table whose columns are named `names` -/
def colsByName (names sel : List Gene) (data : List (List Rat)) : List (List Rat) :=
  data.map (fun row => sel.map (fun g => row.getD (colOf names g) 0))

/-- the rows NAMED `sel`, in that order, of a table whose rows are named `ids` -/
def rowsByName (ids sel : List Nat) (data : List (List Rat)) : List (List Rat) :=
  sel.map (fun c => data.getD (colOf ids c) [])

theorem colsByName_length (names sel : List Gene) (data : List (List Rat)) :
    (colsByName names sel data).length = data.length := List.length_map _

theorem rowsByName_length (ids sel : List Nat) (data : List (List Rat)) :
    (rowsByName ids sel data).length = sel.length := List.length_map _

theorem colsByName_entry (names sel : List Gene) (data : List (List Rat))
    (hsel : ∀ g ∈ sel, g ∈ names) (hw : ∀ row ∈ data, row.length = names.length)
    (k j : Nat) (g : Gene) (hj : sel[j]? = some g) :
    ((colsByName names sel data)[k]?.bind (·[j]?)) =
      (data[k]?.bind (fun row => (nameToIdx names g).bind (row[·]?))) := by
  have hg := hsel g (List.mem_of_getElem? hj)
  rw [colsByName, List.getElem?_map, nameToIdx_colOf names g hg]
  cases hk : data[k]? with
  | none => rfl
  | some row =>
    have hlt : colOf names g < row.length := by
      rw [hw row (List.mem_of_getElem? hk)]; exact colOf_lt names g hg
    simp only [Option.map_some, Option.bind_some, List.getElem?_map, hj,
      List.getD_eq_getElem?_getD, List.getElem?_eq_getElem hlt, Option.getD_some]

/-- `downsample_genes` selects columns by NAME -/
theorem downsampleGenes_eq (cells : List Nat) (names sel : List Gene) (data : List (List Rat))
    (hsel : ∀ g ∈ sel, g ∈ names) (hw : ∀ row ∈ data, row.length = names.length) :
    downsampleGenes ⟨cells, names, data⟩ sel = .ok ⟨cells, sel, colsByName names sel data⟩ := by
  unfold downsampleGenes
  simp only [colsOf_eq, if_pos hsel]
  rw [mapME_ok_map _ (fun row => sel.map (fun g => row.getD (colOf names g) 0)) data
    (fun row hr => by
      rw [pick_eq row _ (fun i hi => by
        obtain ⟨g, hg, rfl⟩ := List.mem_map.1 hi
        rw [hw row hr]; exact colOf_lt _ g (hsel g hg)), List.map_map]; rfl)]
  rfl

/-- `downsample_cells` selects rows by NAME -/
theorem downsampleCells_eq (ids : List Nat) (genes : List Gene) (sel : List Nat)
    (data : List (List Rat)) (hsel : ∀ c ∈ sel, c ∈ ids) (hlen : data.length = ids.length) :
    downsampleCells ⟨ids, genes, data⟩ sel = .ok ⟨sel, genes, rowsByName ids sel data⟩ := by
  unfold downsampleCells
  simp only [colsOf_eq, if_pos hsel]
  rw [pickRows_eq_mapM, ListAux.mapM_eq_ite (ListAux.orRaise_getElem? _ [] data), if_pos fun i hi => by
    obtain ⟨c, hc, rfl⟩ := List.mem_map.1 hi
    rw [hlen]; exact colOf_lt _ c (hsel c hc), List.map_map]
  rfl

/-! ### the mapper: per-node matrices -/

/-- the model states the child level on its own because `RawTree.levelUnder` lives in a lemma file;
the tree lemmas are about `levelUnder` -/
theorem childLevelOf_eq (t : RawTree) (p : PKey) : childLevelOf t p = t.levelUnder p := by
  cases p <;> rfl

theorem leavesUnder_ok_iff (t : RawTree) (p : PKey) (leaves : List Leaf) :
    leavesUnder t p = .ok leaves ↔ ∃ ch cl, t.children p = .ok ch ∧ t.levelUnder p = some cl ∧
      leaves = RawTree.sortNat (ch.flatMap (t.asLeaves cl)) := by
  rw [leavesUnder, childLevelOf_eq]
  constructor
  · intro h
    split at h
    · next ch cl hch hcl => exact ⟨ch, cl, hch, hcl, (Except.ok.inj h).symm⟩
    · cases h
    · cases h
  · rintro ⟨ch, cl, hch, hcl, rfl⟩
    rw [hch, hcl]

theorem children_sub {t : RawTree} (s : RawTree.Strict t) (hne : t.hierarchy ≠ [])
    (hnd : t.hierarchy.Nodup) (parent : PKey) (sibs : List Node) (cl : Level)
    (hs : t.children parent = .ok sibs) (hcl : t.levelUnder parent = some cl) :
    ∃ i, ∃ hi : i < t.hierarchy.length, cl = t.hierarchy[i] ∧ ∀ c ∈ sibs, c ∈ t.nodesAt cl := by
  have hlen := List.length_pos_iff.2 hne
  cases parent with
  | none =>
    obtain ⟨l0, h0, rfl⟩ := RawTree.children_none_ok_iff.1 hs
    rw [RawTree.levelUnder, h0] at hcl
    cases hcl
    rw [List.head?_eq_getElem?, List.getElem?_eq_getElem hlen] at h0
    cases h0
    exact ⟨0, hlen, rfl, fun _ h => h⟩
  | some ln =>
    obtain ⟨l, n⟩ := ln
    obtain ⟨hl, hnm, rfl⟩ := RawTree.children_some_ok_iff.1 hs
    obtain ⟨i, hi, rfl⟩ := List.mem_iff_getElem.1 (s.keysSub l hl)
    rw [RawTree.levelUnder, RawTree.childLevel_getElem hnd hi] at hcl
    obtain ⟨hi1, rfl⟩ := List.getElem?_eq_some_iff.1 hcl
    exact ⟨i + 1, hi1, rfl, fun c hc => s.entry_sub hi1 hnm hc⟩

theorem leafLevel_mem (t : RawTree) (ll : Level) (hll : t.leafLevel = some ll) : ll ∈ t.hierarchy := by
  unfold RawTree.leafLevel at hll
  exact List.mem_of_getLast? hll

theorem leavesOf_of_leafLevel {t : RawTree} {ll : Level} (h : t.leafLevel = some ll) :
    leavesOf t = t.nodesAt ll := by
  rw [leavesOf, h]

theorem leavesOf_eq (t : RawTree) (hne : t.hierarchy ≠ []) :
    leavesOf t = t.nodesAt (t.hierarchy[t.hierarchy.length - 1]'(by
      have := List.length_pos_iff.2 hne; omega)) := by
  exact leavesOf_of_leafLevel (RawTree.leafLevel_eq hne)

/-- in a strict tree (what `validate_taxonomy_tree` accepts) the leaves below a parent are
leaves of the taxonomy -/
theorem leavesUnder_sub (t : RawTree) (hT : TreeWF t) (s : RawTree.Strict t) (p : PKey)
    (leaves : List Leaf) (h : leavesUnder t p = .ok leaves) :
    ∀ leaf ∈ leaves, leaf ∈ leavesOf t := by
  obtain ⟨ch, cl, hch, hcl, rfl⟩ := (leavesUnder_ok_iff t p leaves).1 h
  obtain ⟨i, hi, rfl, hsub⟩ := children_sub s hT.hierNonempty hT.hierNodup p ch cl hch hcl
  intro leaf hl
  rw [RawTree.mem_sortNat, List.mem_flatMap] at hl
  obtain ⟨c, hc, ha⟩ := hl
  rw [leavesOf_eq t hT.hierNonempty]
  exact RawTree.asLeaves_sub_leaf s hT.hierNodup hi (hsub c hc) ha

theorem levelUnder_of_mem_allParents (t : RawTree) (hT : TreeWF t) (p : PKey)
    (hp : p ∈ t.allParents) : ∃ cl, t.levelUnder p = some cl := by
  cases p with
  | none => exact ⟨_, List.head?_eq_some_head hT.hierNonempty⟩
  | some ln =>
    obtain ⟨l, n⟩ := ln
    obtain ⟨i, hi, rfl, _⟩ := RawTree.mem_allParents_some.1 hp
    rw [RawTree.levelUnder, RawTree.childLevel_getElem hT.hierNodup]
    exact ⟨_, List.getElem?_eq_getElem hi⟩

theorem leavesUnder_ok (t : RawTree) (hT : TreeWF t) (p : PKey) (hp : p ∈ t.allParents)
    (hc : Consulted t p) : ∃ leaves, leavesUnder t p = .ok leaves := by
  obtain ⟨ch, hch, _⟩ := hc
  obtain ⟨cl, hcl⟩ := levelUnder_of_mem_allParents t hT p hp
  unfold childrenOf at hch
  cases h : t.children p with
  | error e => rw [h] at hch; cases hch
  | ok c => exact ⟨_, (leavesUnder_ok_iff t p _).2 ⟨c, cl, h, hcl, rfl⟩⟩

/-- `assemble_query_data`: the query's columns, and the leaf-mean matrix's rows
and columns, selected by NAME -/
theorem assembleData_eq (t : RawTree) (c : Cache) (means query : Matrix) (p : PKey)
    (leaves : List Leaf) (rows : List (Nat × Nat)) (names : List Gene)
    (hl : leavesUnder t p = .ok leaves) (hg : c.groups.lookup p = some rows)
    (hnq : namesAt c.queryNames (rows.map (·.2)) = .ok names)
    (hnr : namesAt c.refNames (rows.map (·.1)) = .ok names)
    (hq : ∀ g ∈ names, g ∈ query.geneIds) (hr : ∀ g ∈ names, g ∈ means.geneIds)
    (hwq : ∀ row ∈ query.data, row.length = query.geneIds.length)
    (hsub : ∀ leaf ∈ leaves, leaf ∈ means.cellIds) (hlen : means.data.length = means.cellIds.length)
    (hwr : ∀ row ∈ rowsByName means.cellIds leaves means.data, row.length = means.geneIds.length) :
    assembleData t c means query p = .ok
      ⟨⟨query.cellIds, names, colsByName query.geneIds names query.data⟩,
       ⟨leaves, names,
        colsByName means.geneIds names (rowsByName means.cellIds leaves means.data)⟩⟩ := by
  have hqd : downsampleGenes query names = _ :=
    downsampleGenes_eq query.cellIds query.geneIds names query.data hq hwq
  have hsd : downsampleCells means leaves = _ :=
    downsampleCells_eq means.cellIds means.geneIds leaves means.data hsub hlen
  have hrd := downsampleGenes_eq leaves means.geneIds names
    (rowsByName means.cellIds leaves means.data) hr hwr
  rw [assembleData]
  simp only [hl, hg, hnq, hnr, hqd, hsd, hrd, bne_self_eq_false, Bool.false_eq_true, if_false]

/-! ### the file written by the first stage -/

/-- the cells, over all files, named in the taxonomy's cell list of `leaf` -/
def membersOf (t : RawTree) (ll : Level) (files : List (Nat × List CellRec)) (leaf : Leaf) :
    List CellRec :=
  (files.flatMap (·.2)).filter (fun cell => (t.entry ll leaf).contains cell.name)

theorem lookup_enumerate (xs : List Nat) (x : Nat) : (enumerate xs).lookup x = indexIn xs x := by
  rw [enumerate, ListAux.lookup_zipIdx, indexIn_eq]; rfl

/-- which cells the table sends to the row of `leaf`: those of the leaf's cell list.  `hnone` and
`hsome` are what `nameToRowOfTree_spec` says of the table. -/
theorem rowOf_leaf (l2c : List (Nat × List Nat)) (hkeys : (l2c.map (·.1)).Nodup)
    (tbl : List (Nat × Nat))
    (hnone : ∀ k, (∀ q ∈ l2c, k ∉ q.2) → tbl.lookup k = none)
    (hsome : ∀ q ∈ l2c, ∀ k ∈ q.2, tbl.lookup k = indexIn (uniqueSorted (l2c.map (·.1))) q.1)
    (leaf : Nat) (cs : List Nat) (hleaf : (leaf, cs) ∈ l2c) (r : Nat)
    (hr : indexIn (uniqueSorted (l2c.map (·.1))) leaf = some r) (cell : CellRec) :
    (rowOf tbl cell == some r) = cs.contains cell.name := by
  rw [Bool.eq_iff_iff, beq_iff_eq, List.contains_iff_mem, rowOf]
  constructor
  · intro h
    -- the name is listed under some leaf `q.1`; that leaf has the rank of `leaf`, so it is `leaf`
    obtain ⟨q, hq, hin⟩ : ∃ q ∈ l2c, cell.name ∈ q.2 := by
      by_contra hno
      rw [hnone _ (fun q hq hin => hno ⟨q, hq, hin⟩)] at h
      cases h
    rw [hsome q hq _ hin] at h
    have hql : q.1 = leaf :=
      Option.some.inj ((indexIn_getElem? _ _ _ h).symm.trans (indexIn_getElem? _ _ _ hr))
    have h1 := ListAux.lookup_of_mem_nodup hkeys (show (q.1, q.2) ∈ l2c from hq)
    rw [hql, ListAux.lookup_of_mem_nodup hkeys hleaf] at h1
    exact Option.some.inj h1 ▸ hin
  · intro h
    rw [hsome _ hleaf _ h]
    exact hr

theorem cellsOfRow_eq_membersOf (t : RawTree) (ll : Level) (files : List (Nat × List CellRec))
    (hkeys : (t.nodesAt ll).Nodup) (tbl : List (Nat × Nat))
    (hnone : ∀ k, (∀ q ∈ t.level ll, k ∉ q.2) → tbl.lookup k = none)
    (hsome : ∀ q ∈ t.level ll, ∀ k ∈ q.2,
      tbl.lookup k = indexIn (uniqueSorted ((t.level ll).map (·.1))) q.1)
    (leaf : Nat) (hleaf : leaf ∈ t.nodesAt ll) (r : Nat)
    (hr : indexIn (uniqueSorted ((t.level ll).map (·.1))) leaf = some r) :
    cellsOfRow tbl r (files.flatMap (·.2)) = membersOf t ll files leaf := by
  unfold cellsOfRow membersOf
  apply List.filter_congr
  intro cell _
  exact rowOf_leaf (t.level ll) hkeys tbl hnone hsome leaf (t.entry ll leaf)
    (RawTree.mem_level_entry hleaf) r hr cell

/-- the mean over the taxonomy's cells of `leaf` of the value in gene column `j` -/
def memberMean (t : RawTree) (ll : Level) (files : List (Nat × List CellRec)) (leaf : Leaf)
    (j : Nat) : Rat :=
  meanOf (membersOf t ll files leaf).length
    ((membersOf t ll files leaf).map (fun cell => cell.vals.getD j 0)).sum

/-- **the file the first stage writes**: the arrays are rectangular of the width of `col_names`,
`cluster_to_row` sends every leaf of the taxonomy to the row of its rank among the sorted leaf
names, whose `n_cells` counts the cells the taxonomy lists for the leaf and whose mean at gene
position `j` is the mean over those cells. -/
theorem writeStats_spec (t : RawTree) (genes : List Gene) (files : List (Nat × List CellRec))
    (rows nProc : Nat) (f : StatsFile) (ll : Level) (hrows : 1 ≤ rows) (hproc : 1 ≤ nProc)
    (hll : t.leafLevel = some ll) (hkeys : (t.nodesAt ll).Nodup)
    (hdisj : (t.level ll).Pairwise (fun a b => ∀ c ∈ a.2, c ∉ b.2))
    (hg : ∀ fl ∈ files, ∀ cell ∈ fl.2, cell.vals.length = genes.length)
    (h : writeStats t genes files rows nProc = .ok f) :
    f.colNames = genes ∧ f.tree = t ∧
    f.clusterToRow = enumerate (uniqueSorted (t.nodesAt ll)) ∧
    f.data.length = (uniqueSorted (t.nodesAt ll)).length ∧
    (∀ row ∈ f.data, row.genes.length = genes.length) ∧
    ∀ leaf ∈ leavesOf t, ∃ r row,
      indexIn (uniqueSorted (t.nodesAt ll)) leaf = some r ∧ f.clusterToRow.lookup leaf = some r ∧
      f.data[r]? = some row ∧ row.n = (membersOf t ll files leaf).length ∧
      ∀ j, j < genes.length →
        (row.genes.map (fun s => meanOf row.n s.sum))[j]? = some (memberMean t ll files leaf j) := by
  unfold writeStats at h
  simp only [hll] at h
  obtain ⟨tbl, htbl, hbound, hnone, hsome⟩ := nameToRowOfTree_spec (t.level ll)
  have hsome := hsome hdisj
  simp only [htbl] at h
  -- some file holds a cell of the taxonomy, or `precompute` would have failed
  have hw : ∃ fl ∈ files, wanted tbl fl.2 = true := by
    by_contra hno
    rw [precompute_no_wanted _ _ _ _ _ _ hproc (fun fl hfl =>
      Bool.eq_false_iff.2 (fun hwf => hno ⟨fl, hfl, hwf⟩))] at h
    cases h
  rw [precompute_eq_direct _ genes.length tbl files rows nProc hrows hproc hbound hw] at h
  cases h
  have hlen := directBuf_length (uniqueSorted (t.nodesAt ll)).length genes.length tbl
    (files.flatMap (·.2))
  have hrow := fun r (hr : r < (uniqueSorted (t.nodesAt ll)).length) =>
    directBuf_getElem? genes.length tbl (files.flatMap (·.2)) hr
  have hcellw : ∀ r, ∀ cell ∈ cellsOfRow tbl r (files.flatMap (·.2)),
      cell.vals.length = genes.length := by
    intro r cell hcell
    obtain ⟨fl, hfl, hin⟩ := List.mem_flatMap.1 (List.mem_filter.1 hcell).1
    exact hg fl hfl cell hin
  have hwidth : ∀ r, ((Row.zero genes.length).add (S tbl r (files.flatMap (·.2)))).genes.length
      = genes.length := by
    intro r
    rw [← summaryStats_cellsOfRow]
    apply zero_add_summaryStats_genes_length
    intro c hc
    obtain ⟨cell, hcell, rfl⟩ := List.mem_map.1 hc
    exact hcellw r cell hcell
  refine ⟨rfl, rfl, rfl, hlen, ?_, ?_⟩
  · intro row hr
    obtain ⟨r, hrl, rfl⟩ := List.getElem_of_mem hr
    rw [Option.some.inj ((List.getElem?_eq_getElem hrl).symm.trans (hrow r (hlen ▸ hrl)))]
    exact hwidth r
  · intro leaf hl
    have hl' : leaf ∈ t.nodesAt ll := leavesOf_of_leafLevel hll ▸ hl
    obtain ⟨r, hr⟩ := indexIn_of_mem (uniqueSorted (t.nodesAt ll)) leaf
      ((mem_uniqueSorted _ _).2 hl')
    have hrlt := indexIn_lt _ _ _ hr
    have hcells := cellsOfRow_eq_membersOf t ll files hkeys tbl hnone hsome leaf hl' r hr
    refine ⟨r, _, hr, by rw [lookup_enumerate]; exact hr, hrow r hrlt, ?_, ?_⟩
    · simp only [Row.add, Row.zero, S, rowSum_cellStat_n, Nat.zero_add, hcells]
    · intro j hj
      obtain ⟨s, e2, e4, _⟩ := zero_add_rowSum_cellStat_genes genes.length _ (hcellw r) j hj
      change ((Row.zero genes.length).add (S tbl r (files.flatMap (·.2)))).genes[j]? = some s at e2
      rw [List.getElem?_map, e2, Option.map_some, e4]
      simp only [Row.add, Row.zero, S, rowSum_cellStat_n, Nat.zero_add, hcells]
      rfl

/-- a validated taxonomy lists no cell under two leaves -/
theorem disjoint_of_strict (t : RawTree) (s : RawTree.Strict t) (ll : Level)
    (hll : t.leafLevel = some ll) :
    (t.level ll).Pairwise (fun a b => ∀ c ∈ a.2, c ∉ b.2) := by
  have h := s.rowsNodup
  rw [RawTree.allRows_of_leaf hll] at h
  exact (List.nodup_flatMap.1 h).2.imp fun hd c hca hcb => hd hca hcb

end CTM.StageFiles

/-! ### the small instance on which the non-vacuity examples are evaluated

classes 10 (clusters 30, 31) and 11 (cluster 33); cells 100 | 101, 102 | 103, 104
spread over two files, cell 199 unnamed; genes named 7, 5, 9. -/
namespace CTM.StageFiles.Ex
open CTM CTM.Stats CTM.Markers

def tr : RawTree :=
  { hierarchy := [0, 1]
    levels := [(0, [(11, [33]), (10, [31, 30])]),
               (1, [(33, [103, 104]), (30, [100]), (31, [101, 102])])] }

def files : List (Nat × List CellRec) :=
  [(0, [⟨100, [1, 2, 3]⟩, ⟨199, [9, 9, 9]⟩, ⟨103, [4, 0, 1]⟩]),
   (1, [⟨101, [2, 2, 2]⟩, ⟨102, [4, 6, 0]⟩, ⟨104, [0, 2, 5]⟩])]

def genes : List Gene := [7, 5, 9]

/-- the file `writeStats tr genes files 2 2` writes -/
def f0 : StatsFile :=
  { clusterToRow := [(30, 0), (31, 1), (33, 2)]
    colNames := [7, 5, 9]
    data := [⟨1, [⟨1, 1, 1, 0, 1⟩, ⟨2, 4, 1, 1, 1⟩, ⟨3, 9, 1, 1, 1⟩]⟩,
             ⟨2, [⟨6, 20, 2, 2, 2⟩, ⟨8, 40, 2, 2, 2⟩, ⟨2, 4, 1, 1, 1⟩]⟩,
             ⟨2, [⟨4, 16, 1, 1, 1⟩, ⟨2, 4, 1, 1, 1⟩, ⟨6, 26, 2, 1, 2⟩]⟩]
    tree := tr }

/-- a marker table: class 10 ↦ gene 5, root ↦ genes 7, 9, class 11 (single child) ↦ gene 5 -/
def lk : Lookup := [(some (0, 10), [5]), (none, [7, 9]), (some (0, 11), [5])]

/-- a query with two cells and the gene columns 9, 8, 7, 5 -/
def query : Matrix := { cellIds := [0, 1], geneIds := [9, 8, 7, 5], data := [[1, 2, 3, 4], [5, 6, 7, 8]] }

end CTM.StageFiles.Ex
