import CTM.Lemmas.TreeAnc
import CTM.Lemmas.TreeValidate

/-!
  `TreeEquiv`: the same tree up to the order of dict keys and of the child and row lists.  It keeps
  `asLeaves` up to order, the parent relation, the rows up to order, well-formedness, `parents` and
  `ancestorAt`.  It says nothing of the two flags and of the key set of `levels`, which `wf_of_equiv` therefore
  asks for.  `TreeCommute` produces one.
-/

namespace CTM.RawTree

/-- same tree up to the order of dict keys and of the child / row lists -/
structure TreeEquiv (t₁ t₂ : RawTree) : Prop where
  hier : t₁.hierarchy = t₂.hierarchy
  nodes : ∀ l, l ∈ t₁.hierarchy → ∀ n, n ∈ t₁.nodesAt l ↔ n ∈ t₂.nodesAt l
  entries : ∀ l, l ∈ t₁.hierarchy → ∀ n, n ∈ t₁.nodesAt l → (t₁.entry l n).Perm (t₂.entry l n)

theorem leavesSpec_equiv {t₁ t₂ : RawTree} (e : TreeEquiv t₁ t₂) (s₁ : Strict t₁)
    (below : List Level) {pre : List Level} {l : Level} (hs : t₁.hierarchy = pre ++ l :: below)
    {n : Node} (hn : n ∈ t₁.nodesAt l) :
    (leavesSpec t₁ below l n).Perm (leavesSpec t₂ below l n) := by
  induction below generalizing pre l n with
  | nil => exact .refl _
  | cons cl rest ih =>
    have hpc : (l, cl) ∈ levelPairs t₁.hierarchy := mem_levelPairs_iff_split.2 ⟨pre, rest, hs⟩
    have hl : l ∈ t₁.hierarchy := hs ▸ List.mem_append_right _ List.mem_cons_self
    rw [leavesSpec, leavesSpec]
    refine (ListAux.perm_flatMap_congr fun c hc => ?_).trans ((e.entries l hl n hn).flatMap_right _)
    exact ih (pre := pre ++ [l]) (by rw [hs, List.append_assoc]; rfl)
      (s₁.childExists l cl hpc n _ (mem_level_entry hn) c hc)

theorem asLeaves_equiv {t₁ t₂ : RawTree} (e : TreeEquiv t₁ t₂) (s₁ : Strict t₁)
    (hN : t₁.hierarchy.Nodup) {l : Level} (hl : l ∈ t₁.hierarchy) {n : Node}
    (hn : n ∈ t₁.nodesAt l) : (t₁.asLeaves l n).Perm (t₂.asLeaves l n) := by
  obtain ⟨i, hi, rfl⟩ := List.getElem_of_mem hl
  have hb₂ : t₂.levelsBelow t₁.hierarchy[i] = t₁.hierarchy.drop (i+1) := by
    have := levelsBelow_getElem (t := t₂) (e.hier ▸ hN) (i := i) (e.hier ▸ hi)
    simpa only [← e.hier] using this
  refine (asLeaves_perm_spec t₁ _ n).trans (List.Perm.trans ?_ (asLeaves_perm_spec t₂ _ n).symm)
  rw [hb₂, levelsBelow_getElem hN hi]
  exact leavesSpec_equiv e s₁ _ (pre := t₁.hierarchy.take i)
    (by rw [List.getElem_cons_drop, List.take_append_drop]) hn

theorem TreeEquiv.symm' {t₁ t₂ : RawTree} (e : TreeEquiv t₁ t₂) : TreeEquiv t₂ t₁ where
  hier := e.hier.symm
  nodes := fun l hl n => (e.nodes l (e.hier ▸ hl) n).symm
  entries := fun l hl n hn =>
    (e.entries l (e.hier ▸ hl) n ((e.nodes l (e.hier ▸ hl) n).2 hn)).symm

theorem isChild_equiv {t₁ t₂ : RawTree} (e : TreeEquiv t₁ t₂) (d₁ : DictOK t₁) (d₂ : DictOK t₂)
    {pl : Level} (hpl : pl ∈ t₁.hierarchy) (p c : Node) :
    t₁.IsChild pl p c ↔ t₂.IsChild pl p c := by
  rw [isChild_iff d₁, isChild_iff d₂]
  constructor
  · rintro ⟨hp, hc⟩
    exact ⟨(e.nodes pl hpl p).1 hp, (e.entries pl hpl p hp).mem_iff.1 hc⟩
  · rintro ⟨hp, hc⟩
    have hp₁ := (e.nodes pl hpl p).2 hp
    exact ⟨hp₁, (e.entries pl hpl p hp₁).mem_iff.2 hc⟩

/-- a listed pair of `t₂` read back in `t₁` -/
theorem TreeEquiv.pair_back {t₁ t₂ : RawTree} (e : TreeEquiv t₁ t₂) (d₂ : DictOK t₂)
    {l : Level} (hl : l ∈ t₁.hierarchy) {p : Node} {cs : List Nat} (h : (p, cs) ∈ t₂.level l) :
    (p, t₁.entry l p) ∈ t₁.level l ∧ (t₁.entry l p).Perm cs := by
  have hp₂ : p ∈ t₂.nodesAt l := mem_nodesAt.2 ⟨cs, h⟩
  have hp₁ := (e.nodes l hl p).2 hp₂
  refine ⟨mem_level_entry hp₁, ?_⟩
  have := e.entries l hl p hp₁
  rwa [entry_of_mem d₂ h] at this

theorem allRows_equiv {t₁ t₂ : RawTree} (e : TreeEquiv t₁ t₂) (d₁ : DictOK t₁) (d₂ : DictOK t₂) :
    t₁.allRows.Perm t₂.allRows := by
  unfold allRows
  have hleaf : t₂.leafLevel = t₁.leafLevel := by unfold leafLevel; rw [e.hier]
  rw [hleaf]
  cases h : t₁.leafLevel with
  | none => exact List.Perm.refl _
  | some leaf =>
    have hl : leaf ∈ t₁.hierarchy := by
      unfold leafLevel at h
      exact List.mem_of_getLast? h
    simp only
    rw [← flatMap_entry_nodesAt d₁, ← flatMap_entry_nodesAt d₂]
    have hp : (t₁.nodesAt leaf).Perm (t₂.nodesAt leaf) :=
      (List.perm_ext_iff_of_nodup (d₁.nodesAt_nodup leaf) (d₂.nodesAt_nodup leaf)).2 (e.nodes leaf hl)
    exact (ListAux.perm_flatMap_congr (fun n hn => e.entries leaf hl n hn)).trans (hp.flatMap_right _)

theorem wf_of_equiv {t₁ t₂ : RawTree} (e : TreeEquiv t₁ t₂) (w₁ : WF t₁) (d₂ : DictOK t₂)
    (hh : t₂.hasHierarchy = true) (hs : t₂.nodesAreStr = true)
    (hk : ∀ k, k ∈ t₂.levels.map (·.1) ↔ k ∈ t₂.hierarchy) : WF t₂ := by
  have s₁ := strict_of_validate w₁.valid
  refine w₁.transfer d₂ (hh.trans s₁.hasH.symm) (hs.trans s₁.str.symm)
    (by rw [e.hier]; exact .refl _) (e.hier ▸ w₁.hNe) hk
    (fun l hl n => (e.nodes l (e.hier ▸ hl) n).symm) (fun pl cl hm => ?_)
    ((allRows_equiv e w₁.dict d₂).nodup_iff.1 s₁.rowsNodup)
  rw [← e.hier] at hm
  have l₁ := s₁.link hm
  have hpl : pl ∈ t₁.hierarchy := (List.of_mem_zip hm).1
  have hcl : cl ∈ t₁.hierarchy := List.mem_of_mem_tail (List.of_mem_zip hm).2
  refine ⟨?_, ?_, ?_, ?_, ?_⟩
  · intro p cs hp c hc
    obtain ⟨hb, hperm⟩ := e.pair_back d₂ hpl hp
    exact (e.nodes _ hcl c).1 (l₁.childExists p _ hb c (hperm.mem_iff.2 hc))
  · intro c hc
    obtain ⟨p, cs, hp, hcs⟩ := l₁.hasParent c ((e.nodes _ hcl c).2 hc)
    exact ⟨p, (isChild_equiv e w₁.dict d₂ hpl p c).1 ⟨cs, hp, hcs⟩⟩
  · intro p₁ cs₁ p₂ cs₂ h₁ h₂ c hc₁ hc₂
    obtain ⟨hb₁, hperm₁⟩ := e.pair_back d₂ hpl h₁
    obtain ⟨hb₂, hperm₂⟩ := e.pair_back d₂ hpl h₂
    exact l₁.oneParent p₁ _ p₂ _ hb₁ hb₂ c (hperm₁.mem_iff.2 hc₁) (hperm₂.mem_iff.2 hc₂)
  · intro p cs hp hnil
    obtain ⟨hb, hperm⟩ := e.pair_back d₂ hpl hp
    subst hnil
    exact l₁.childNe p _ hb hperm.eq_nil
  · intro p cs hp
    obtain ⟨hb, hperm⟩ := e.pair_back d₂ hpl hp
    exact hperm.nodup_iff.1 (l₁.childNodup p _ hb)

theorem parentLevel_equiv {t₁ t₂ : RawTree} (e : TreeEquiv t₁ t₂) (l : Level) :
    t₁.parentLevel l = t₂.parentLevel l := by
  unfold parentLevel levelIdx
  rw [e.hier]

theorem childToParent_equiv {t₁ t₂ : RawTree} (e : TreeEquiv t₁ t₂) (w₁ : WF t₁) (w₂ : WF t₂)
    (cl : Level) (c : Node) : t₁.childToParent cl c = t₂.childToParent cl c := by
  cases hpl : t₁.parentLevel cl with
  | none =>
    have hpl₂ : t₂.parentLevel cl = none := by rw [← parentLevel_equiv e]; exact hpl
    unfold childToParent
    rw [hpl, hpl₂]
  | some pl =>
    have hcl : cl ∈ t₁.hierarchy := by
      by_cases h : cl ∈ t₁.hierarchy
      · exact h
      · simp [parentLevel, levelIdx_none_of_not_mem h] at hpl
    obtain ⟨j, hj, rfl⟩ := List.getElem_of_mem hcl
    cases j with
    | zero => rw [parentLevel_zero w₁.hNodup hj] at hpl; cases hpl
    | succ i =>
      have hj₂ : i + 1 < t₂.hierarchy.length := by rw [← e.hier]; exact hj
      have he1 : t₁.hierarchy[i+1] = t₂.hierarchy[i+1] := by simp only [e.hier]
      have he0 : t₁.hierarchy[i]'(by omega) = t₂.hierarchy[i]'(by omega) := by simp only [e.hier]
      apply Option.ext
      intro p
      rw [childToParent_eq_some_iff (strict_of_validate w₁.valid) w₁.hNodup hj c p]
      rw [he1, childToParent_eq_some_iff (strict_of_validate w₂.valid) w₂.hNodup hj₂ c p, ← he0]
      exact isChild_equiv e w₁.dict w₂.dict (List.getElem_mem _) p c

theorem parents_equiv {t₁ t₂ : RawTree} (e : TreeEquiv t₁ t₂) (w₁ : WF t₁) (w₂ : WF t₂)
    (l : Level) (n : Node) : t₁.parents l n = t₂.parents l n :=
  parents_congr e.hier (childToParent_equiv e w₁ w₂) l n

theorem ancestorAt_equiv {t₁ t₂ : RawTree} (e : TreeEquiv t₁ t₂) (w₁ : WF t₁) (w₂ : WF t₂)
    (l : Level) (n : Node) (al : Level) : t₁.ancestorAt l n al = t₂.ancestorAt l n al :=
  ancestorAt_congr e.hier (childToParent_equiv e w₁ w₂) l n al

end CTM.RawTree
