import CTM.Lemmas.TreeAnc
import CTM.Lemmas.TreeDrop
import CTM.Lemmas.TreeRecords
import CTM.Lemmas.TreePaths
import CTM.Lemmas.TreeCommute
import CTM.Lemmas.TreeCells

/-!
  Gathers the tree lemma files on which `TreeLca`, `TreeLinks` and the files of the other models build,
  and adds the ancestor lemmas for a leaf level given by name and `dropAt_ancestorAt`:
  dropping a non-leaf level moves no leaf's ancestor.
-/

namespace CTM.RawTree
variable {t : RawTree}

theorem mem_asLeaves_iff_ancestorAt_lv (s : Strict t) (d : DictOK t) (hn : t.hierarchy.Nodup)
    {l leaf : Level} (hl : l ∈ t.hierarchy) (hleaf : t.leafLevel = some leaf)
    {a : Node} (ha : a ∈ t.nodesAt l) {n : Node} (hnl : n ∈ t.nodesAt leaf) :
    n ∈ t.asLeaves l a ↔ t.ancestorAt leaf n l = some a := by
  obtain ⟨i, hi, rfl⟩ := List.mem_iff_getElem.1 hl
  have hne : t.hierarchy ≠ [] := List.ne_nil_of_length_pos (by omega)
  rw [leafLevel_eq hne] at hleaf
  cases hleaf
  exact mem_asLeaves_iff_ancestorAt s d hn hi ha hnl

theorem exists_ancestorAt_lv (s : Strict t) (hn : t.hierarchy.Nodup)
    {l leaf : Level} (hl : l ∈ t.hierarchy) (hleaf : t.leafLevel = some leaf)
    {n : Node} (hnl : n ∈ t.nodesAt leaf) :
    ∃ a, t.ancestorAt leaf n l = some a ∧ a ∈ t.nodesAt l := by
  obtain ⟨i, hi, rfl⟩ := List.mem_iff_getElem.1 hl
  have hne : t.hierarchy ≠ [] := List.ne_nil_of_length_pos (by omega)
  rw [leafLevel_eq hne] at hleaf
  cases hleaf
  exact exists_ancestorAt s hn (by omega) (by omega) hnl

theorem dropAt_ancestorAt (w : WF t) {i : Nat} (hi : i < t.hierarchy.length)
    (hnl : i + 1 < t.hierarchy.length) {leaf : Level}
    (hleaf : t.leafLevel = some leaf) {n : Node} (hmem : n ∈ t.nodesAt leaf)
    {l : Level} (hl : l ∈ (t.dropAt i hi).hierarchy) :
    (t.dropAt i hi).ancestorAt leaf n l = t.ancestorAt leaf n l := by
  have s := strict_of_validate w.valid
  have w' := dropAt_wf w hi (by omega)
  have s' := strict_of_validate w'.valid
  have hleaf' := (dropAt_leafLevel_nonleaf hi hnl).trans hleaf
  obtain ⟨hlt, hli⟩ := (dropAt_mem_hierarchy w.hNodup hi).1 hl
  have hlne : leaf ≠ t.hierarchy[i] := by
    rw [leafLevel_eq w.hNe] at hleaf; cases hleaf
    exact ListAux.getElem_ne_of_nodup w.hNodup (by omega)
  have hmem' : n ∈ (t.dropAt i hi).nodesAt leaf := by
    rw [dropAt_nodesAt w.hNodup hi hlne]; exact hmem
  -- the ancestor `a` at level `l`: `n` is a leaf under `a`, before and after
  obtain ⟨a, ha, ham⟩ := exists_ancestorAt_lv s w.hNodup hlt hleaf hmem
  have h1 : n ∈ t.asLeaves l a :=
    (mem_asLeaves_iff_ancestorAt_lv s w.dict w.hNodup hlt hleaf ham hmem).2 ha
  have h2 : n ∈ (t.dropAt i hi).asLeaves l a :=
    (dropAt_asLeaves w.hNodup hi hnl hl a).mem_iff.2 h1
  have ham' : a ∈ (t.dropAt i hi).nodesAt l := by
    rw [dropAt_nodesAt w.hNodup hi hli]; exact ham
  rw [ha]
  exact (mem_asLeaves_iff_ancestorAt_lv s' w'.dict w'.hNodup hl hleaf' ham' hmem').1 h2

end CTM.RawTree
