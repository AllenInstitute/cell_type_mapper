/-
  Row access on a CSR matrix (`_csr_to_dense`, `_load_sparse`, `load_csr`, the row iterators of
  `CTM/Model/Sparse.lean`).

  `_csr_to_dense` of a well-formed matrix is `toDense` (`csrToDense_ok`).  `rowsPart M a b` is not
  a model function: it is written here as what `_load_sparse` should return, and `loadSparse_ok`
  says it does.  It is again well formed and its slice `i` is slice `a + i` of the source
  (`rowsPart_wf`, `segOf_rowsPart`), so `load_csr` and the CSR iterator follow.
-/
import CTM.Lemmas.SparseOps

namespace CTM.Sparse
open CTM.Chunking

/-! ### `_csr_to_dense` -/

/-- the loop of `_csr_to_dense` reads row after row between consecutive
pointers when the running `data_idx` starts at the first pointer -/
theorem csrRowsAux_eq {α} (zero : α) (nCols : Nat) (ind : List Nat) (dat : List α) :
    ∀ (ps : List Nat) (di : Nat), ps.Pairwise (· ≤ ·) → (∀ p ∈ ps, p ≤ ind.length) →
      ps.head? = some di →
      csrRowsAux zero nCols ind dat ps di
        = (ps.zip ps.tail).map fun ab =>
            scatter zero nCols (slice ind ab.1 ab.2) (slice dat ab.1 ab.2) := by
  intro ps
  induction ps with
  | nil => intro di _ _ h; simp at h
  | cons p0 rest ih =>
    intro di hs hb hh
    simp only [List.head?_cons, Option.some.injEq] at hh
    subst hh
    cases rest with
    | nil => simp [csrRowsAux]
    | cons p1 rest' =>
      rw [List.pairwise_cons] at hs
      have h01 : p0 ≤ p1 := hs.1 p1 (by simp)
      have hp1 : p1 ≤ ind.length := hb p1 (by simp)
      have hl : (slice ind p0 p1).length = p1 - p0 := slice_length_le ind hp1
      simp only [csrRowsAux, List.tail_cons, List.zip_cons_cons, List.map_cons, hl]
      have e : p0 + (p1 - p0) = p1 := by omega
      rw [e]
      congr 1
      have := ih p1 hs.2 (fun p hp => hb p (by simp [hp])) rfl
      simpa using this

theorem csrToDense_ok {α} (zero : α) (M : Mat α) (nRows nCols : Nat)
    (w : WFptr M.indptr nRows M.indices.length) (hr : ∀ x ∈ M.indices, x < nCols) :
    csrToDense zero M nRows nCols = .ok (toDense zero M nRows nCols) := by
  have hl := w.len
  unfold csrToDense
  have c1 : ¬ (M.indptr.length - 1 > nRows) := by omega
  have c2 : (usedCols M).any (· ≥ nCols) = false := by
    rw [List.any_eq_false]
    intro x hx
    obtain ⟨p, _, hx⟩ := List.mem_flatMap.mp hx
    have := hr x ((slice_sublist _ _ _).subset hx)
    simp; omega
  have hhead : M.indptr.head? = some 0 := by
    rw [List.head?_eq_getElem?, List.getElem?_eq_getElem (by omega), ← ptr_eq_getElem _ _ (by omega),
      w.first]
  have hrows : csrRowsAux zero nCols M.indices M.data M.indptr 0 = toDense zero M nRows nCols := by
    rw [csrRowsAux_eq zero nCols _ _ _ 0 w.sorted _ hhead, zip_tail_ptr, List.map_map, hl]
    · rfl
    · intro p hp
      obtain ⟨k, hk, rfl⟩ := List.mem_iff_getElem.mp hp
      rw [← ptr_eq_getElem _ _ hk]
      exact w.le_nnz (by omega)
  simp only [c1, c2, hrows, toDense_length, if_false, Bool.false_eq_true, Nat.sub_self,
    List.replicate_zero, List.append_nil]

/-! ### `_load_sparse` -/

/-- what `_load_sparse` returns for rows `a ..< b`: the pointer slice shifted to start at 0 and
the stored entries between its ends -/
def rowsPart {α} (M : Mat α) (a b : Nat) : Mat α :=
  ⟨(slice M.indptr a (b + 1)).map (· - ptr M.indptr a),
   slice M.indices (ptr M.indptr a) (ptr M.indptr b),
   slice M.data (ptr M.indptr a) (ptr M.indptr b)⟩

theorem loadSparse_ok {α} (M : Mat α) (nRows : Nat) (w : WFptr M.indptr nRows M.indices.length)
    (r0 r1 : Nat) (h01 : r0 ≤ r1) (h1 : r1 ≤ nRows) :
    loadSparse M r0 r1 = .ok (rowsPart M r0 r1) := by
  have hl := w.len
  have hlen : (slice M.indptr r0 (r1 + 1)).length = r1 + 1 - r0 := slice_length_le _ (by omega)
  have hhead : (slice M.indptr r0 (r1 + 1)).head? = some (ptr M.indptr r0) := by
    rw [List.head?_eq_getElem?, slice_ptr_getElem? _ (by omega) (by omega)]; rfl
  have hlast : (slice M.indptr r0 (r1 + 1)).getLast? = some (ptr M.indptr r1) := by
    rw [List.getLast?_eq_getElem?, hlen, slice_ptr_getElem? _ (by omega) (by omega),
      show r0 + (r1 + 1 - r0 - 1) = r1 by omega]
  have hmin : (slice M.indptr r0 (r1 + 1)).min? = some (ptr M.indptr r0) := by
    rw [List.min?_eq_head?, hhead]
    exact (w.sorted.sublist (slice_sublist _ _ _)).imp Nat.min_eq_left
  unfold loadSparse rowsPart
  simp only [hhead, hlast, hmin]

theorem ptr_rowsPart {α} (M : Mat α) (nRows : Nat) (w : WFptr M.indptr nRows M.indices.length)
    {a b k : Nat} (hk : a + k ≤ b) (hb : b ≤ nRows) :
    ptr (rowsPart M a b).indptr k = ptr M.indptr (a + k) - ptr M.indptr a := by
  rw [rowsPart, ptr_eq_getElem?_getD, List.getElem?_map,
    slice_ptr_getElem? _ hk (by have := w.len; omega)]
  rfl

theorem rowsPart_wf {α} (M : Mat α) (nRows : Nat) (w : WFptr M.indptr nRows M.indices.length)
    {a b : Nat} (hab : a ≤ b) (hb : b ≤ nRows) :
    WFptr (rowsPart M a b).indptr (b - a) (rowsPart M a b).indices.length := by
  have hl := w.len
  refine ⟨?_, ?_, ?_, ?_⟩
  · rw [rowsPart, List.length_map, slice_length_le _ (by omega)]; omega
  · rw [rowsPart, List.pairwise_map]
    exact (w.sorted.sublist (slice_sublist _ _ _)).imp fun h => Nat.sub_le_sub_right h _
  · rw [ptr_rowsPart M nRows w (by omega) hb]; exact Nat.sub_self _
  · rw [ptr_rowsPart M nRows w (by omega) hb, Nat.add_sub_cancel' hab]
    exact (slice_length_le _ (w.le_nnz hb)).symm

theorem segOf_rowsPart {α} (M : Mat α) (nRows : Nat) (w : WFptr M.indptr nRows M.indices.length)
    {a b i : Nat} (hi : a + i < b) (hb : b ≤ nRows) :
    segOf (rowsPart M a b) i = segOf M (a + i) := by
  have h3 := w.mono (Nat.le_add_right a i) (by omega)
  have h5 := w.mono (show a + i + 1 ≤ b by omega) hb
  unfold segOf
  rw [ptr_rowsPart M nRows w (by omega) hb, ptr_rowsPart M nRows w (show a + (i + 1) ≤ b by omega) hb,
    ← Nat.add_assoc]
  exact Prod.ext (slice_slice _ h3 h5) (slice_slice _ h3 h5)

/-! ### `load_csr` and the iterators -/

theorem loadCsr_ok {α} (zero : α) (M : Mat α) (nRows nCols : Nat)
    (w : WFptr M.indptr nRows M.indices.length)
    (hr : ∀ x ∈ M.indices, x < nCols) (r0 r1 : Nat) (h01 : r0 ≤ r1) (h1 : r1 ≤ nRows) :
    loadCsr zero M nCols r0 r1 = .ok (slice (toDense zero M nRows nCols) r0 r1) := by
  have hd := toDense_eq_map zero (rowsPart M r0 r1) nCols ((rangeOf (r0, r1)).map (segOf M))
    (fun i hi => by
      have hi' : i < r1 - r0 := by simpa [rangeOf] using hi
      rw [segOf_rowsPart M nRows w (by omega) h1]
      simp [rangeOf])
  rw [List.length_map, length_rangeOf, List.map_map] at hd
  unfold loadCsr
  rw [loadSparse_ok M nRows w r0 r1 h01 h1]
  show csrToDense zero _ (r1 - r0) nCols = _
  rw [csrToDense_ok zero _ (r1 - r0) nCols (rowsPart_wf M nRows w h01 h1)
      (fun x hx => hr x ((slice_sublist _ _ _).subset hx)),
    slice_toDense zero M nRows nCols h1, hd]
  rfl

theorem csrIter_ok {α} (zero : α) (M : Mat α) (nRows nCols cs : Nat) (hcs : 1 ≤ cs)
    (w : WFptr M.indptr nRows M.indices.length) (hr : ∀ x ∈ M.indices, x < nCols) :
    csrIter zero M nRows nCols cs
      = .ok ((chunks nRows cs).map fun p =>
          (slice (toDense zero M nRows nCols) p.1 p.2, p.1, p.2)) := by
  unfold csrIter
  apply ListAux.mapM_eq_ok_map
  intro p hp
  have hb := chunks_bounds nRows cs hcs p hp
  unfold csrGetChunk
  rw [loadCsr_ok zero M nRows nCols w hr p.1 p.2 (by omega) (by omega)]
  rfl

theorem denseIter_rows {β} (D : List (List β)) (cs : Nat) (hcs : 1 ≤ cs) :
    ((denseIter D cs).map (·.1)).flatten = D := by
  unfold denseIter denseGetChunk
  rw [List.map_map]
  exact sliceChunks_flatten D cs hcs

theorem denseIter_ne_nil {β} (D : List (List β)) (cs : Nat) (hcs : 1 ≤ cs) (hD : D ≠ []) :
    denseIter D cs ≠ [] := by
  intro h
  have := denseIter_rows D cs hcs
  rw [h] at this
  exact hD this.symm

end CTM.Sparse
