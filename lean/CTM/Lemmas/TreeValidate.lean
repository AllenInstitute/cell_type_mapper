import CTM.Lemmas.TreeDefs

/-!
  `validate_taxonomy_tree` (`validate`).  The level-pair loop is sound and complete for `PairOK`; each other
  test is an iff; acceptance is the specification (`validate_ok_iff`: strict tree, distinct level names, at
  least one level, a node at the top level).  Then what follows from acceptance (`WF.transfer` is how a
  transformation of the tree keeps it), the rejections, and the constructors that validate their result.

  `validate_ok_iff_checks` lists the tests in the order of `validateWith`; its readers name the conjuncts
  in an `obtain`, so a test added to the validator is added there.
-/

namespace CTM.RawTree

/-! ### the level-pair loop is sound -/

/-- the three clauses of `Link` that the level-pair loop decides (`childNe` and `childNodup` are decided by
`firstChildListErr`) -/
def PairOK (t : RawTree) (pl cl : Level) : Prop :=
  (∀ p cs, (p, cs) ∈ t.level pl → ∀ c, c ∈ cs → c ∈ t.nodesAt cl) ∧
  (∀ c, c ∈ t.nodesAt cl → ∃ p cs, (p, cs) ∈ t.level pl ∧ c ∈ cs) ∧
  (∀ p₁ cs₁ p₂ cs₂, (p₁, cs₁) ∈ t.level pl → (p₂, cs₂) ∈ t.level pl →
    ∀ c, c ∈ cs₁ → c ∈ cs₂ → p₁ = p₂)

theorem checkChildren_sound {childSet : List Node} {cl : Level} {p : Node} :
    ∀ (cs : List Node) (acc acc' : C2P), checkChildren childSet cl p cs acc = .ok acc' →
      (∀ k v, acc.lookup k = some v → acc'.lookup k = some v) ∧
      ∀ c, c ∈ cs → c ∈ childSet ∧ acc'.lookup (cl, c) = some p := by
  intro cs
  induction cs with
  | nil =>
    intro acc acc' h
    simp only [checkChildren, Except.ok.injEq] at h
    subst h
    exact ⟨fun _ _ h => h, fun c hc => by cases hc⟩
  | cons c cs ih =>
    intro acc acc' h
    simp only [checkChildren] at h
    split at h
    · cases h
    · rename_i hc
      have hc : c ∈ childSet := by simpa using hc
      split at h
      · rename_i p' hl
        split at h
        · cases h
        · rename_i hpp
          have hpp : p' = p := by simpa using hpp
          subst hpp
          obtain ⟨hext, hall⟩ := ih acc acc' h
          refine ⟨hext, ?_⟩
          intro c' hc'
          rcases List.mem_cons.1 hc' with rfl | hc'
          · exact ⟨hc, hext _ _ hl⟩
          · exact hall c' hc'
      · rename_i hl
        obtain ⟨hext, hall⟩ := ih _ acc' h
        have hnew : acc'.lookup (cl, c) = some p := by
          apply hext
          simp [List.lookup]
        have hext' : ∀ k v, acc.lookup k = some v → acc'.lookup k = some v := by
          intro k v hk
          apply hext
          have hne : (k == (cl, c)) = false := by
            apply beq_false_of_ne
            rintro rfl
            rw [hl] at hk
            cases hk
          simp only [List.lookup, hne]
          exact hk
        refine ⟨hext', ?_⟩
        intro c' hc'
        rcases List.mem_cons.1 hc' with rfl | hc'
        · exact ⟨hc, hnew⟩
        · exact hall c' hc'

theorem checkParents_sound {childSet : List Node} {cl : Level} :
    ∀ (lm : LevelMap) (acc acc' : C2P), checkParents childSet cl lm acc = .ok acc' →
      (∀ k v, acc.lookup k = some v → acc'.lookup k = some v) ∧
      ∀ p cs, (p, cs) ∈ lm → ∀ c, c ∈ cs → c ∈ childSet ∧ acc'.lookup (cl, c) = some p := by
  intro lm
  induction lm with
  | nil =>
    intro acc acc' h
    simp only [checkParents, Except.ok.injEq] at h
    subst h
    exact ⟨fun _ _ h => h, fun p cs hm => by cases hm⟩
  | cons e rest ih =>
    obtain ⟨p, cs⟩ := e
    intro acc acc' h
    simp only [checkParents] at h
    split at h
    · cases h
    · rename_i acc1 h1
      obtain ⟨hext1, hall1⟩ := checkChildren_sound cs acc acc1 h1
      obtain ⟨hext2, hall2⟩ := ih acc1 acc' h
      refine ⟨fun k v hk => hext2 _ _ (hext1 _ _ hk), ?_⟩
      intro p' cs' hm c hc
      rcases List.mem_cons.1 hm with heq | hm
      · cases heq
        exact ⟨(hall1 c hc).1, hext2 _ _ (hall1 c hc).2⟩
      · exact hall2 p' cs' hm c hc

theorem orphan_false_iff {t : RawTree} {pl cl : Level} :
    ((t.nodesAt cl).any (fun c => !(((t.level pl).flatMap (·.2)).contains c))) = false ↔
      ∀ c, c ∈ t.nodesAt cl → ∃ p cs, (p, cs) ∈ t.level pl ∧ c ∈ cs := by
  simp only [List.any_eq_false, Bool.not_eq_true, Bool.not_eq_false', List.contains_iff_mem,
    List.mem_flatMap, Prod.exists]

theorem checkLevelPair_sound {t : RawTree} {pl cl : Level} {acc acc' : C2P}
    (h : checkLevelPair t pl cl acc = .ok acc') : PairOK t pl cl := by
  simp only [checkLevelPair] at h
  split at h
  · cases h
  · rename_i ho
    have ho := orphan_false_iff.1 (Bool.not_eq_true _ ▸ ho)
    obtain ⟨_, hall⟩ := checkParents_sound _ _ _ h
    refine ⟨fun p cs hm c hc => (hall p cs hm c hc).1, ho, ?_⟩
    intro p₁ cs₁ p₂ cs₂ h₁ h₂ c hc₁ hc₂
    have e₁ := (hall p₁ cs₁ h₁ c hc₁).2
    have e₂ := (hall p₂ cs₂ h₂ c hc₂).2
    rw [e₁] at e₂
    exact Option.some.inj e₂

theorem checkLevelPairs_sound {t : RawTree} :
    ∀ (ps : List (Level × Level)) (acc acc' : C2P), checkLevelPairs t ps acc = .ok acc' →
      ∀ pl cl, (pl, cl) ∈ ps → PairOK t pl cl := by
  intro ps
  induction ps with
  | nil => intro acc acc' _ pl cl hm; cases hm
  | cons e rest ih =>
    obtain ⟨pl0, cl0⟩ := e
    intro acc acc' h pl cl hm
    simp only [checkLevelPairs] at h
    split at h
    · cases h
    · rename_i acc1 h1
      rcases List.mem_cons.1 hm with heq | hm
      · cases heq
        exact checkLevelPair_sound h1
      · exact ih acc1 acc' h pl cl hm

/-! ### the level-pair loop is complete -/

theorem checkChildren_complete {childSet : List Node} {cl : Level} {p : Node} :
    ∀ (cs : List Node) (acc : C2P), (∀ c, c ∈ cs → c ∈ childSet) →
      (∀ c, c ∈ cs → ∀ p', acc.lookup (cl, c) = some p' → p' = p) →
      ∃ acc', checkChildren childSet cl p cs acc = .ok acc' ∧
        ∀ k v, acc'.lookup k = some v →
          acc.lookup k = some v ∨ (k.1 = cl ∧ k.2 ∈ cs ∧ v = p) := by
  intro cs
  induction cs with
  | nil =>
    intro acc _ _
    exact ⟨acc, by simp [checkChildren], fun k v h => Or.inl h⟩
  | cons c cs ih =>
    intro acc hsub hacc
    have hc : childSet.contains c = true := by
      simpa using hsub c List.mem_cons_self
    simp only [checkChildren, hc, Bool.not_true, Bool.false_eq_true, if_false]
    cases hl : acc.lookup (cl, c) with
    | some p' =>
      have hp : p' = p := hacc c List.mem_cons_self p' hl
      subst hp
      simp only [bne_self_eq_false, Bool.false_eq_true, if_false]
      obtain ⟨acc', hok, hkeys⟩ := ih acc (fun c' hc' => hsub c' (List.mem_cons_of_mem _ hc'))
        (fun c' hc' => hacc c' (List.mem_cons_of_mem _ hc'))
      refine ⟨acc', hok, ?_⟩
      intro k v hk
      rcases hkeys k v hk with h | ⟨h1, h2, h3⟩
      · exact Or.inl h
      · exact Or.inr ⟨h1, List.mem_cons_of_mem _ h2, h3⟩
    | none =>
      simp only
      have hacc' : ∀ c', c' ∈ cs → ∀ p', (((cl, c), p) :: acc).lookup (cl, c') = some p' → p' = p := by
        intro c' hc' p' hlk
        by_cases hcc : ((cl, c') == (cl, c)) = true
        · simp only [List.lookup, hcc] at hlk
          exact (Option.some.inj hlk).symm
        · have hcc : ((cl, c') == (cl, c)) = false := by simpa using hcc
          simp only [List.lookup, hcc] at hlk
          exact hacc c' (List.mem_cons_of_mem _ hc') p' hlk
      obtain ⟨acc', hok, hkeys⟩ := ih _ (fun c' hc' => hsub c' (List.mem_cons_of_mem _ hc')) hacc'
      refine ⟨acc', hok, ?_⟩
      intro k v hk
      rcases hkeys k v hk with h | ⟨h1, h2, h3⟩
      · by_cases hkc : (k == (cl, c)) = true
        · simp only [List.lookup, hkc] at h
          have hkeq : k = (cl, c) := eq_of_beq hkc
          subst hkeq
          exact Or.inr ⟨rfl, List.mem_cons_self, (Option.some.inj h).symm⟩
        · have hkc : (k == (cl, c)) = false := by simpa using hkc
          simp only [List.lookup, hkc] at h
          exact Or.inl h
      · exact Or.inr ⟨h1, List.mem_cons_of_mem _ h2, h3⟩

theorem checkParents_complete {childSet : List Node} {cl : Level} :
    ∀ (lm : LevelMap) (acc : C2P),
      (∀ p cs, (p, cs) ∈ lm → ∀ c, c ∈ cs → c ∈ childSet) →
      (∀ p₁ cs₁ p₂ cs₂, (p₁, cs₁) ∈ lm → (p₂, cs₂) ∈ lm →
        ∀ c, c ∈ cs₁ → c ∈ cs₂ → p₁ = p₂) →
      (∀ p cs, (p, cs) ∈ lm → ∀ c, c ∈ cs → ∀ p', acc.lookup (cl, c) = some p' → p' = p) →
      ∃ acc', checkParents childSet cl lm acc = .ok acc' ∧
        ∀ k v, acc'.lookup k = some v → acc.lookup k = some v ∨ k.1 = cl := by
  intro lm
  induction lm with
  | nil =>
    intro acc _ _ _
    exact ⟨acc, by simp [checkParents], fun k v h => Or.inl h⟩
  | cons e rest ih =>
    obtain ⟨p, cs⟩ := e
    intro acc hsub hone hacc
    obtain ⟨acc1, hok1, hkeys1⟩ := checkChildren_complete (childSet := childSet) (cl := cl) (p := p)
      cs acc (hsub p cs List.mem_cons_self) (hacc p cs List.mem_cons_self)
    have hacc1 : ∀ p₂ cs₂, (p₂, cs₂) ∈ rest → ∀ c, c ∈ cs₂ →
        ∀ p', acc1.lookup (cl, c) = some p' → p' = p₂ := by
      intro p₂ cs₂ hm c hc p' hlk
      rcases hkeys1 _ _ hlk with h | ⟨_, h2, h3⟩
      · exact hacc p₂ cs₂ (List.mem_cons_of_mem _ hm) c hc p' h
      · subst h3
        exact hone p' cs p₂ cs₂ List.mem_cons_self (List.mem_cons_of_mem _ hm) c h2 hc
    obtain ⟨acc', hok, hkeys⟩ := ih acc1
      (fun p' cs' hm => hsub p' cs' (List.mem_cons_of_mem _ hm))
      (fun p₁ cs₁ p₂ cs₂ h₁ h₂ =>
        hone p₁ cs₁ p₂ cs₂ (List.mem_cons_of_mem _ h₁) (List.mem_cons_of_mem _ h₂))
      hacc1
    refine ⟨acc', by simp only [checkParents, hok1]; exact hok, ?_⟩
    intro k v hk
    rcases hkeys k v hk with h | h
    · rcases hkeys1 k v h with h' | ⟨h1, _, _⟩
      · exact Or.inl h'
      · exact Or.inr h1
    · exact Or.inr h

theorem checkLevelPairs_complete {t : RawTree} :
    ∀ (ps : List (Level × Level)) (acc : C2P), (ps.map (·.2)).Nodup →
      (∀ pl cl, (pl, cl) ∈ ps → PairOK t pl cl) →
      (∀ k v, acc.lookup k = some v → k.1 ∉ ps.map (·.2)) →
      ∃ acc', checkLevelPairs t ps acc = .ok acc' := by
  intro ps
  induction ps with
  | nil => intro acc _ _ _; exact ⟨acc, by simp [checkLevelPairs]⟩
  | cons e rest ih =>
    obtain ⟨pl, cl⟩ := e
    intro acc hn hok hacc
    simp only [List.map_cons, List.nodup_cons] at hn
    obtain ⟨hce, hhp, hop⟩ := hok pl cl List.mem_cons_self
    have horph := orphan_false_iff.2 hhp
    obtain ⟨acc1, hok1, hkeys1⟩ := checkParents_complete (childSet := t.nodesAt cl) (cl := cl)
      (t.level pl) acc hce hop
      (by
        intro p cs _ c _ p' hlk
        exact absurd (by simp) (hacc _ _ hlk))
    have hpair : checkLevelPair t pl cl acc = .ok acc1 := by
      simp only [checkLevelPair, horph, Bool.false_eq_true, if_false]
      exact hok1
    obtain ⟨acc', hok'⟩ := ih acc1 hn.2
      (fun pl' cl' hm => hok pl' cl' (List.mem_cons_of_mem _ hm))
      (by
        intro k v hlk
        rcases hkeys1 k v hlk with h | h
        · have := hacc k v h
          simp only [List.map_cons, List.mem_cons, not_or] at this
          exact this.2
        · rw [h]; exact hn.1)
    exact ⟨acc', by simp only [checkLevelPairs, hpair]; exact hok'⟩

/-! ### the other tests -/

theorem keysMatch_iff {t : RawTree} :
    t.keysMatch = true ↔
      (∀ k, k ∈ t.levels.map (·.1) → k ∈ t.hierarchy) ∧
      (∀ k, k ∈ t.hierarchy → k ∈ t.levels.map (·.1)) := by
  simp only [keysMatch, Bool.and_eq_true, List.all_eq_true, List.contains_iff_mem]

theorem repeatsChild_false_iff {t : RawTree} :
    t.repeatsChild = false ↔
      ∀ pl cl, (pl, cl) ∈ levelPairs t.hierarchy → ∀ p cs, (p, cs) ∈ t.level pl → cs.Nodup := by
  simp only [repeatsChild, List.any_eq_false, List.any_eq_true, Prod.forall, Prod.exists,
    not_exists, not_and, Bool.not_eq_true, hasDup_eq_false_iff]

theorem childListErr_none_iff (cs : List Node) : childListErr cs = none ↔ cs ≠ [] ∧ cs.Nodup := by
  unfold childListErr
  cases cs with
  | nil => simp
  | cons c cs =>
    simp only [List.isEmpty_cons, Bool.false_eq_true, if_false, ne_eq, reduceCtorEq,
      not_false_eq_true, true_and]
    cases h : hasDup (c :: cs) with
    | true => simp [(hasDup_eq_false_iff _).symm, h]
    | false => simp [(hasDup_eq_false_iff _).1 h]

theorem firstChildListErr_none_iff {t : RawTree} :
    t.firstChildListErr = none ↔
      ∀ pl cl, (pl, cl) ∈ levelPairs t.hierarchy → ∀ p cs, (p, cs) ∈ t.level pl →
        cs ≠ [] ∧ cs.Nodup := by
  unfold firstChildListErr
  rw [List.findSome?_eq_none_iff]
  simp only [List.mem_flatMap, List.mem_map, Prod.exists, forall_exists_index, and_imp,
    childListErr_none_iff]
  constructor
  · intro h pl cl hm p cs hp
    exact h cs pl cl hm p cs hp rfl
  · intro h cs pl cl hm p cs' hp he
    subst he
    exact h pl cl hm p cs' hp

theorem topLevelEmpty_false_iff {t : RawTree} :
    t.topLevelEmpty = false ↔ ∃ l0, t.hierarchy.head? = some l0 ∧ t.nodesAt l0 ≠ [] := by
  unfold topLevelEmpty nodesAt
  cases h : t.hierarchy.head? with
  | none => simp
  | some l0 =>
    cases hl : t.level l0 with
    | nil => simp
    | cons a m => simp

/-! ### acceptance is the specification -/

/-- what `validateWith true` tests, one conjunct per `if` -/
theorem validate_ok_iff_checks {t : RawTree} :
    t.validate = .ok () ↔
      t.hasHierarchy = true ∧ hasDup t.hierarchy = false ∧ t.keysMatch = true ∧
      t.nodesAreStr = true ∧ t.topLevelEmpty = false ∧
      (∃ acc, checkLevelPairs t (levelPairs t.hierarchy) [] = .ok acc) ∧
      t.firstChildListErr = none ∧ t.hierarchy ≠ [] ∧ hasDup t.allRows = false := by
  have hl : t.leafLevel = none ↔ t.hierarchy = [] := by simp [leafLevel]
  unfold validate validateWith
  -- one test at a time: the failing branch is closed at once, so the cases do not multiply
  cases t.hasHierarchy
  case false => simp
  cases hasDup t.hierarchy
  case true => simp
  cases t.keysMatch
  case false => simp
  cases t.nodesAreStr
  case false => simp
  cases t.topLevelEmpty
  case true => simp
  cases checkLevelPairs t (levelPairs t.hierarchy) []
  case error => simp
  cases t.firstChildListErr
  case some => simp
  cases hll : t.leafLevel
  · simp [hl.1 hll]
  · have : t.hierarchy ≠ [] := fun h => by rw [hl.2 h] at hll; cases hll
    cases hasDup t.allRows <;> simp [this]

theorem strict_of_validate {t : RawTree} (h : t.validate = .ok ()) : Strict t := by
  obtain ⟨hh, _, hk, hs, _, ⟨acc, hc⟩, hr, _, hd⟩ := validate_ok_iff_checks.1 h
  have hk := keysMatch_iff.1 hk
  refine strict_of_links hh hs (fun k => ⟨hk.1 k, hk.2 k⟩) (fun pl cl hm => ?_)
    ((hasDup_eq_false_iff _).1 hd)
  obtain ⟨h1, h2, h3⟩ := checkLevelPairs_sound _ _ _ hc pl cl hm
  have hl := firstChildListErr_none_iff.1 hr pl cl hm
  exact ⟨h1, h2, h3, fun p cs hp => (hl p cs hp).1, fun p cs hp => (hl p cs hp).2⟩

/-- `hierarchy[-1]` is evaluated -/
theorem hierarchy_ne_nil_of_validate {t : RawTree} (h : t.validate = .ok ()) :
    t.hierarchy ≠ [] := by
  obtain ⟨_, _, _, _, _, _, _, hne, _⟩ := validate_ok_iff_checks.1 h
  exact hne

theorem hierarchy_nodup_of_validate {t : RawTree} (h : t.validate = .ok ()) :
    t.hierarchy.Nodup := by
  obtain ⟨_, hdup, _⟩ := validate_ok_iff_checks.1 h
  exact (hasDup_eq_false_iff _).1 hdup

theorem exists_top_node_of_validate {t : RawTree} (h : t.validate = .ok ()) :
    ∃ l0 n, t.hierarchy.head? = some l0 ∧ n ∈ t.nodesAt l0 := by
  obtain ⟨_, _, _, _, htop, _⟩ := validate_ok_iff_checks.1 h
  obtain ⟨l0, h0, hne⟩ := topLevelEmpty_false_iff.1 htop
  obtain ⟨n, hn⟩ := List.exists_mem_of_ne_nil _ hne
  exact ⟨l0, n, h0, hn⟩

theorem hasNode_of_validate {t : RawTree} (h : t.validate = .ok ()) :
    ∀ l0, t.hierarchy.head? = some l0 → t.nodesAt l0 ≠ [] := by
  obtain ⟨l0, n, h0, hn⟩ := exists_top_node_of_validate h
  intro l hl
  rw [h0] at hl
  cases hl
  exact List.ne_nil_of_mem hn

theorem validate_of_strict {t : RawTree} (hn : t.hierarchy.Nodup) (hne : t.hierarchy ≠ [])
    (hnode : ∀ l0, t.hierarchy.head? = some l0 → t.nodesAt l0 ≠ [])
    (h : Strict t) : t.validate = .ok () := by
  apply validate_ok_iff_checks.2
  have htop : t.topLevelEmpty = false := by
    apply topLevelEmpty_false_iff.2
    cases h0 : t.hierarchy.head? with
    | none => exact absurd (List.head?_eq_none_iff.1 h0) hne
    | some l0 => exact ⟨l0, rfl, hnode l0 h0⟩
  refine ⟨h.hasH, (hasDup_eq_false_iff _).2 hn, keysMatch_iff.2 ⟨h.keysSub, h.hierSub⟩,
    h.str, htop, ?_,
    firstChildListErr_none_iff.2 (fun pl cl hm p cs hp =>
      ⟨(h.link hm).childNe p cs hp, (h.link hm).childNodup p cs hp⟩),
    hne, (hasDup_eq_false_iff _).2 h.rowsNodup⟩
  exact checkLevelPairs_complete _ [] (levelPairs_snd_nodup hn)
    (fun pl cl hm => ⟨(h.link hm).childExists, (h.link hm).hasParent, (h.link hm).oneParent⟩)
    (by intro k v hlk; simp [List.lookup] at hlk)

theorem validate_ok_iff {t : RawTree} :
    t.validate = .ok () ↔ Strict t ∧ t.hierarchy.Nodup ∧ t.hierarchy ≠ [] ∧
      ∀ l0, t.hierarchy.head? = some l0 → t.nodesAt l0 ≠ [] :=
  ⟨fun h => ⟨strict_of_validate h, hierarchy_nodup_of_validate h,
      hierarchy_ne_nil_of_validate h, hasNode_of_validate h⟩,
   fun h => validate_of_strict h.2.1 h.2.2.1 h.2.2.2 h.1⟩

/-! ### what follows from acceptance -/

/-- down the hierarchy: the top level has a node, every node above the leaf level has a child, and every
listed child is a key of the next level -/
theorem nodesAt_ne_nil_of_validate {t : RawTree} (hv : t.validate = .ok ()) :
    ∀ (i : Nat) (hi : i < t.hierarchy.length), t.nodesAt t.hierarchy[i] ≠ []
  | 0, hi => by
    apply hasNode_of_validate hv
    rw [List.head?_eq_getElem?]; exact List.getElem?_eq_getElem hi
  | i+1, hi => by
    have s := strict_of_validate hv
    obtain ⟨p, hp⟩ := List.exists_mem_of_ne_nil _ (nodesAt_ne_nil_of_validate hv i (by omega))
    obtain ⟨c, hc⟩ := List.exists_mem_of_ne_nil _
      (s.childNe _ _ (mem_levelPairs_of_idx hi) p _ (mem_level_entry hp))
    exact List.ne_nil_of_mem
      (s.childExists _ _ (mem_levelPairs_of_idx hi) p _ (mem_level_entry hp) c hc)

theorem nodesAt_ne_nil_of_validate_lv {t : RawTree} (hv : t.validate = .ok ()) {l : Level}
    (hl : l ∈ t.hierarchy) : t.nodesAt l ≠ [] := by
  obtain ⟨i, hi, rfl⟩ := List.mem_iff_getElem.1 hl
  exact nodesAt_ne_nil_of_validate hv i hi

theorem WF.of_validate {t : RawTree} (hv : t.validate = .ok ()) (d : DictOK t) : WF t :=
  ⟨hv, hierarchy_nodup_of_validate hv, hierarchy_ne_nil_of_validate hv, d⟩

/-- How a transformation `t ↦ t'` keeps well-formedness: the flags stay, the levels of `t'` are
levels of `t` in the same order and are its dict keys, each has the nodes it had, adjacent levels of
`t'` are linked, no row is repeated.  (Distinct level names and a node at the top level follow; `hnodes`
is needed at the top level only, and every user has it for all levels.) -/
theorem WF.transfer {t t' : RawTree} (w : WF t) (d' : DictOK t')
    (hh : t'.hasHierarchy = t.hasHierarchy) (hs : t'.nodesAreStr = t.nodesAreStr)
    (hsub : t'.hierarchy.Sublist t.hierarchy) (hne : t'.hierarchy ≠ [])
    (hk : ∀ k, k ∈ t'.levels.map (·.1) ↔ k ∈ t'.hierarchy)
    (hnodes : ∀ l, l ∈ t'.hierarchy → ∀ n, n ∈ t'.nodesAt l ↔ n ∈ t.nodesAt l)
    (hl : ∀ pl cl, (pl, cl) ∈ levelPairs t'.hierarchy → Link (t'.level pl) (t'.nodesAt cl))
    (hr : t'.allRows.Nodup) : WF t' := by
  have s := strict_of_validate w.valid
  have hn' := w.hNodup.sublist hsub
  refine ⟨validate_of_strict hn' hne (fun l0 h0 => ?_)
    (strict_of_links (hh.trans s.hasH) (hs.trans s.str) hk hl hr), hn', hne, d'⟩
  have hl0 := List.mem_of_mem_head? h0
  obtain ⟨n, hmem⟩ := List.exists_mem_of_ne_nil _
    (nodesAt_ne_nil_of_validate_lv w.valid (hsub.subset hl0))
  exact List.ne_nil_of_mem ((hnodes l0 hl0 n).2 hmem)

/-! ### rejections -/

theorem validate_error_of_not_ok {t : RawTree} (h : t.validate ≠ .ok ()) :
    ∃ e, t.validate = .error e := by
  cases hv : t.validate with
  | error e => exact ⟨e, rfl⟩
  | ok u => exact absurd hv h

theorem rejects_dup_level {t : RawTree} (h : ¬ t.hierarchy.Nodup) : ∃ e, t.validate = .error e :=
  validate_error_of_not_ok fun hv => h (hierarchy_nodup_of_validate hv)

theorem rejects_not_strict {t : RawTree} (h : ¬ Strict t) :
    ∃ e, t.validate = .error e :=
  validate_error_of_not_ok fun hv => h (strict_of_validate hv)

theorem rejects_bad_keys {t : RawTree} (hh : t.hasHierarchy = true) (hn : t.hierarchy.Nodup)
    (hk : t.keysMatch = false) : t.validate = .error .badKeys := by
  simp [validate, validateWith, hh, hk, (hasDup_eq_false_iff _).2 hn]

/-! ### the constructor validates

`_drop_level`, `get_taxonomy_tree` and `from_data_release` hand their data to `TaxonomyTree(data=…)`:
the call succeeds with `t` iff the data is `t` and `t` is accepted. -/

theorem validated_eq_ok_iff {r : Except TreeErr RawTree} {t : RawTree} :
    (match r with
      | .error e => .error e
      | .ok t' => match t'.validate with
        | .error e => .error e
        | .ok _ => .ok t') = Except.ok t ↔ r = .ok t ∧ t.validate = .ok () := by
  cases r with
  | error e => exact ⟨fun h => (nomatch h), fun h => (nomatch h.1)⟩
  | ok t' =>
    show (match t'.validate with | .error e => .error e | .ok _ => .ok t') = Except.ok t ↔ _
    cases hv : t'.validate with
    | error e => exact ⟨fun h => (nomatch h), fun ⟨h1, h2⟩ => by cases h1; rw [hv] at h2; cases h2⟩
    | ok u => exact ⟨fun h => by cases h; exact ⟨rfl, hv⟩, fun ⟨h1, _⟩ => by cases h1; rfl⟩

theorem dropLevel_eq_ok_iff {t t' : RawTree} {l : Level} {a : Bool} :
    t.dropLevel l a = .ok t' ↔ t.dropLevelRaw l a = .ok t' ∧ t'.validate = .ok () :=
  validated_eq_ok_iff

theorem dropLevelRaw_of_dropLevel {t t' : RawTree} {l : Level} {a : Bool}
    (h : t.dropLevel l a = .ok t') : t.dropLevelRaw l a = .ok t' :=
  (dropLevel_eq_ok_iff.1 h).1

theorem fromRecords_eq_ok_iff {cols : List Level} {recs : List (List Node)} {t : RawTree} :
    fromRecords cols recs = .ok t ↔ t = fromRecordsRaw cols recs ∧ t.validate = .ok () :=
  (validated_eq_ok_iff (r := .ok (fromRecordsRaw cols recs))).trans
    (and_congr_left' ⟨fun h => (Except.ok.inj h).symm, fun h => congrArg _ h.symm⟩)

theorem fromLinks_eq_ok_iff {h : List Level} {rows : List LinkRow} {t : RawTree} :
    fromLinks h rows = .ok t ↔ fromLinksRaw h rows = .ok t ∧ t.validate = .ok () :=
  validated_eq_ok_iff

end CTM.RawTree
