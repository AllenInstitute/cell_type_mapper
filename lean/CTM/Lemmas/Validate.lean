/-
  Lemmas about the h5ad validation model (`CTM.Model.Validate`) behind `CTM.Props.C16` and
  `CTM.Props.C18.VoteCounter`: the ladder of integer types under every comparison mode, the gene
  mapper, the integrality test and min / max read chunk by chunk from the stored layer, the exits of
  `_validate_h5ad` (`validate_spec`), and the real spelling of placeholder names.
-/
import CTM.Model.Validate
import CTM.Lemmas.Round
import CTM.Lemmas.Stats

namespace CTM.Validate

/-! ### rounding -/

theorem roundHalfEven_eq_rhe : roundHalfEven = Round.rhe := rfl

theorem roundHalfEven_mono {x y : Rat} (h : x ≤ y) : roundHalfEven x ≤ roundHalfEven y :=
  Round.rhe_mono h

theorem roundHalfEven_intCast (n : Int) : roundHalfEven (n : Rat) = n :=
  Round.rhe_intCast n

theorem roundHalfEven_zero : roundHalfEven 0 = 0 := roundHalfEven_intCast 0

/-! ### the integer ladder: `castTo` and the exact comparison -/

theorem castTo_def (r : Rung) (v : Rat) : castTo r v =
    if r.2.1 ≤ roundHalfEven v ∧ roundHalfEven v ≤ r.2.2 then some (roundHalfEven v) else none :=
  rfl

theorem castTo_eq_some {r : Rung} {v : Rat} (h1 : r.2.1 ≤ roundHalfEven v)
    (h2 : roundHalfEven v ≤ r.2.2) : castTo r v = some (roundHalfEven v) :=
  if_pos ⟨h1, h2⟩

theorem eq_round_of_castTo {r : Rung} {v : Rat} {z : Int} (h : castTo r v = some z) :
    z = roundHalfEven v := by
  rw [castTo_def] at h
  split at h
  · exact (Option.some.inj h).symm
  · cases h

theorem castTo_zero {r : Rung} (h : r.2.1 ≤ 0 ∧ 0 ≤ r.2.2) : castTo r 0 = some 0 := by
  rw [castTo_def, roundHalfEven_zero, if_pos h]

theorem rungAccepts_none_iff (lo hi : Int) (r : Rung) :
    rungAccepts none lo hi r = true ↔ r.2.1 ≤ lo ∧ hi ≤ r.2.2 := by
  simp [rungAccepts, seenLimit]

theorem castTo_of_accepts {r : Rung} {mn mx v : Rat}
    (h : rungAccepts none (roundHalfEven mn) (roundHalfEven mx) r = true)
    (h1 : mn ≤ v) (h2 : v ≤ mx) : castTo r v = some (roundHalfEven v) := by
  rw [rungAccepts_none_iff] at h
  exact castTo_eq_some (h.1.trans (roundHalfEven_mono h1)) ((roundHalfEven_mono h2).trans h.2)

/-! ### the integer ladder: comparison modes

The functions of the pipeline are those of the mode read from the source; with integer bounds, or
in mode `exact`, every mode compares exactly. -/

theorem rungAccepts_eq_mode (fb : Option Nat) : rungAccepts fb = rungAcceptsMode sourceMode fb :=
  rfl

-- `rfl` also proves this one, but only after unfolding `List.find?` over the whole ladder
theorem chooseIntDtype_eq_mode (fb : Option Nat) (mn mx : Rat) :
    chooseIntDtype fb mn mx = chooseIntDtypeMode sourceMode fb mn mx := by
  unfold chooseIntDtype chooseIntDtypeMode
  rw [rungAccepts_eq_mode]

theorem chooseIntDtypeMode_of_find {mode : CompareMode} {fb : Option Nat} {mn mx : Rat} {r : Rung}
    (h : Generated.intLadder.find?
      (rungAcceptsMode mode fb (roundHalfEven mn) (roundHalfEven mx)) = some r) :
    chooseIntDtypeMode mode fb mn mx = r := by
  unfold chooseIntDtypeMode
  rw [h]

theorem chooseIntDtype_of_find {fb : Option Nat} {mn mx : Rat} {r : Rung}
    (h : Generated.intLadder.find? (rungAccepts fb (roundHalfEven mn) (roundHalfEven mx)) = some r) :
    chooseIntDtype fb mn mx = r :=
  (chooseIntDtype_eq_mode fb mn mx).trans (chooseIntDtypeMode_of_find h)

theorem chooseIntDtypeMode_mem (mode : CompareMode) (fb : Option Nat) (mn mx : Rat) :
    chooseIntDtypeMode mode fb mn mx ∈ Generated.intLadder ∨
      chooseIntDtypeMode mode fb mn mx = Generated.intLadderDefault := by
  unfold chooseIntDtypeMode
  split
  · next r h => exact Or.inl (List.mem_of_find?_eq_some h)
  · exact Or.inr rfl

theorem chooseIntDtype_mem (fb : Option Nat) (mn mx : Rat) :
    chooseIntDtype fb mn mx ∈ Generated.intLadder ∨
      chooseIntDtype fb mn mx = Generated.intLadderDefault := by
  rw [chooseIntDtype_eq_mode]
  exact chooseIntDtypeMode_mem _ _ _ _

/-- the comparison is exact when the bounds are integers or the mode compares Python ints -/
theorem rungAcceptsMode_exact {mode : CompareMode} {fb : Option Nat}
    (h : fb = none ∨ mode = .exact) (lo hi : Int) :
    rungAcceptsMode mode fb lo hi = rungAccepts none lo hi := by
  rcases h with rfl | rfl
  · rfl
  · cases fb <;> rfl

theorem chooseIntDtypeMode_exact {mode : CompareMode} {fb : Option Nat}
    (h : fb = none ∨ mode = .exact) (mn mx : Rat) :
    chooseIntDtypeMode mode fb mn mx = chooseIntDtype none mn mx := by
  unfold chooseIntDtype chooseIntDtypeMode
  rw [rungAcceptsMode_exact h]

theorem chooseIntDtype_exact {fb : Option Nat} (h : fb = none ∨ sourceMode = .exact) (mn mx : Rat) :
    chooseIntDtype fb mn mx = chooseIntDtype none mn mx :=
  (chooseIntDtype_eq_mode fb mn mx).trans (chooseIntDtypeMode_exact h mn mx)

/-! ### the integer ladder: comparison in a floating-point type is off by at most one -/

/-- in float32 and float64 every lower limit of the ladder is exact, and every
upper limit is exact or rounded up by one -/
theorem ladder_limits_float :
    Generated.intLadder.all (fun r => [24, 53].all (fun p =>
      decide (toFloatBits p r.2.1 = (r.2.1 : Rat)) &&
      (decide (toFloatBits p r.2.2 = (r.2.2 : Rat)) ||
       decide (toFloatBits p r.2.2 = ((r.2.2 + 1 : Int) : Rat))))) = true := by
  decide +kernel

theorem seenLimitMode_ladder (mode : CompareMode) {fb : Option Nat}
    (hfb : fb = none ∨ fb = some 24 ∨ fb = some 53) {r : Rung} (hr : r ∈ Generated.intLadder) :
    seenLimitMode mode fb r.2.1 = (r.2.1 : Rat) ∧
    (seenLimitMode mode fb r.2.2 = (r.2.2 : Rat) ∨
      seenLimitMode mode fb r.2.2 = ((r.2.2 + 1 : Int) : Rat)) := by
  have h := List.all_eq_true.1 ladder_limits_float r hr
  simp only [List.all_cons, List.all_nil, Bool.and_true, Bool.and_eq_true, Bool.or_eq_true,
    decide_eq_true_eq] at h
  obtain ⟨⟨a1, a2⟩, ⟨b1, b2⟩⟩ := h
  rcases hfb with rfl | rfl | rfl
  · exact ⟨rfl, Or.inl rfl⟩
  · cases mode
    · exact ⟨a1, a2⟩
    · exact ⟨b1, b2⟩
    · exact ⟨rfl, Or.inl rfl⟩
  · cases mode
    · exact ⟨b1, b2⟩
    · exact ⟨b1, b2⟩
    · exact ⟨rfl, Or.inl rfl⟩

/-- under any mode a rung of the ladder accepts exactly the bounds inside `[r.2.1, u]`, where `u` is
its upper limit or one more -/
theorem rungAcceptsMode_iff (mode : CompareMode) {fb : Option Nat}
    (hfb : fb = none ∨ fb = some 24 ∨ fb = some 53) {r : Rung} (hr : r ∈ Generated.intLadder) :
    ∃ u : Int, r.2.2 ≤ u ∧ u ≤ r.2.2 + 1 ∧
      ∀ lo hi, rungAcceptsMode mode fb lo hi r = true ↔ r.2.1 ≤ lo ∧ hi ≤ u := by
  obtain ⟨h1, h2⟩ := seenLimitMode_ladder mode hfb hr
  have key : ∀ u : Int, seenLimitMode mode fb r.2.2 = (u : Rat) →
      ∀ lo hi, rungAcceptsMode mode fb lo hi r = true ↔ r.2.1 ≤ lo ∧ hi ≤ u := by
    intro u hu lo hi
    unfold rungAcceptsMode
    rw [h1, hu, Bool.and_eq_true, decide_eq_true_eq, decide_eq_true_eq, Int.cast_le, Int.cast_le]
  rcases h2 with h2 | h2
  · exact ⟨r.2.2, le_refl _, by omega, key _ h2⟩
  · exact ⟨r.2.2 + 1, by omega, le_refl _, key _ h2⟩

theorem rungAcceptsMode_of_within (mode : CompareMode) {fb : Option Nat}
    (hfb : fb = none ∨ fb = some 24 ∨ fb = some 53) {r : Rung} (hr : r ∈ Generated.intLadder)
    {lo hi : Int} (h : r.2.1 ≤ lo ∧ hi ≤ r.2.2) :
    rungAcceptsMode mode fb lo hi r = true := by
  obtain ⟨u, hu, _, hiff⟩ := rungAcceptsMode_iff mode hfb hr
  exact (hiff lo hi).2 ⟨h.1, h.2.trans hu⟩

/-! ### the integer ladder: a rung is found, and the values between the bounds fit it -/

theorem uint64_mem_ladder : ("uint64", 0, 18446744073709551615) ∈ Generated.intLadder := by
  decide +kernel

theorem int64_mem_ladder :
    ("int64", -9223372036854775808, 9223372036854775807) ∈ Generated.intLadder := by
  decide +kernel

theorem exists_rung_accepts (lo hi : Int)
    (h : (0 ≤ lo ∧ hi ≤ 18446744073709551615) ∨
      (-9223372036854775808 ≤ lo ∧ hi ≤ 9223372036854775807)) :
    ∃ r, Generated.intLadder.find? (rungAccepts none lo hi) = some r :=
  h.elim (fun h => ListAux.exists_find?_of_mem uint64_mem_ladder ((rungAccepts_none_iff _ _ _).2 h))
    (fun h => ListAux.exists_find?_of_mem int64_mem_ladder ((rungAccepts_none_iff _ _ _).2 h))

theorem exists_rung_acceptsMode (mode : CompareMode) {fb : Option Nat}
    (hfb : fb = none ∨ fb = some 24 ∨ fb = some 53) (lo hi : Int)
    (h : (0 ≤ lo ∧ hi ≤ 18446744073709551615) ∨
      (-9223372036854775808 ≤ lo ∧ hi ≤ 9223372036854775807)) :
    ∃ r, Generated.intLadder.find? (rungAcceptsMode mode fb lo hi) = some r :=
  h.elim
    (fun h => ListAux.exists_find?_of_mem uint64_mem_ladder
      (rungAcceptsMode_of_within mode hfb uint64_mem_ladder h))
    (fun h => ListAux.exists_find?_of_mem int64_mem_ladder
      (rungAcceptsMode_of_within mode hfb int64_mem_ladder h))

theorem castTo_of_find {ladder : List Rung} {r : Rung} {mn mx v : Rat}
    (h : ladder.find? (rungAccepts none (roundHalfEven mn) (roundHalfEven mx)) = some r)
    (h1 : mn ≤ v) (h2 : v ≤ mx) : castTo r v = some (roundHalfEven v) :=
  castTo_of_accepts (List.find?_some h) h1 h2

/-- whatever the comparison mode, a value between the bounds misses the chosen
rung only by being exactly one above its upper limit -/
theorem castTo_of_find_mode (mode : CompareMode) {fb : Option Nat}
    (hfb : fb = none ∨ fb = some 24 ∨ fb = some 53) {r : Rung} {mn mx v : Rat}
    (h : Generated.intLadder.find?
      (rungAcceptsMode mode fb (roundHalfEven mn) (roundHalfEven mx)) = some r)
    (h1 : mn ≤ v) (h2 : v ≤ mx) :
    castTo r v = (if roundHalfEven v = r.2.2 + 1 then none else some (roundHalfEven v)) ∧
    r.2.1 ≤ roundHalfEven v ∧ roundHalfEven v ≤ r.2.2 + 1 := by
  obtain ⟨u, _, hu, hiff⟩ := rungAcceptsMode_iff mode hfb (List.mem_of_find?_eq_some h)
  obtain ⟨ha, hb⟩ := (hiff _ _).1 (List.find?_some h)
  have lo := ha.trans (roundHalfEven_mono h1)
  have hi := (roundHalfEven_mono h2).trans (hb.trans hu)
  refine ⟨?_, lo, hi⟩
  rw [castTo_def]
  by_cases hc : roundHalfEven v = r.2.2 + 1
  · rw [if_pos hc, if_neg (by omega)]
  · rw [if_neg hc, if_pos ⟨lo, by omega⟩]

/-! ### the integer ladder: zero fits every rung -/

theorem ladder_contains_zero :
    (∀ r ∈ Generated.intLadder, r.2.1 ≤ 0 ∧ 0 ≤ r.2.2) ∧
    Generated.intLadderDefault.2.1 ≤ 0 ∧ 0 ≤ Generated.intLadderDefault.2.2 := by
  decide +kernel

theorem castTo_choose_zero (mode : CompareMode) (fb : Option Nat) (mn mx : Rat) :
    castTo (chooseIntDtypeMode mode fb mn mx) 0 = some 0 := by
  apply castTo_zero
  rcases chooseIntDtypeMode_mem mode fb mn mx with h | h
  · exact ladder_contains_zero.1 _ h
  · rw [h]
    exact ladder_contains_zero.2

/-! ### duplicates -/

theorem hasDup_iff (l : List Name) : hasDup l = true ↔ ¬ l.Nodup := by
  induction l with
  | nil => simp [hasDup]
  | cons x xs ih =>
    rw [hasDup, Bool.or_eq_true, List.contains_iff_mem, ih, List.nodup_cons, not_and_or, not_not]

theorem hasDup_false_iff (l : List Name) : hasDup l = false ↔ l.Nodup := by
  rw [← Bool.not_eq_true, hasDup_iff, not_not]

/-! ### the Ensembl recogniser and the suffix cut -/

theorem isUpperAZ_ne_dot {c : Char} (h : isUpperAZ c = true) : (c != '.') = true := by
  rw [bne_iff_ne]; rintro rfl; revert h; decide

theorem isDigit09_ne_dot {c : Char} (h : isDigit09 c = true) : (c != '.') = true := by
  rw [bne_iff_ne]; rintro rfl; revert h; decide

theorem isDigit09_not_upper {c : Char} (h : isDigit09 c = true) : isUpperAZ c = false := by
  have e1 : 'A'.toNat = 65 := rfl
  have e2 : '9'.toNat = 57 := rfl
  unfold isDigit09 at h
  unfold isUpperAZ
  simp only [Bool.and_eq_true, decide_eq_true_eq] at h
  simp only [Bool.and_eq_false_iff, decide_eq_false_iff_not]
  left; omega

theorem stripSuffix_eq_self {s : Name} (h : '.' ∉ s) : stripSuffix s = s :=
  (ListAux.takeWhile_self_of_all (p := (· != '.')) fun x hx => bne_iff_ne.2 fun e : x = '.' => h (e ▸ hx)).1

theorem dot_notMem_stripSuffix (s : Name) : '.' ∉ stripSuffix s :=
  fun h => absurd (ListAux.mem_takeWhile_pos h) (by simp)

theorem map_stripSuffix_eq_self {genes : List Name} (h : ∀ g ∈ genes, '.' ∉ g) :
    genes.map stripSuffix = genes :=
  (List.map_congr_left fun g hg => stripSuffix_eq_self (h g hg)).trans (List.map_id _)

/-- the parts the recogniser cuts an accepted name into: letters, digits, and then nothing or
something that starts with a dot -/
theorem isEnsembl_parts {s : Name} (h : isEnsembl s = true) :
    ∃ L D V, s = 'E' :: 'N' :: 'S' :: (L ++ D) ++ V ∧ L ≠ [] ∧ (∀ x ∈ L, isUpperAZ x = true) ∧
      D ≠ [] ∧ (∀ x ∈ D, isDigit09 x = true) ∧ V.head?.all (fun c => !(c != '.')) = true := by
  unfold isEnsembl at h
  split at h
  next rest =>
    simp only [Bool.and_eq_true, Bool.not_eq_true', List.isEmpty_eq_false_iff] at h
    obtain ⟨⟨hl, hd⟩, hv⟩ := h
    refine ⟨_, _, (rest.dropWhile isUpperAZ).dropWhile isDigit09, ?_, hl,
      fun x hx => ListAux.mem_takeWhile_pos hx, hd, fun x hx => ListAux.mem_takeWhile_pos hx, ?_⟩
    · rw [List.cons_append, List.cons_append, List.cons_append, List.append_assoc,
        List.takeWhile_append_dropWhile, List.takeWhile_append_dropWhile]
    · split at hv
      next heq => rw [heq]; rfl
      next ver heq => rw [heq]; rfl
      next => cases hv
  next => cases h

theorem isEnsembl_of_parts {L D : List Char} (hL : L ≠ []) (hLu : ∀ x ∈ L, isUpperAZ x = true)
    (hD : D ≠ []) (hDd : ∀ x ∈ D, isDigit09 x = true) :
    isEnsembl ('E' :: 'N' :: 'S' :: (L ++ D)) = true := by
  have hhead : D.head?.all (fun x => !isUpperAZ x) = true := by
    cases D with
    | nil => exact absurd rfl hD
    | cons c cs => simp [isDigit09_not_upper (hDd c List.mem_cons_self)]
  obtain ⟨t1, t2⟩ := ListAux.takeWhile_append_stop hLu hhead
  obtain ⟨t3, t4⟩ := ListAux.takeWhile_self_of_all hDd
  unfold isEnsembl
  simp only [t1, t2, t3, t4]
  simp [hL, hD]

theorem isEnsembl_stripSuffix {s : Name} (h : isEnsembl s = true) :
    isEnsembl (stripSuffix s) = true ∧ '.' ∉ stripSuffix s := by
  refine ⟨?_, dot_notMem_stripSuffix s⟩
  obtain ⟨L, D, V, rfl, hL, hLu, hD, hDd, hV⟩ := isEnsembl_parts h
  have hnd : ∀ x ∈ 'E' :: 'N' :: 'S' :: (L ++ D), (x != '.') = true := by
    intro x hx
    simp only [List.mem_cons, List.mem_append] at hx
    rcases hx with rfl | rfl | rfl | hx | hx
    · decide
    · decide
    · decide
    · exact isUpperAZ_ne_dot (hLu x hx)
    · exact isDigit09_ne_dot (hDd x hx)
  rw [stripSuffix, (ListAux.takeWhile_append_stop hnd hV).1]
  exact isEnsembl_of_parts hL hLu hD hDd

/-! ### gene identifiers -/

def isUnknown (lookup : List (Name × Name)) (g : Name) : Bool :=
  !isEnsembl g && (lookup.lookup g).isNone

/-- the new name of one gene (before the version suffix is cut), `k` being the
counter of the placeholder generator -/
def renameOne (lookup : List (Name × Name)) (placeholder : Nat → Name) (k : Nat) (g : Name) : Name :=
  if isEnsembl g then g else
    match lookup.lookup g with
    | some e => e
    | none => placeholder k

/-- the new names of a list of genes, the counter of the placeholder generator threaded through:
it advances at every unknown name -/
def renameFrom (lookup : List (Name × Name)) (placeholder : Nat → Name) : Nat → List Name → List Name
  | _, [] => []
  | k, g :: gs => renameOne lookup placeholder k g ::
      renameFrom lookup placeholder (k + if isUnknown lookup g then 1 else 0) gs

section
variable {lookup : List (Name × Name)} {ph : Nat → Name} {start k : Nat} {genes : List Name}
  {g : Name} {o : MapOut} {e : VErr}

theorem isUnknown_iff :
    isUnknown lookup g = true ↔ isEnsembl g = false ∧ lookup.lookup g = none := by
  simp only [isUnknown, Bool.and_eq_true, Bool.not_eq_true', Option.isNone_iff_eq_none]

theorem isUnknown_eq_false_iff :
    isUnknown lookup g = false ↔ isEnsembl g = true ∨ (lookup.lookup g).isSome = true := by
  unfold isUnknown
  cases isEnsembl g <;> cases lookup.lookup g <;> simp

theorem renameOne_ensembl (he : isEnsembl g = true) : renameOne lookup ph k g = g :=
  if_pos he

theorem renameOne_unknown (hu : isUnknown lookup g = true) : renameOne lookup ph k g = ph k := by
  obtain ⟨he, hl⟩ := isUnknown_iff.1 hu
  unfold renameOne
  rw [he, hl]
  rfl

theorem mapStep_eq (st : MapState) :
    (mapStep lookup ph st g).out = st.out ++ [renameOne lookup ph st.ct g] ∧
    (mapStep lookup ph st g).ct = st.ct + (if isUnknown lookup g then 1 else 0) ∧
    (mapStep lookup ph st g).unmappable = st.unmappable + (if isUnknown lookup g then 1 else 0) := by
  unfold mapStep renameOne isUnknown
  by_cases he : isEnsembl g = true
  · simp [he]
  · cases lookup.lookup g <;> simp [he]

theorem foldl_mapStep :
    ∀ st : MapState,
    (genes.foldl (mapStep lookup ph) st).out = st.out ++ renameFrom lookup ph st.ct genes ∧
    (genes.foldl (mapStep lookup ph) st).ct = st.ct + genes.countP (isUnknown lookup) ∧
    (genes.foldl (mapStep lookup ph) st).unmappable =
      st.unmappable + genes.countP (isUnknown lookup) := by
  induction genes with
  | nil => intro st; exact ⟨(List.append_nil _).symm, rfl, rfl⟩
  | cons g gs ih =>
    intro st
    obtain ⟨h1, h2, h3⟩ := mapStep_eq (lookup := lookup) (ph := ph) (g := g) st
    obtain ⟨i1, i2, i3⟩ := ih (mapStep lookup ph st g)
    rw [List.foldl_cons, i1, i2, i3, h1, h2, h3, renameFrom, List.countP_cons, List.append_assoc,
      List.singleton_append, Nat.add_comm (List.countP _ gs), Nat.add_assoc, Nat.add_assoc]
    exact ⟨rfl, rfl, rfl⟩

theorem renameFrom_length :
    ∀ k, (renameFrom lookup ph k genes).length = genes.length := by
  induction genes with
  | nil => intro k; rfl
  | cons g gs ih => intro k; rw [renameFrom, List.length_cons, ih, List.length_cons]

theorem renameFrom_getElem? :
    ∀ k i, (renameFrom lookup ph k genes)[i]? =
      genes[i]?.map (renameOne lookup ph (k + (genes.take i).countP (isUnknown lookup))) := by
  induction genes with
  | nil => intro k i; rfl
  | cons g gs ih =>
    intro k i
    cases i with
    | zero => rfl
    | succ j =>
      rw [renameFrom, List.getElem?_cons_succ, ih, List.getElem?_cons_succ, List.take_succ_cons,
        List.countP_cons, Nat.add_comm (List.countP _ _), Nat.add_assoc]

theorem renameFrom_all_ensembl (h : ∀ g ∈ genes, isEnsembl g = true) : ∀ k, renameFrom lookup ph k genes = genes := by
  induction genes with
  | nil => intro k; rfl
  | cons g gs ih =>
    intro k
    rw [renameFrom, renameOne_ensembl (h g List.mem_cons_self),
      ih (fun g' hg' => h g' (List.mem_cons_of_mem _ hg'))]

/-- `map_gene_identifiers` refuses a non-empty list of unknown names only; otherwise it renames
gene by gene, counting the unknown ones -/
theorem mapGenes_eq :
    mapGenes lookup ph start genes =
      if genes ≠ [] ∧ ∀ g ∈ genes, isUnknown lookup g = true then .error .allUnmappable
      else .ok ⟨(renameFrom lookup ph start genes).map stripSuffix,
        genes.countP (isUnknown lookup), start + genes.countP (isUnknown lookup)⟩ := by
  cases genes with
  | nil => rw [if_neg fun h => h.1 rfl]; rfl
  | cons g gs =>
    obtain ⟨i1, i2, i3⟩ :=
      foldl_mapStep (lookup := lookup) (ph := ph) (genes := g :: gs) ⟨[], start, 0, 0, 0⟩
    rw [mapGenes, if_neg (by simp)]
    simp only [i1, i2, i3, Nat.zero_add, List.nil_append]
    -- the code tests `n_unmappable == len(genes)`; `countP_eq_length` reads that as "all unknown"
    by_cases hall : ∀ g' ∈ g :: gs, isUnknown lookup g' = true
    · have hc := List.countP_eq_length.2 hall
      rw [if_pos ⟨by rw [hc]; exact Nat.pos_of_neZero _, hc⟩, if_pos ⟨List.cons_ne_nil _ _, hall⟩]
    · rw [if_neg fun h => hall (List.countP_eq_length.1 h.2), if_neg fun h => hall h.2]

theorem mapGenes_ok (h : mapGenes lookup ph start genes = .ok o) :
    o.mapped = (renameFrom lookup ph start genes).map stripSuffix ∧
    o.nUnmapped = genes.countP (isUnknown lookup) ∧
    o.ct = start + genes.countP (isUnknown lookup) := by
  rw [mapGenes_eq] at h
  split at h
  · cases h
  · cases h
    exact ⟨rfl, rfl, rfl⟩

theorem mapGenes_mapped_length (h : mapGenes lookup ph start genes = .ok o) :
    o.mapped.length = genes.length := by
  rw [(mapGenes_ok h).1, List.length_map, renameFrom_length]

theorem mapGenes_mapped_getElem? (h : mapGenes lookup ph start genes = .ok o) (i : Nat) :
    o.mapped[i]? = genes[i]?.map (fun g => stripSuffix
      (renameOne lookup ph (start + (genes.take i).countP (isUnknown lookup)) g)) := by
  rw [(mapGenes_ok h).1, List.getElem?_map, renameFrom_getElem?, Option.map_map]
  rfl

theorem mapGenes_error_iff :
    mapGenes lookup ph start genes = .error e ↔
      e = .allUnmappable ∧ genes ≠ [] ∧ ∀ g ∈ genes, isUnknown lookup g = true := by
  rw [mapGenes_eq]
  split
  next hc => exact ⟨fun h => by cases h; exact ⟨rfl, hc⟩, fun h => by rw [h.1]⟩
  next hc => exact ⟨nofun, fun h => absurd h.2 hc⟩

theorem mapGenes_ok_iff :
    (∃ o, mapGenes lookup ph start genes = .ok o) ↔
      genes = [] ∨ ∃ g ∈ genes, isUnknown lookup g = false := by
  rw [mapGenes_eq]
  split
  next hc =>
    refine ⟨nofun, ?_⟩
    rintro (h | ⟨g, hg, hu⟩)
    · exact absurd h hc.1
    · rw [hc.2 g hg] at hu
      cases hu
  next hc =>
    refine ⟨fun _ => ?_, fun _ => ⟨_, rfl⟩⟩
    by_contra hno
    rw [not_or, not_exists] at hno
    exact hc ⟨hno.1, fun g hg => Bool.eq_true_of_not_eq_false fun h => hno.2 g ⟨hg, h⟩⟩

theorem mapGeneIdsInVar_ok {mv : Option (List Name)}
    (h : mapGeneIdsInVar lookup ph start genes = .ok (mv, k)) :
    ∃ o, mapGenes lookup ph start genes = .ok o ∧
      ((o.mapped = genes ∧ mv = none ∧ k = 0) ∨
       (o.mapped ≠ genes ∧ mv = some o.mapped ∧ k = o.nUnmapped)) := by
  unfold mapGeneIdsInVar at h
  split at h
  · cases h
  next o ho =>
    refine ⟨o, ho, ?_⟩
    split at h
    next he => cases h; exact Or.inl ⟨he, rfl, rfl⟩
    next he => cases h; exact Or.inr ⟨he, rfl, rfl⟩

theorem mapGeneIdsInVar_error_iff :
    mapGeneIdsInVar lookup ph start genes = .error e ↔ mapGenes lookup ph start genes = .error e := by
  unfold mapGeneIdsInVar
  split
  next e' h => rw [h]; constructor <;> (intro h'; cases h'; rfl)
  next o h =>
    rw [h]
    constructor
    · intro h'; split at h' <;> cases h'
    · intro h'; cases h'

end

/-! ### the integrality test -/

theorem absRat_nonneg (x : Rat) : 0 ≤ absRat x := by
  unfold absRat
  split
  next h => exact neg_nonneg.2 h.le
  next h => exact not_lt.1 h

theorem maxDelta_le_iff {eps : Rat} (h0 : 0 ≤ eps) (ch : List Rat) :
    maxDelta ch ≤ eps ↔ ∀ v ∈ ch, absRat ((roundHalfEven v : Rat) - v) ≤ eps := by
  induction ch with
  | nil => simp [maxDelta, h0]
  | cons v vs ih =>
    simp only [maxDelta, max_le_iff, ih, List.mem_cons, forall_eq_or_imp]

theorem isIntegersChunked_iff {eps : Rat} (h0 : 0 ≤ eps) (chunks : List (List Rat)) :
    isIntegersChunked eps chunks = true ↔
      ∀ ch ∈ chunks, ∀ v ∈ ch, absRat ((roundHalfEven v : Rat) - v) ≤ eps := by
  unfold isIntegersChunked
  simp only [List.all_eq_true, Bool.not_eq_eq_eq_not, Bool.not_true, decide_eq_false_iff_not, not_lt,
    maxDelta_le_iff h0]

theorem isIntegersChunked_iff_flatten {eps : Rat} (h0 : 0 ≤ eps) (chunks : List (List Rat)) :
    isIntegersChunked eps chunks = true ↔
      ∀ v ∈ chunks.flatten, absRat ((roundHalfEven v : Rat) - v) ≤ eps := by
  rw [isIntegersChunked_iff h0]
  exact ⟨fun h v hv => (List.mem_flatten.1 hv).elim fun ch hch => h ch hch.1 v hch.2,
    fun h ch hch v hv => h v (List.mem_flatten.2 ⟨ch, hch, hv⟩)⟩

/-! ### min / max read chunk by chunk -/

theorem ite_lt_eq_min (a b : Rat) : (if a < b then a else b) = min a b := by
  rcases lt_or_ge a b with h | h
  · rw [if_pos h, min_eq_left h.le]
  · rw [if_neg (not_lt.2 h), min_eq_right h]

theorem ite_lt_eq_max (a b : Rat) : (if a < b then b else a) = max a b := by
  rcases lt_or_ge a b with h | h
  · rw [if_pos h, max_eq_right h.le]
  · rw [if_neg (not_lt.2 h), max_eq_left h]

def IsMinMax (l : List Rat) (mn mx : Rat) : Prop :=
  mn ∈ l ∧ mx ∈ l ∧ ∀ v ∈ l, mn ≤ v ∧ v ≤ mx

theorem IsMinMax.congr {l l' : List Rat} {mn mx : Rat} (h : ∀ v, v ∈ l ↔ v ∈ l')
    (hl : IsMinMax l mn mx) : IsMinMax l' mn mx :=
  ⟨(h mn).1 hl.1, (h mx).1 hl.2.1, fun v hv => hl.2.2 v ((h v).2 hv)⟩

theorem IsMinMax.singleton (v : Rat) : IsMinMax [v] v v :=
  ⟨List.mem_singleton_self v, List.mem_singleton_self v,
    fun u hu => by rw [List.mem_singleton.1 hu]; exact ⟨le_refl _, le_refl _⟩⟩

theorem IsMinMax.append {a b : List Rat} {lo hi lo' hi' : Rat} (ha : IsMinMax a lo hi)
    (hb : IsMinMax b lo' hi') : IsMinMax (a ++ b) (min lo lo') (max hi hi') := by
  refine ⟨?_, ?_, fun v hv => ?_⟩
  · rcases min_choice lo lo' with e | e <;> rw [e]
    · exact List.mem_append_left _ ha.1
    · exact List.mem_append_right _ hb.1
  · rcases max_choice hi hi' with e | e <;> rw [e]
    · exact List.mem_append_left _ ha.2.1
    · exact List.mem_append_right _ hb.2.1
  · rcases List.mem_append.1 hv with hv | hv
    · exact ⟨(min_le_left _ _).trans (ha.2.2 v hv).1, (ha.2.2 v hv).2.trans (le_max_left _ _)⟩
    · exact ⟨(min_le_right _ _).trans (hb.2.2 v hv).1, (hb.2.2 v hv).2.trans (le_max_right _ _)⟩

theorem listMinMax_spec {ch : List Rat} (h : ch ≠ []) :
    ∃ lo hi, listMin ch = some lo ∧ listMax ch = some hi ∧ IsMinMax ch lo hi := by
  induction ch with
  | nil => exact absurd rfl h
  | cons v vs ih =>
    rcases eq_or_ne vs [] with rfl | hvs
    · exact ⟨v, v, rfl, rfl, .singleton v⟩
    · obtain ⟨lo, hi, hlo, hhi, hm⟩ := ih hvs
      exact ⟨min v lo, max v hi, by simp only [listMin, hlo, ite_lt_eq_min],
        by simp only [listMax, hhi, ite_lt_eq_max, max_comm v hi], (IsMinMax.singleton v).append hm⟩

/-- the accumulator holds the least and the greatest of what has been read so far (`A`) -/
theorem runMinMax_some {chunks : List (List Rat)} (hne : ∀ ch ∈ chunks, ch ≠ []) :
    ∀ (A : List Rat) (a b : Rat), IsMinMax A a b →
      ∃ mn mx, runMinMax (some (a, b)) chunks = .ok (some (mn, mx)) ∧
        IsMinMax (A ++ chunks.flatten) mn mx := by
  induction chunks with
  | nil => exact fun A a b h => ⟨a, b, rfl, by rwa [List.flatten_nil, List.append_nil]⟩
  | cons ch rest ih =>
    intro A a b h
    obtain ⟨lo, hi, hlo, hhi, hm⟩ := listMinMax_spec (hne ch List.mem_cons_self)
    obtain ⟨mn, mx, hr, hmm⟩ := ih (fun c hc => hne c (List.mem_cons_of_mem _ hc)) (A ++ ch)
      (min a lo) (max b hi) (h.append hm)
    refine ⟨mn, mx, ?_, by rwa [List.flatten_cons, ← List.append_assoc]⟩
    simp only [runMinMax, hlo, hhi, ite_lt_eq_min, ite_lt_eq_max, min_comm lo a]
    exact hr

theorem runMinMax_none {chunks : List (List Rat)} (hne : ∀ ch ∈ chunks, ch ≠ [])
    (h1 : chunks ≠ []) :
    ∃ mn mx, runMinMax none chunks = .ok (some (mn, mx)) ∧ IsMinMax chunks.flatten mn mx := by
  cases chunks with
  | nil => exact absurd rfl h1
  | cons ch rest =>
    obtain ⟨lo, hi, hlo, hhi, hm⟩ := listMinMax_spec (hne ch List.mem_cons_self)
    obtain ⟨mn, mx, hr, hmm⟩ :=
      runMinMax_some (fun c hc => hne c (List.mem_cons_of_mem _ hc)) ch lo hi hm
    exact ⟨mn, mx, by simp only [runMinMax, hlo, hhi]; exact hr, hmm⟩

theorem runMinMax_error {chunks : List (List Rat)} {e : VErr} :
    ∀ {acc : Option (Rat × Rat)}, runMinMax acc chunks = .error e → e = .emptyMatrix := by
  induction chunks with
  | nil => intro acc h; cases h
  | cons ch rest ih =>
    intro acc h
    unfold runMinMax at h
    split at h
    · split at h
      · exact ih h
      · exact ih h
    · cases h; rfl

theorem runMinMax_ok_ne_nil {chunks : List (List Rat)} {r : Option (Rat × Rat)} :
    ∀ {acc : Option (Rat × Rat)}, runMinMax acc chunks = .ok r → ∀ ch ∈ chunks, ch ≠ [] := by
  induction chunks with
  | nil => intro acc _ ch hch; cases hch
  | cons c rest ih =>
    intro acc h ch hch
    rcases List.mem_cons.1 hch with rfl | hch
    · rintro rfl
      cases h
    · unfold runMinMax at h
      split at h
      · split at h <;> exact ih h ch hch
      · cases h

theorem runMinMax_cover_spec {chunks : List (List Rat)} {data : List Rat}
    (hmem : ∀ v, v ∈ chunks.flatten ↔ v ∈ data) (hne : ∀ ch ∈ chunks, ch ≠ []) (hd : data ≠ []) :
    ∃ mn mx, runMinMax none chunks = .ok (some (mn, mx)) ∧ IsMinMax data mn mx := by
  obtain ⟨v, hv⟩ := List.exists_mem_of_ne_nil _ hd
  have h1 : chunks ≠ [] := by
    rintro rfl
    exact List.not_mem_nil ((hmem v).2 hv)
  obtain ⟨mn, mx, h, hm⟩ := runMinMax_none hne h1
  exact ⟨mn, mx, h, hm.congr hmem⟩

/-- no hypothesis on the chunks: a reading that meets an empty chunk returns no pair -/
theorem runMinMax_cover_sound {chunks : List (List Rat)} {data : List Rat}
    (hmem : ∀ v, v ∈ chunks.flatten ↔ v ∈ data) {mn mx : Rat}
    (h : runMinMax none chunks = .ok (some (mn, mx))) : IsMinMax data mn mx := by
  have hne := runMinMax_ok_ne_nil h
  have h1 : chunks ≠ [] := by
    rintro rfl
    cases h
  obtain ⟨mn', mx', h', hp⟩ := runMinMax_none hne h1
  rw [h] at h'
  cases h'
  exact hp.congr hmem

/-! ### chunk doubling, runs and tiles -/

theorem doubleChunk1_ge (ntot : Nat) : ∀ fuel c, c ≤ doubleChunk1 ntot fuel c := by
  intro fuel
  induction fuel with
  | zero => intro c; exact Nat.le_refl _
  | succ f ih =>
    intro c
    unfold doubleChunk1
    split
    · exact Nat.le_trans (by omega) (ih (c * 2))
    · exact Nat.le_refl _

theorem doubleChunk2_ge (ntot : Nat) :
    ∀ fuel (c : Nat × Nat), c.1 ≤ (doubleChunk2 ntot fuel c).1 ∧ c.2 ≤ (doubleChunk2 ntot fuel c).2 := by
  intro fuel
  induction fuel with
  | zero => intro c; exact ⟨Nat.le_refl _, Nat.le_refl _⟩
  | succ f ih =>
    intro c
    unfold doubleChunk2
    split
    · have := ih (c.1 * 2, c.2 * 2)
      simp only at this
      omega
    · exact ⟨Nat.le_refl _, Nat.le_refl _⟩

theorem sparseRuns_spec {data : List Rat} {c : Nat} (hc : 1 ≤ c) :
    (∀ ch ∈ sparseRuns data c, ch ≠ []) ∧ (sparseRuns data c).flatten = data := by
  refine ⟨fun ch hch => ?_, Stats.chunkRanges_tile data c hc⟩
  obtain ⟨p, hp, rfl⟩ := List.mem_map.1 hch
  exact Stats.chunkRanges_slice_ne_nil data c hc p hp

theorem denseTiles_spec {m : List (List Rat)} {nCols : Nat} {cs : Nat × Nat}
    (hrow : ∀ row ∈ m, row.length = nCols) (h1 : 1 ≤ cs.1) (h2 : 1 ≤ cs.2) :
    (∀ t ∈ denseTiles m m.length nCols cs, t ≠ []) ∧
    ∀ v, v ∈ (denseTiles m m.length nCols cs).flatten ↔ v ∈ m.flatten := by
  unfold denseTiles
  refine ⟨?_, fun v => ⟨?_, ?_⟩⟩
  · intro t ht
    obtain ⟨r, hr, ht⟩ := List.mem_flatMap.1 ht
    obtain ⟨c, hc, rfl⟩ := List.mem_map.1 ht
    obtain ⟨row, hr'⟩ := List.exists_mem_of_ne_nil _ (Stats.chunkRanges_slice_ne_nil m _ h1 r hr)
    rw [← hrow row (List.mem_of_mem_drop (List.mem_of_mem_take hr'))] at hc
    obtain ⟨v, hv⟩ := List.exists_mem_of_ne_nil _ (Stats.chunkRanges_slice_ne_nil row _ h2 c hc)
    exact List.ne_nil_of_mem (List.mem_flatMap.2 ⟨row, hr', hv⟩)
  · intro hv
    obtain ⟨t, ht, hvt⟩ := List.mem_flatten.1 hv
    obtain ⟨r, _, ht⟩ := List.mem_flatMap.1 ht
    obtain ⟨c, _, rfl⟩ := List.mem_map.1 ht
    obtain ⟨row, hr', hvr⟩ := List.mem_flatMap.1 hvt
    exact List.mem_flatten.2 ⟨row, List.mem_of_mem_drop (List.mem_of_mem_take hr'),
      List.mem_of_mem_drop (List.mem_of_mem_take hvr)⟩
  · intro hv
    obtain ⟨row, hrm, hvr⟩ := List.mem_flatten.1 hv
    obtain ⟨r, hr, hr'⟩ := Stats.chunkRanges_cover m _ h1 row hrm
    obtain ⟨c, hc, hvc⟩ := Stats.chunkRanges_cover row _ h2 v hvr
    rw [hrow row hrm] at hc
    exact List.mem_flatten.2 ⟨_, List.mem_flatMap.2 ⟨r, hr, List.mem_map.2 ⟨c, hc, rfl⟩⟩,
      List.mem_flatMap.2 ⟨row, hr', hvc⟩⟩

/-! ### the stored layer -/

/-- the stored layer is a proper array: every row of a dense matrix has `nCols`
entries and chunk sizes are positive (h5py never reports a zero chunk) -/
def Storage.WellFormed : Storage → Prop
  | .dense m nCols ch => (∀ row ∈ m, row.length = nCols) ∧ ∀ c, ch = some c → 1 ≤ c.1 ∧ 1 ≤ c.2
  | .sparse _ ch => ∀ c, ch = some c → 1 ≤ c

/-- on a well-formed layer `minmax` is the running min / max over chunks whose union is the
stored values - except for an empty CSR / CSC `data`, where it is `(0, 0)` -/
theorem storage_minmax_cases {st : Storage} (hw : st.WellFormed) :
    (st.values = [] ∧ st.minmax = .ok (some (0, 0))) ∨
    ∃ chunks, st.minmax = runMinMax none chunks ∧ (∀ v, v ∈ chunks.flatten ↔ v ∈ st.values) ∧
      (st.values ≠ [] → ∀ ch ∈ chunks, ch ≠ []) := by
  cases st with
  | sparse d ch =>
    by_cases hd : d = []
    · subst hd
      exact Or.inl ⟨rfl, rfl⟩
    · have he : ∀ x y : Except VErr (Option (Rat × Rat)), (if d.isEmpty then x else y) = y :=
        fun x y => if_neg (by simpa using hd)
      cases ch with
      | none =>
        exact Or.inr ⟨[d], he _ _, fun _ => by rw [List.flatten_singleton]; rfl, fun h => List.forall_mem_singleton.2 h⟩
      | some c =>
        obtain ⟨s1, s2⟩ := sparseRuns_spec (data := d)
          (Nat.le_trans (hw c rfl) (doubleChunk1_ge d.length 64 c))
        exact Or.inr ⟨_, he _ _, fun v => by rw [s2]; exact Iff.rfl, fun _ => s1⟩
  | dense m nCols ch =>
    cases ch with
    | none =>
      exact Or.inr ⟨_, rfl, fun _ => by rw [List.flatten_singleton]; rfl, fun h => List.forall_mem_singleton.2 h⟩
    | some c =>
      obtain ⟨c1, c2⟩ := hw.2 c rfl
      obtain ⟨d1, d2⟩ := doubleChunk2_ge (m.length * nCols) 64 c
      obtain ⟨s1, s2⟩ := denseTiles_spec (cs := doubleChunk2 (m.length * nCols) 64 c) hw.1
        (Nat.le_trans c1 d1) (Nat.le_trans c2 d2)
      exact Or.inr ⟨_, rfl, s2, fun _ => s1⟩

theorem storage_minmax_error {st : Storage} {e : VErr} (h : st.minmax = .error e) :
    e = .emptyMatrix := by
  cases st with
  | dense m nCols ch =>
    simp only [Storage.minmax, minmaxDense] at h
    cases ch with
    | none => exact runMinMax_error h
    | some c => exact runMinMax_error h
  | sparse d ch =>
    simp only [Storage.minmax, minmaxSparse] at h
    split at h
    · cases h
    · cases ch with
      | none => exact runMinMax_error h
      | some c => exact runMinMax_error h

theorem storage_minmax_spec {st : Storage} (hw : st.WellFormed) (hv : st.values ≠ []) :
    ∃ mn mx, st.minmax = .ok (some (mn, mx)) ∧ IsMinMax st.values mn mx := by
  rcases storage_minmax_cases hw with ⟨h, _⟩ | ⟨chunks, he, hmem, hne⟩
  · exact absurd h hv
  · rw [he]
    exact runMinMax_cover_spec hmem (hne hv) hv

/-- the second disjunct is the empty CSR / CSC `data`; an empty dense matrix has no min / max -/
theorem storage_minmax_sound {st : Storage} (hw : st.WellFormed) {mn mx : Rat}
    (hmm : st.minmax = .ok (some (mn, mx))) :
    (∀ v ∈ st.values, mn ≤ v ∧ v ≤ mx) ∧
    ((mn ∈ st.values ∧ mx ∈ st.values) ∨ (mn = 0 ∧ mx = 0)) := by
  rcases storage_minmax_cases hw with ⟨hv, h0⟩ | ⟨chunks, he, hmem, _⟩
  · rw [h0] at hmm
    cases hmm
    exact ⟨by rw [hv]; exact fun _ h => absurd h List.not_mem_nil, Or.inr ⟨rfl, rfl⟩⟩
  · rw [he] at hmm
    obtain ⟨h1, h2, h3⟩ := runMinMax_cover_sound hmem hmm
    exact ⟨h3, Or.inl ⟨h1, h2⟩⟩

/-- the rounded bounds `_validate_h5ad` works with lie in any integer interval containing all
rounded values (and 0) -/
theorem storage_minmax_range {st : Storage} (hw : st.WellFormed) {mn mx : Rat}
    (hmm : st.minmax = .ok (some (mn, mx))) :
    (∀ v ∈ st.values, mn ≤ v ∧ v ≤ mx) ∧
    ∀ a b : Int, a ≤ 0 → 0 ≤ b → (∀ v ∈ st.values, a ≤ roundHalfEven v ∧ roundHalfEven v ≤ b) →
      a ≤ roundHalfEven mn ∧ roundHalfEven mx ≤ b := by
  obtain ⟨hb, hends⟩ := storage_minmax_sound hw hmm
  refine ⟨hb, fun a b ha hb' h => ?_⟩
  rcases hends with ⟨hmn, hmx⟩ | ⟨rfl, rfl⟩
  · exact ⟨(h mn hmn).1, (h mx hmx).2⟩
  · rw [roundHalfEven_zero]
    exact ⟨ha, hb'⟩

theorem readChunks_mem {st : Storage} (hw : st.WellFormed) (v : Rat) :
    v ∈ st.readChunks.flatten ↔ v ∈ st.values := by
  cases st with
  | sparse d ch =>
    cases ch with
    | none =>
      simp only [Storage.readChunks, Storage.values]
      cases d <;> simp
    | some c =>
      show v ∈ (sparseRuns d c).flatten ↔ v ∈ d
      rw [(sparseRuns_spec (hw c rfl)).2]
  | dense m nCols ch =>
    obtain ⟨hrow, hc⟩ := hw
    cases ch with
    | some c => exact (denseTiles_spec hrow (hc c rfl).1 (hc c rfl).2).2 v
    | none =>
      simp only [Storage.readChunks, Storage.values]
      split
      next h =>
        have : m.flatten = [] := by
          rcases h with h | h
          · rw [List.length_eq_zero_iff.1 h]; rfl
          · rw [List.flatten_eq_nil_iff]
            intro row hr
            exact List.length_eq_zero_iff.1 (by rw [hrow row hr, h])
        simp [this]
      next => simp

/-! ### `validate`: one lemma per exit of `_validate_h5ad`, in the order of the source -/

/-- the `cast_to_int` flag of `_validate_h5ad` -/
def castNeeded (inp : Input) : Bool :=
  inp.roundToInt && !(inp.intDtype || isIntegersChunked inp.eps inp.storage.readChunks)

/-- the min / max `_validate_h5ad` works with -/
def minmaxUsed (inp : Input) : Except VErr (Option (Rat × Rat)) :=
  if inp.expectedMax.isSome || castNeeded inp then inp.storage.minmax else .ok (some (0, 0))

def CensusOk (inp : Input) : Prop :=
  hasDup inp.cellIds = false ∧ hasDup inp.genes = false ∧ [] ∉ inp.genes

section
variable {ph : Nat → Name} {inp : Input} {mv : Option (List Name)} {k : Nat} {mn mx : Rat}
  {plan : Plan} {e : VErr}

theorem castNeeded_iff :
    castNeeded inp = true ↔ inp.roundToInt = true ∧ inp.intDtype = false ∧
      isIntegersChunked inp.eps inp.storage.readChunks = false := by
  simp only [castNeeded, Bool.and_eq_true, Bool.not_eq_true', Bool.or_eq_false_iff]

theorem castNeeded_eq_false
    (h : inp.roundToInt = false ∨ inp.intDtype = true ∨
      isIntegersChunked inp.eps inp.storage.readChunks = true) : castNeeded inp = false := by
  unfold castNeeded
  rcases h with h | h | h <;> simp [h]

theorem minmaxUsed_of_cast (h : castNeeded inp = true) :
    minmaxUsed inp = inp.storage.minmax := by
  unfold minmaxUsed
  rw [h, Bool.or_true, if_pos rfl]

theorem minmaxUsed_error (h : minmaxUsed inp = .error e) :
    e = .emptyMatrix := by
  unfold minmaxUsed at h
  split at h
  · exact storage_minmax_error h
  · cases h

theorem checkCellIds_ok {l : List Name} (h : hasDup l = false) : checkCellIds l = .ok () := by
  simp [checkCellIds, h]

theorem checkGeneNames_ok {l : List Name} (h : hasDup l = false) (h' : [] ∉ l) :
    checkGeneNames l = .ok () := by
  simp [checkGeneNames, h, h']

theorem validate_dupCells (h : hasDup inp.cellIds = true) :
    validate ph inp = .error .dupCellIds := by
  have hc : checkCellIds inp.cellIds = .error .dupCellIds := by simp [checkCellIds, h]
  unfold validate
  simp only [hc]

theorem validate_badGenes (h0 : hasDup inp.cellIds = false)
    (h : hasDup inp.genes = true ∨ [] ∈ inp.genes) :
    validate ph inp = .error .badGeneNames := by
  have hg : checkGeneNames inp.genes = .error .badGeneNames := by
    rcases h with h | h <;> simp [checkGeneNames, h]
  unfold validate
  simp only [checkCellIds_ok h0, hg]

theorem validate_mapError (hc : CensusOk inp)
    (hm : mapGeneIdsInVar inp.lookup ph inp.start inp.genes = .error e) :
    validate ph inp = .error e := by
  unfold validate
  simp only [checkCellIds_ok hc.1, checkGeneNames_ok hc.2.1 hc.2.2, hm]

theorem validate_minmaxError (hc : CensusOk inp)
    (hm : mapGeneIdsInVar inp.lookup ph inp.start inp.genes = .ok (mv, k))
    (hmm : minmaxUsed inp = .error .emptyMatrix ∨ minmaxUsed inp = .ok none) :
    validate ph inp = .error .emptyMatrix := by
  unfold minmaxUsed castNeeded at hmm
  unfold validate
  rcases hmm with hmm | hmm <;>
    simp only [checkCellIds_ok hc.1, checkGeneNames_ok hc.2.1 hc.2.2, hm, hmm]

theorem validate_dupMapped {m : List Name} (hc : CensusOk inp)
    (hm : mapGeneIdsInVar inp.lookup ph inp.start inp.genes = .ok (some m, k))
    (hd : hasDup m = true) (hmm : minmaxUsed inp = .ok (some (mn, mx))) :
    validate ph inp = .error .dupMapped := by
  unfold minmaxUsed castNeeded at hmm
  unfold validate
  simp only [checkCellIds_ok hc.1, checkGeneNames_ok hc.2.1 hc.2.2, hm, hmm, hd, Option.isSome_some,
    Bool.or_true, Bool.true_or, if_true]

/-- `validate` writes `(castTo rung v).map (fun i => (i : Rat))` where an `Option Rat` is expected;
Lean elaborates that as a monad lift of the `Option Int` followed by `map id`. -/
theorem map_id_lift_eq_map_intCast (o : Option Int) :
    (Option.map (fun i : Rat => i) do let a ← o; pure (a : Rat)) =
      o.map (fun i : Int => (i : Rat)) := by
  cases o <;> rfl

/-- what `validate` writes when nothing fails, given the mapper's answer `(mv, k)` and the
bounds `mn`, `mx` it worked with (`Plan.hasWarnings` has no field here: nothing is proved of it) -/
structure IsPlan (inp : Input) (mv : Option (List Name)) (k : Nat) (mn mx : Rat) (plan : Plan) :
    Prop where
  writeNew : plan.writeNew = (!inp.layerIsX || mv.isSome || castNeeded inp)
  genes : plan.genes = mv.getD inp.genes
  values : plan.values = (if castNeeded inp then
      inp.storage.values.map (fun v =>
        (castTo (chooseIntDtype inp.floatBits mn mx) v).map (fun i : Int => (i : Rat)))
    else inp.storage.values.map some)
  dtype : plan.dtype = (if castNeeded inp then some (chooseIntDtype inp.floatBits mn mx).1 else none)
  mapping : plan.mapping = mv.map (fun m => (inp.genes.zip m).filter (fun p => p.1 != p.2))
  nMapped : plan.nMapped = inp.genes.length - k

theorem validate_ok_of (hc : CensusOk inp)
    (hm : mapGeneIdsInVar inp.lookup ph inp.start inp.genes = .ok (mv, k))
    (hmm : minmaxUsed inp = .ok (some (mn, mx)))
    (hd : ∀ m, mv = some m → hasDup m = false) :
    ∃ plan, validate ph inp = .ok plan ∧ IsPlan inp mv k mn mx plan := by
  unfold minmaxUsed castNeeded at hmm
  unfold validate
  simp only [checkCellIds_ok hc.1, checkGeneNames_ok hc.2.1 hc.2.2, hm, hmm, map_id_lift_eq_map_intCast]
  rw [← castNeeded]
  -- (`split` on the remaining `if` is slow here: the goal is large)
  cases mv with
  | some m =>
    simp only [hd m rfl, Option.isSome_some, Bool.or_true, Bool.true_or, if_true,
      Bool.false_eq_true, if_false]
    exact ⟨_, rfl, (Bool.or_true _).symm ▸ rfl, rfl, rfl, rfl, rfl, rfl⟩
  | none =>
    by_cases hc : (!inp.layerIsX || (none : Option (List Name)).isSome || castNeeded inp) = true
    · rw [if_pos hc]
      exact ⟨_, rfl, hc.symm, rfl, rfl, rfl, rfl, rfl⟩
    · rw [if_neg hc]
      have hc := Bool.eq_false_iff.2 hc
      have hcn : castNeeded inp = false := (Bool.or_eq_false_iff.1 hc).2
      exact ⟨_, rfl, hc.symm, rfl, by rw [hcn]; rfl, by rw [hcn]; rfl, rfl, rfl⟩

def Succeeds (ph : Nat → Name) (inp : Input) (plan : Plan) : Prop :=
  CensusOk inp ∧ ∃ mv k mn mx,
    mapGeneIdsInVar inp.lookup ph inp.start inp.genes = .ok (mv, k) ∧
    minmaxUsed inp = .ok (some (mn, mx)) ∧
    (∀ m, mv = some m → hasDup m = false) ∧
    IsPlan inp mv k mn mx plan

/-- every way `validate` can fail, in the order of the source -/
def FailsWith (ph : Nat → Name) (inp : Input) (e : VErr) : Prop :=
  (e = .dupCellIds ∧ hasDup inp.cellIds = true) ∨
  (e = .badGeneNames ∧ hasDup inp.cellIds = false ∧
    (hasDup inp.genes = true ∨ [] ∈ inp.genes)) ∨
  (e = .allUnmappable ∧ CensusOk inp ∧ inp.genes ≠ [] ∧ ∀ g ∈ inp.genes, isUnknown inp.lookup g = true) ∨
  (e = .emptyMatrix ∧ CensusOk inp ∧ (∃ mv k, mapGeneIdsInVar inp.lookup ph inp.start inp.genes = .ok (mv, k)) ∧
    (minmaxUsed inp = .error .emptyMatrix ∨ minmaxUsed inp = .ok none)) ∨
  (e = .dupMapped ∧ CensusOk inp ∧ ∃ m k mn mx,
      mapGeneIdsInVar inp.lookup ph inp.start inp.genes = .ok (some m, k) ∧
      minmaxUsed inp = .ok (some (mn, mx)) ∧ hasDup m = true)

theorem validate_spec (ph : Nat → Name) (inp : Input) :
    match validate ph inp with
    | .error e => FailsWith ph inp e
    | .ok plan => Succeeds ph inp plan := by
  rcases Bool.eq_false_or_eq_true (hasDup inp.cellIds) with h0 | h0
  · rw [validate_dupCells h0]
    exact Or.inl ⟨rfl, h0⟩
  by_cases hg : hasDup inp.genes = true ∨ [] ∈ inp.genes
  · rw [validate_badGenes h0 hg]
    exact Or.inr (Or.inl ⟨rfl, h0, hg⟩)
  have hc : CensusOk inp :=
    ⟨h0, Bool.eq_false_iff.2 fun h => hg (Or.inl h), fun h => hg (Or.inr h)⟩
  cases hm : mapGeneIdsInVar inp.lookup ph inp.start inp.genes with
  | error e =>
    rw [validate_mapError hc hm]
    obtain ⟨rfl, hne, hall⟩ :=
      mapGenes_error_iff.1 (mapGeneIdsInVar_error_iff.1 hm)
    exact Or.inr (Or.inr (Or.inl ⟨rfl, hc, hne, hall⟩))
  | ok r =>
    obtain ⟨mv, k⟩ := r
    cases hmm : minmaxUsed inp with
    | error e =>
      obtain rfl := minmaxUsed_error hmm
      rw [validate_minmaxError hc hm (Or.inl hmm)]
      exact Or.inr (Or.inr (Or.inr (Or.inl ⟨rfl, hc, ⟨mv, k, hm⟩, Or.inl hmm⟩)))
    | ok b =>
      cases b with
      | none =>
        rw [validate_minmaxError hc hm (Or.inr hmm)]
        exact Or.inr (Or.inr (Or.inr (Or.inl ⟨rfl, hc, ⟨mv, k, hm⟩, Or.inr hmm⟩)))
      | some b =>
        obtain ⟨mn, mx⟩ := b
        by_cases hd : ∀ m, mv = some m → hasDup m = false
        · obtain ⟨plan, hp, hplan⟩ := validate_ok_of hc hm hmm hd
          rw [hp]
          exact ⟨hc, mv, k, mn, mx, hm, hmm, hd, hplan⟩
        · obtain ⟨m, rfl, hdm⟩ : ∃ m, mv = some m ∧ hasDup m = true := by
            by_contra hno
            exact hd fun m hm' => Bool.eq_false_iff.2 fun h => hno ⟨m, hm', h⟩
          rw [validate_dupMapped hc hm hdm hmm]
          exact Or.inr (Or.inr (Or.inr (Or.inr ⟨rfl, hc, m, k, mn, mx, hm, hmm, hdm⟩)))

/-- The entry point for a theorem about a successful run:
`obtain ⟨hcensus, mv, k, mn, mx, hmap, hminmax, hnodup, hplan⟩ := validate_ok_inv h`. -/
theorem validate_ok_inv (h : validate ph inp = .ok plan) : Succeeds ph inp plan := by
  have := validate_spec ph inp
  rwa [h] at this

theorem validate_error_iff (ph : Nat → Name) (inp : Input) (e : VErr) :
    validate ph inp = .error e ↔ FailsWith ph inp e := by
  constructor
  · intro h
    have := validate_spec ph inp
    rwa [h] at this
  · rintro (⟨rfl, h0⟩ | ⟨rfl, h0, hg⟩ | ⟨rfl, hc, hne, hall⟩ |
      ⟨rfl, hc, ⟨mv, k, hm⟩, hmm⟩ | ⟨rfl, hc, m, k, mn, mx, hm, hmm, hd⟩)
    · exact validate_dupCells h0
    · exact validate_badGenes h0 hg
    · exact validate_mapError hc (mapGeneIdsInVar_error_iff.2
        (mapGenes_error_iff.2 ⟨rfl, hne, hall⟩))
    · exact validate_minmaxError hc hm hmm
    · exact validate_dupMapped hc hm hd hmm

theorem validate_cast_of_dtype {d : String}
    (h : validate ph inp = .ok plan) (hd : plan.dtype = some d) :
    castNeeded inp = true ∧ ∃ mn mx, inp.storage.minmax = .ok (some (mn, mx)) ∧
      (chooseIntDtype inp.floatBits mn mx).1 = d ∧
      plan.values = inp.storage.values.map (fun v =>
        (castTo (chooseIntDtype inp.floatBits mn mx) v).map (fun i : Int => (i : Rat))) := by
  obtain ⟨_, mv, k, mn, mx, _, hmu, _, hp⟩ := validate_ok_inv h
  rw [hp.dtype] at hd
  by_cases hcn : castNeeded inp = true
  · rw [if_pos hcn] at hd
    rw [minmaxUsed_of_cast hcn] at hmu
    exact ⟨hcn, mn, mx, hmu, Option.some.inj hd, by rw [hp.values, if_pos hcn]⟩
  · rw [if_neg hcn] at hd
    cases hd

end

/-! ### the real spelling of placeholder names -/

theorem toDigits_ten_inj {n m : Nat} (h : Nat.toDigits 10 n = Nat.toDigits 10 m) : n = m := by
  rw [← Nat.ofDigitChars_ten_toDigits (n := n), h, Nat.ofDigitChars_ten_toDigits]

/-- `f"unmapped_{k}_{stamp}"` as a list of characters -/
def realPlaceholder (stamp : Nat → String) (k : Nat) : Name :=
  ("unmapped_" ++ toString k ++ "_" ++ stamp k).toList

theorem realPlaceholder_eq (stamp : Nat → String) (k : Nat) :
    realPlaceholder stamp k =
      "unmapped_".toList ++ (Nat.toDigits 10 k ++ '_' :: (stamp k).toList) := by
  unfold realPlaceholder
  rw [String.toList_append, String.toList_append, String.toList_append, Nat.toString_eq_repr,
    Nat.toList_repr]
  simp [List.append_assoc]

theorem toDigits_ne_dot {k : Nat} : ∀ x ∈ Nat.toDigits 10 k, (x != '.') = true := by
  intro x hx
  have := Nat.isDigit_of_mem_toDigits (by decide) (by decide) hx
  rw [bne_iff_ne]
  rintro rfl
  revert this; decide

theorem stripSuffix_realPlaceholder (stamp : Nat → String) (k : Nat) :
    stripSuffix (realPlaceholder stamp k) =
      "unmapped_".toList ++ (Nat.toDigits 10 k ++ '_' :: stripSuffix (stamp k).toList) := by
  unfold stripSuffix
  rw [realPlaceholder_eq, List.takeWhile_append_of_pos (by decide),
    List.takeWhile_append_of_pos toDigits_ne_dot]
  rfl

theorem digits_underscore_inj {a b : Nat} {r1 r2 : List Char}
    (h : Nat.toDigits 10 a ++ '_' :: r1 = Nat.toDigits 10 b ++ '_' :: r2) : a = b := by
  apply toDigits_ten_inj
  have key : ∀ (k : Nat) (r : List Char),
      (Nat.toDigits 10 k ++ '_' :: r).takeWhile Char.isDigit = Nat.toDigits 10 k := by
    intro k r
    exact (ListAux.takeWhile_append_stop
      (fun x hx => Nat.isDigit_of_mem_toDigits (by decide) (by decide) hx) (by simp)).1
  rw [← key a r1, ← key b r2, h]

theorem realPlaceholder_injective (stamp : Nat → String) :
    Function.Injective (fun k => stripSuffix (realPlaceholder stamp k)) := by
  intro a b h
  simp only [stripSuffix_realPlaceholder] at h
  exact digits_underscore_inj (List.append_cancel_left h)

/-- the driver's `placeholderT` is the real spelling with the fixed stamp `T` -/
theorem realPlaceholder_T (k : Nat) :
    realPlaceholder (fun _ => "T") k = ("unmapped_" ++ toString k ++ "_T").toList := by
  have h : "_" ++ "T" = "_T" := by decide
  show ("unmapped_" ++ toString k ++ "_" ++ "T").toList = _
  rw [String.append_assoc, h]

end CTM.Validate
