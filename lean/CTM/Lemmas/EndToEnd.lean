/-
  The composed model read from the files: election parameters taken from the statistics file and
  the marker cache (`fileParams`); what the files say about them (`NodeGenes`: both column lists
  name the node's marker genes; `refRow_by_name`, `nodeQuery_by_name`: reference rows and query row
  are read by gene NAME); and the hypotheses of the `Compose` theorems (`NoRaiseAll`, the guard of
  `centroid_maps_home_validated`) derived from acceptance of the files (C08, `StageFiles`).
-/
import CTM.Lemmas.Compose
import CTM.Lemmas.ComposeHome
import CTM.Lemmas.ComposeWF
import CTM.Lemmas.StageFiles
import CTM.Props.C08

namespace CTM.EndToEnd
open CTM CTM.LevelLoop CTM.OutBridge CTM.Election CTM.Numeric CTM.Compose
open CTM.Markers CTM.StageFiles

/-- what a run needs besides the files: the nondeterminism (drawn subsets, tie
orders, reported correlation values) and the configuration
(`n_runners_up + 1`, `min_markers`) -/
structure RunParams where
  subsets : Parent → List Rat → List (List Nat)
  corrOf : Parent → List Rat → Nat → Nat → Rat
  tie : Parent → List Rat → List Nat → List Nat
  nAssign : Nat
  minMarkers : Nat

/-- the marker cache of the run: `create_marker_cache_from_specified_markers`
with the taxonomy and `col_names` of the statistics file and the query's gene
names (`Markers.createCache`) -/
def cacheOf (f : StatsFile) (lk : Lookup) (Q : List Gene) (m : Nat) : Except MErr Cache :=
  createCache (some f.tree) lk f.colNames Q m

/-- rows `(reference index, query index)` of a parent's group (`[]` when the
cache could not be written or has no such group: nothing is then asked) -/
def groupRows (c : Except MErr Cache) (p : PKey) : List (Nat × Nat) :=
  match c with
  | .ok c => (c.groups.lookup p).getD []
  | .error _ => []

/-- the FILE-LEVEL parameters of the election: reference rows = the leaf means
read from the statistics file by leaf NAME (`StageFiles.leafMeanRow`; `[]` on a read error, which
`FileOK` excludes), the node's gene columns = the rows of the parent's group in the marker cache -/
def fileParams (f : StatsFile) (lk : Lookup) (Q : List Gene) (rp : RunParams) : ElectionParams :=
  { means := fun leaf => match leafMeanRow f leaf with
      | .ok row => row
      | .error _ => []
    qcols := fun p => (groupRows (cacheOf f lk Q rp.minMarkers) p).map (·.2)
    rcols := fun p => (groupRows (cacheOf f lk Q rp.minMarkers) p).map (·.1)
    subsets := rp.subsets, corrOf := rp.corrOf, tie := rp.tie, nAssign := rp.nAssign }

/-- the gene names of a consulted node as the files give them: both column
lists of `fileParams` name the same genes `names`, position by position — query
column `j` and reference column `j` are the gene `names[j]` —, the reference
indices increase, and as a set `names` is `specGenes` of the ORIGINAL marker
table (C08.spec) -/
structure NodeGenes (f : StatsFile) (lk : Lookup) (Q : List Gene) (rp : RunParams) (p : PKey)
    (names : List Gene) : Prop where
  query : namesAt Q ((fileParams f lk Q rp).qcols p) = .ok names
  reference : namesAt f.colNames ((fileParams f lk Q rp).rcols p) = .ok names
  qlen : ((fileParams f lk Q rp).qcols p).length = names.length
  rlen : ((fileParams f lk Q rp).rcols p).length = names.length
  sorted : ((fileParams f lk Q rp).rcols p).Pairwise (· ≤ ·)
  spec : ∀ g, g ∈ names ↔ g ∈ specGenes f.tree lk Q rp.minMarkers p
  nodup : names.Nodup
  nonempty : names ≠ []

theorem rowsFor_length (R Q : List Gene) (ps : List (Nat × Nat)) :
    ∀ gs : List Gene, RowsFor R Q ps gs → ps.length = gs.length := by
  induction ps with
  | nil => intro gs h; cases gs with | nil => rfl | cons _ _ => exact h.elim
  | cons _ ps ih =>
    intro gs h
    cases gs with
    | nil => exact h.elim
    | cons _ gs => exact congrArg Nat.succ (ih gs h.2)

/-- C08.spec, read as a statement about `fileParams` -/
theorem nodeGenes_of_cache (f : StatsFile) (lk : Lookup) (Q : List Gene) (rp : RunParams)
    (hT : TreeWF f.tree) (c : Cache) (hc : cacheOf f lk Q rp.minMarkers = .ok c) (p : PKey)
    (hp : p ∈ f.tree.allParents) (hcons : Consulted f.tree p) :
    ∃ names, NodeGenes f lk Q rp p names := by
  obtain ⟨rows, names, hrows, hfor, hsorted, _, _, hspec, hnd⟩ :=
    C08.spec f.tree hT lk f.colNames Q rp.minMarkers c hc p hp hcons
  have hg : groupRows (cacheOf f lk Q rp.minMarkers) p = rows := by
    simp [groupRows, hc, hrows]
  obtain ⟨n1, n2⟩ := rowsFor_namesAt f.colNames Q rows names hfor
  have hlen := rowsFor_length f.colNames Q rows names hfor
  -- at least one gene: the table was accepted
  have hne : names ≠ [] := fun e => by
    obtain ⟨lk', _, hval, _⟩ := createCache_ok_inv f.tree lk f.colNames Q rp.minMarkers c hc
    refine (C08.validate_ok_iff f.tree hT Q rp.minMarkers lk).1 ⟨lk', hval⟩ p hp hcons (.inr ?_)
    exact List.eq_nil_iff_forall_not_mem.2 fun g hg => by
      have := (hspec g).2 hg
      rw [e] at this
      cases this
  refine ⟨names, ?_⟩
  refine { query := ?_, reference := ?_, qlen := ?_, rlen := ?_, sorted := ?_, spec := hspec,
           nodup := hnd, nonempty := hne }
  · simp only [fileParams, hg]; exact n2
  · simp only [fileParams, hg]; exact n1
  · simp only [fileParams, hg, List.length_map]; exact hlen
  · simp only [fileParams, hg, List.length_map]; exact hlen
  · simp only [fileParams, hg]; rw [List.pairwise_map]; exact hsorted

theorem namesAt_getElem (names : List Gene) (idx : List Nat) (gs : List Gene)
    (h : namesAt names idx = .ok gs) (j : Nat) (g : Gene) (hj : gs[j]? = some g) :
    ∃ r, idx[j]? = some r ∧ names[r]? = some g := by
  rw [namesAt_eq_mapM, ListAux.mapM_orRaise_eq_ok_iff] at h
  have := congrArg (·[j]?) h
  simp only [List.getElem?_map, hj, Option.map_some] at this
  exact Option.map_eq_some_iff.1 this

theorem means_of_fileOK (f : StatsFile) (lk : Lookup) (Q : List Gene) (rp : RunParams)
    (hf : FileOK f) (leaf : Leaf) (hl : leaf ∈ leavesOf f.tree) :
    leafMeanRow f leaf = .ok ((fileParams f lk Q rp).means leaf) ∧
    ((fileParams f lk Q rp).means leaf).length = f.colNames.length := by
  obtain ⟨r, row, h1, h2, h3⟩ := hf leaf hl
  have := leafMeanRow_of_row f leaf r row h1 h2 h3
  simp only [fileParams, this]
  exact ⟨trivial, by simp [h3]⟩

/-- "by name, in reference order": entry `j` of the reference row of a leaf at a
consulted node is the mean the statistics file holds for (leaf NAME, gene NAME
`names[j]`) — `StageFiles.meanByName` -/
theorem refRow_by_name (f : StatsFile) (lk : Lookup) (Q : List Gene) (rp : RunParams)
    (hf : FileOK f) (hn : f.colNames.Nodup) (p : PKey) (names : List Gene)
    (hng : NodeGenes f lk Q rp p names) (leaf : Leaf) (hl : leaf ∈ leavesOf f.tree)
    (j : Nat) (g : Gene) (hj : names[j]? = some g) :
    (refRow (fileParams f lk Q rp) p leaf)[j]? = meanByName f leaf g ∧
    (meanByName f leaf g).isSome = true := by
  obtain ⟨hm, hlen⟩ := means_of_fileOK f lk Q rp hf leaf hl
  obtain ⟨r, hr1, hr2⟩ := namesAt_getElem _ _ _ hng.reference j g hj
  have hidx : nameToIdx f.colNames g = some r := (nameToIdx_eq_some_iff f.colNames hn g r).2 hr2
  have hrlt : r < ((fileParams f lk Q rp).means leaf).length := by
    rw [hlen]; exact (List.getElem?_eq_some_iff.1 hr2).1
  unfold refRow
  rw [pick_getElem? _ _ j r hr1]
  unfold meanByName
  rw [hm, hidx]
  simp only
  rw [List.getElem?_eq_getElem hrlt]
  simp [List.getD, hrlt]

/-- entry `j` of the query row at a consulted node is the cell's value in the
query column NAMED `names[j]` -/
theorem nodeQuery_by_name (f : StatsFile) (lk : Lookup) (Q : List Gene) (rp : RunParams)
    (hq : Q.Nodup) (p : PKey) (names : List Gene) (hng : NodeGenes f lk Q rp p names)
    (x : List Rat) (hx : x.length = Q.length) (j : Nat) (g : Gene) (hj : names[j]? = some g) :
    ∃ q, nameToIdx Q g = some q ∧ (nodeQuery (fileParams f lk Q rp) p x)[j]? = x[q]? ∧
      q < x.length := by
  obtain ⟨q, hq1, hq2⟩ := namesAt_getElem _ _ _ hng.query j g hj
  have hqlt : q < x.length := by rw [hx]; exact (List.getElem?_eq_some_iff.1 hq2).1
  refine ⟨q, (nameToIdx_eq_some_iff Q hq g q).2 hq2, ?_, hqlt⟩
  unfold nodeQuery
  rw [pick_getElem? _ _ j q hq1, List.getElem?_eq_getElem hqlt]
  simp [List.getD, hqlt]

/-- a question the level loop really puts with at least two children is about a
CONSULTED parent of `all_parents` (the marker model's notions) -/
theorem asked_consulted {t : RawTree} {p : Parent} {l : Level} {kids : List Node}
    (h : Asked t p l kids) (h2 : 2 ≤ kids.length) : p ∈ t.allParents ∧ Consulted t p := by
  obtain ⟨plo, hmem, hp, hk, _, _⟩ := h
  refine ⟨?_, ⟨kids, by simp [childrenOf, hk], h2⟩⟩
  cases plo with
  | none =>
    simp only [parentNodeList, List.mem_singleton] at hp
    subst hp
    simp [RawTree.allParents]
  | some pl =>
    obtain ⟨n, hn, rfl⟩ := (mem_parentNodeList_some t pl p).mp hp
    rw [RawTree.mem_allParents]
    refine ⟨?_, hn⟩
    rcases (mem_levelPairs_iff t (some pl) l).mp hmem with ⟨h0, _⟩ | ⟨q, a, b, hq, hs⟩
    · cases h0
    · cases hq
      rw [hs, List.dropLast_append_of_ne_nil (by simp)]
      simp [List.dropLast]

/-- the drawn subsets index into the node's gene list: what `C02`'s checked
predicate `subset_ok` says of every traced subset (in range), for every
consulted parent at least one iteration -/
def SubsetsOK (f : StatsFile) (lk : Lookup) (Q : List Gene) (rp : RunParams) : Prop :=
  ∀ p ∈ f.tree.allParents, Consulted f.tree p → ∀ (x : List Rat), rp.subsets p x ≠ [] ∧
    ∀ s ∈ rp.subsets p x, ∀ i ∈ s,
      i < (groupRows (cacheOf f lk Q rp.minMarkers) p).length

/-- `NoRaiseAll` for the file-level parameters: reference rows exist for every consulted parent
(the validated tree) and both column lists have the length of its gene list, so all that is asked
of the run is that the drawn subsets index into that list and `n_assignments ≥ 1` -/
theorem noRaiseAll_fileParams (f : StatsFile) (lk : Lookup) (Q : List Gene) (rp : RunParams)
    (hv : f.tree.validate = .ok ()) (hsub : SubsetsOK f lk Q rp) (hA : 1 ≤ rp.nAssign) :
    NoRaiseAll (fileParams f lk Q rp) f.tree := by
  intro p l kids x hask h2
  obtain ⟨hp, hc⟩ := asked_consulted hask h2
  obtain ⟨h1, h3⟩ := hsub p hp hc x
  refine ⟨h1, fun s hs i hi => ?_, rows_ne_nil_of_validate hv hask, hA⟩
  have := h3 s hs i hi
  simp only [fileParams, List.length_map]
  exact ⟨this, this⟩

/-- the reference rows of every question are leaves of the stored taxonomy (so
that they are read from the statistics file by name) -/
theorem rows_are_leaves {t : RawTree} (hv : t.validate = .ok ())
    {p : Parent} {l : Level} {kids : List Node} (h : Asked t p l kids) :
    ∀ leaf ∈ (nodeRows (kidsOf t l kids)).1, leaf ∈ leavesOf t := by
  obtain ⟨plo, hmem, _, _, _, hsub⟩ := h
  intro leaf hl
  obtain ⟨c, hc, hin⟩ := (nodeRows_mem _ leaf).1 hl
  rw [map_fst_kidsOf] at hc
  rw [leavesOfKids_kidsOf t l kids c hc] at hin
  obtain ⟨i, hi, rfl⟩ := List.mem_iff_getElem.1 (List.of_mem_zip hmem).2
  rw [leavesOf_eq t (RawTree.hierarchy_ne_nil_of_validate hv)]
  exact RawTree.asLeaves_sub_leaf (RawTree.strict_of_validate hv)
    (RawTree.hierarchy_nodup_of_validate hv) hi (hsub c hc) hin

theorem cache_of_stage (f : StatsFile) (lk : Lookup) (Q : List Gene) (m : Nat) (out : StageOut)
    (h : Markers.stage f.tree lk f.colNames Q m none false = .ok out) :
    ∃ c, cacheOf f lk Q m = .ok c :=
  ((stage_plain_ok_iff ..).1 h).imp fun _ ⟨_, hc, _⟩ => hc

/-- the query row `x` (columns = the query's gene names `Q`, in ANY order) equals,
gene NAME by gene name, the mean profile the statistics file holds for leaf `lf` -/
def SameByName (f : StatsFile) (Q : List Gene) (x : List Rat) (lf : Leaf) : Prop :=
  x.length = Q.length ∧
  ∀ (q : Nat) (g : Gene), Q[q]? = some g → g ∈ f.colNames →
    some (x.getD q 0) = meanByName f lf g

/-- then, at every consulted node, the cell's profile on the node's genes IS
the leaf's reference row (the `query` clause of `NodeGuard`) -/
theorem nodeQuery_eq_refRow (f : StatsFile) (lk : Lookup) (Q : List Gene) (rp : RunParams)
    (hf : FileOK f) (hn : f.colNames.Nodup) (p : PKey) (names : List Gene)
    (hng : NodeGenes f lk Q rp p names) (x : List Rat) (lf : Leaf) (hl : lf ∈ leavesOf f.tree)
    (hs : SameByName f Q x lf) :
    nodeQuery (fileParams f lk Q rp) p x = refRow (fileParams f lk Q rp) p lf := by
  apply List.ext_getElem?
  intro j
  by_cases hj : j < names.length
  · obtain ⟨g, hg⟩ : ∃ g, names[j]? = some g := ⟨names[j], List.getElem?_eq_getElem hj⟩
    obtain ⟨q, hq1, hq2⟩ := namesAt_getElem _ _ _ hng.query j g hg
    obtain ⟨r, _, hr2⟩ := namesAt_getElem _ _ _ hng.reference j g hg
    have hgc : g ∈ f.colNames := List.mem_of_getElem? hr2
    rw [(refRow_by_name f lk Q rp hf hn p names hng lf hl j g hg).1, ← hs.2 q g hq2 hgc]
    unfold nodeQuery
    exact pick_getElem? _ _ j q hq1
  · have h1 : (nodeQuery (fileParams f lk Q rp) p x).length = names.length := by
      rw [nodeQuery, pick_length, hng.qlen]
    have h2 : (refRow (fileParams f lk Q rp) p lf).length = names.length := by
      rw [refRow, pick_length, hng.rlen]
    rw [List.getElem?_eq_none (h1 ▸ Nat.le_of_not_lt hj), List.getElem?_eq_none (h2 ▸ Nat.le_of_not_lt hj)]

/-- the part of C18's guard that is not implied by the files: at a node, for
the cell `x` and the leaf `lf` — no raise; on every drawn subset the leaf's
profile on the node's genes is not constant and no other reference row of the
node is perfectly correlated with it; the correlation reported for `lf`'s row has
signed square 1 -/
structure SeparatedAt (P : ElectionParams) (p : Parent) (kl : List (Node × List Node))
    (x : List Rat) (lf : Node) : Prop where
  noRaise : NoRaise P p kl x
  guard : ∀ s ∈ P.subsets p x, var (Numeric.pick s (refRow P p lf)) ≠ 0 ∧
    ∀ m ∈ (nodeRows kl).1, m ≠ lf →
      corrSsq (Numeric.pick s (refRow P p m)) (Numeric.pick s (refRow P p lf)) ≠ 1
  corr : ∀ it j, (nodeRows kl).1[j]? = some lf →
    P.corrOf p x it j * |P.corrOf p x it j| = 1

/-- `SeparatedAt` at every parent with a choice that has `lf` among its rows (for every level `l`,
as in `Compose.GuardBelow`) -/
def SeparationBelow (P : ElectionParams) (t : RawTree) (x : List Rat) (lf : Node) : Prop :=
  ∀ p ∈ t.allParents, ∀ l ∈ t.hierarchy, ∀ (kids : List Node), t.children p = .ok kids →
    2 ≤ kids.length → lf ∈ (nodeRows (kidsOf t l kids)).1 →
    SeparatedAt P p (kidsOf t l kids) x lf

/-- the guard of `centroid_maps_home_validated`, from the files: equality by
gene name + separation -/
theorem guardBelow_of_files (f : StatsFile) (lk : Lookup) (Q : List Gene) (rp : RunParams)
    (hT : TreeWF f.tree) (hf : FileOK f) (hn : f.colNames.Nodup) (c : Cache)
    (hc : cacheOf f lk Q rp.minMarkers = .ok c) (x : List Rat) (lf : Leaf)
    (hl : lf ∈ leavesOf f.tree) (hs : SameByName f Q x lf)
    (hsep : SeparationBelow (fileParams f lk Q rp) f.tree x lf) :
    GuardBelow (fileParams f lk Q rp) f.tree x lf := by
  intro p hp l hlh kids hk h2 hin
  obtain ⟨h1, h3, h4⟩ := hsep p hp l hlh kids hk h2 hin
  have hcons : Consulted f.tree p := ⟨kids, by simp [childrenOf, hk], h2⟩
  obtain ⟨names, hng⟩ := nodeGenes_of_cache f lk Q rp hT c hc p hp hcons
  exact ⟨h1, nodeQuery_eq_refRow f lk Q rp hf hn p names hng x lf hl hs, h3, h4⟩

end CTM.EndToEnd
