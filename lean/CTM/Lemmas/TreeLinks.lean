import CTM.Lemmas.Tree

/-!
  The data-release CSV route (`fromLinks`, `CTM/Model/Tree.lean`) never builds a silently smaller tree: if
  `fromLinks h rows = .ok t` then every row of the hierarchy is a link of `t` at the level the row names,
  which is the adjacent one (`fromLinks_rows_present`), and `t` has no link that comes from no row
  (`fromLinks_links_from_rows`).

  "`c` is listed under `p` at level `pl`" has three readings: `HasLink` on a bare list of levels (through
  `lookup`), `col` of `TreeRecords` on the same list, `IsChild` on a tree; `hasLink_iff_col` goes from the
  first to the second, and `col t.levels` is `t.level` by definition.
-/

namespace CTM.RawTree

/-! ### `HasLink` and the dict updates -/

/-- `c ∈ acc[pl][p]` on a bare list of levels (first entry for `pl`, as `dict` lookup) -/
def HasLink (acc : List (Level × LevelMap)) (pl : Level) (p c : Node) : Prop :=
  ∃ m cs, acc.lookup pl = some m ∧ (p, cs) ∈ m ∧ c ∈ cs

theorem hasLink_nil (pl : Level) (p c : Node) : ¬ HasLink [] pl p c := by
  rintro ⟨m, cs, h, _⟩
  simp [List.lookup] at h

theorem hasLink_iff_col {acc : List (Level × LevelMap)} {pl : Level} {p c : Node} :
    HasLink acc pl p c ↔ ∃ cs, (p, cs) ∈ col acc pl ∧ c ∈ cs := by
  unfold HasLink col
  cases acc.lookup pl with
  | none => exact ⟨fun ⟨_, _, h, _⟩ => (nomatch h), fun ⟨_, h, _⟩ => (nomatch h)⟩
  | some m =>
    constructor
    · rintro ⟨_, cs, ⟨⟩, h⟩
      exact ⟨cs, h⟩
    · rintro ⟨cs, h⟩
      exact ⟨m, cs, rfl, h⟩

theorem col_addLink (acc : List (Level × LevelMap)) (pl : Level) (p c : Node) (k : Level) :
    col (addLink acc pl p c) k = if k = pl then dictAdd (col acc pl) p c true else col acc k := by
  unfold addLink col
  cases hl : acc.lookup pl with
  | none =>
    rw [List.lookup_append]
    by_cases hk : k = pl
    · subst hk; rw [hl, if_pos rfl, List.lookup_cons, beq_self_eq_true]; rfl
    · rw [if_neg hk, List.lookup_cons, beq_false_of_ne hk]
      exact congrArg (Option.getD · []) (Option.or_none (o := acc.lookup k))
  | some m =>
    rw [lookup_setLevel]
    by_cases hk : k = pl
    · subst hk; rw [hl, if_pos rfl, if_pos rfl]; rfl
    · rw [if_neg hk, if_neg hk]

theorem hasLink_addLink {acc : List (Level × LevelMap)} {pl : Level} {p c : Node}
    {pl' : Level} {p' c' : Node} :
    HasLink (addLink acc pl p c) pl' p' c' ↔
      HasLink acc pl' p' c' ∨ (pl' = pl ∧ p' = p ∧ c' = c) := by
  rw [hasLink_iff_col, hasLink_iff_col, col_addLink]
  by_cases hk : pl' = pl
  · subst hk
    rw [if_pos rfl, mem_val_dictAdd]
    simp only [true_and]
  · rw [if_neg hk]
    simp only [hk, false_and, or_false]

/-- The sorting map is written with projections: up to eta the one with pair patterns in
`treeAboveLeaves`, and in the form `ListAux.lookup_map_snd` rewrites. -/
theorem hasLink_sorted {acc : List (Level × LevelMap)} {pl : Level} {p c : Node} :
    HasLink (acc.map fun lm => (lm.1, lm.2.map fun kv => (kv.1, sortNat kv.2))) pl p c ↔
      HasLink acc pl p c := by
  rw [hasLink_iff_col, hasLink_iff_col]
  unfold col
  rw [ListAux.lookup_map_snd (fun m : LevelMap => m.map fun kv => (kv.1, sortNat kv.2))]
  cases acc.lookup pl with
  | none => exact Iff.rfl
  | some m =>
    constructor
    · rintro ⟨_, h1, h2⟩
      obtain ⟨⟨n, cs⟩, h3, h4⟩ := List.mem_map.1 h1
      cases h4
      exact ⟨cs, h3, mem_sortNat.1 h2⟩
    · rintro ⟨cs, h1, h2⟩
      exact ⟨_, List.mem_map.2 ⟨_, h1, rfl⟩, mem_sortNat.2 h2⟩

/-! ### the loop of `treeAboveLeaves` -/

/-- one turn of the loop of `treeAboveLeaves`, the test of the parent level apart -/
def addRow (h : List Level) (acc : List (Level × LevelMap)) (r : LinkRow) :
    List (Level × LevelMap) :=
  match levelAbove h r.level with
  | none => acc
  | some pl => addLink acc pl r.parent r.label

theorem hasLink_addRow {h : List Level} {acc : List (Level × LevelMap)} {r : LinkRow}
    {pl : Level} {p c : Node} :
    HasLink (addRow h acc r) pl p c ↔
      HasLink acc pl p c ∨ (levelAbove h r.level = some pl ∧ r.parent = p ∧ r.label = c) := by
  unfold addRow
  cases levelAbove h r.level with
  | none => exact (or_iff_left fun h => nomatch h.1).symm
  | some pl0 =>
    rw [hasLink_addLink, Option.some.injEq]
    exact or_congr_right ⟨fun ⟨e1, e2, e3⟩ => ⟨e1.symm, e2.symm, e3.symm⟩,
      fun ⟨e1, e2, e3⟩ => ⟨e1.symm, e2.symm, e3.symm⟩⟩

theorem hasLink_foldl_addRow {h : List Level} {rows : List LinkRow}
    {acc : List (Level × LevelMap)} {pl : Level} {p c : Node} :
    HasLink (rows.foldl (addRow h) acc) pl p c ↔ HasLink acc pl p c ∨
      ∃ r ∈ rows, levelAbove h r.level = some pl ∧ r.parent = p ∧ r.label = c := by
  induction rows generalizing acc with
  | nil => exact (or_iff_left fun ⟨_, h, _⟩ => nomatch h).symm
  | cons r rs ih =>
    rw [List.foldl_cons, ih, hasLink_addRow, or_assoc]
    simp only [List.mem_cons, or_and_right, exists_or, exists_eq_left]

/-- the loop of `treeAboveLeaves` in closed form: it fails on a row whose parent level is not the
level above, and folds `addRow` over the rows otherwise -/
theorem treeAboveLeaves_eq_ok_iff {h : List Level} {rows : List LinkRow}
    {acc res : List (Level × LevelMap)} :
    treeAboveLeaves h rows acc = .ok res ↔
      (∀ r ∈ rows, ∀ pl, levelAbove h r.level = some pl → r.parentLevel = pl) ∧
        res = (rows.foldl (addRow h) acc).map fun lm =>
          (lm.1, lm.2.map fun kv => (kv.1, sortNat kv.2)) := by
  induction rows generalizing acc with
  | nil =>
    rw [treeAboveLeaves, Except.ok.injEq, eq_comm]
    exact (and_iff_right nofun).symm
  | cons r rs ih =>
    rw [treeAboveLeaves, List.forall_mem_cons, List.foldl_cons, addRow]
    cases levelAbove h r.level with
    | none => exact ih.trans (and_congr_left' (and_iff_right nofun).symm)
    | some pl0 =>
      dsimp only
      by_cases hb : r.parentLevel = pl0
      · rw [if_neg fun hne => bne_iff_ne.1 hne hb]
        exact ih.trans
          (and_congr_left' (and_iff_right fun pl e => hb.trans (Option.some.inj e)).symm)
      · rw [if_pos (bne_iff_ne.2 hb)]
        exact ⟨nofun, fun hok => absurd (hok.1.1 pl0 rfl) hb⟩

theorem treeAboveLeaves_parentLevel {h : List Level} {rows : List LinkRow}
    {acc res : List (Level × LevelMap)} (ht : treeAboveLeaves h rows acc = .ok res) :
    ∀ r ∈ rows, ∀ pl, levelAbove h r.level = some pl → r.parentLevel = pl :=
  (treeAboveLeaves_eq_ok_iff.1 ht).1

theorem treeAboveLeaves_hasLink {h : List Level} {rows : List LinkRow}
    {acc res : List (Level × LevelMap)} (ht : treeAboveLeaves h rows acc = .ok res)
    (pl : Level) (p c : Node) :
    HasLink res pl p c ↔ HasLink acc pl p c ∨
      ∃ r ∈ rows, levelAbove h r.level = some pl ∧ r.parent = p ∧ r.label = c := by
  rw [(treeAboveLeaves_eq_ok_iff.1 ht).2, hasLink_sorted, hasLink_foldl_addRow]

theorem treeAboveLeaves_keeps {h : List Level} {rows : List LinkRow}
    {acc res : List (Level × LevelMap)} (ht : treeAboveLeaves h rows acc = .ok res) :
    ∀ pl p c, (∃ m cs, acc.lookup pl = some m ∧ (p, cs) ∈ m ∧ c ∈ cs) →
      ∃ m cs, res.lookup pl = some m ∧ (p, cs) ∈ m ∧ c ∈ cs :=
  fun pl p c hc => (treeAboveLeaves_hasLink ht pl p c).2 (Or.inl hc)

/-! ### `levelAbove` -/

theorem mem_levelPairs_of_levelAbove {h : List Level} {l pl : Level} (ha : levelAbove h l = some pl) :
    (pl, l) ∈ levelPairs h := by
  unfold levelAbove at ha
  cases hf : (levelPairs h).reverse.find? (fun p => p.2 == l) with
  | none => simp [hf] at ha
  | some x =>
    simp only [hf, Option.map_some, Option.some.injEq] at ha
    have h1 := List.find?_some hf
    have h2 := List.mem_reverse.1 (List.mem_of_find?_eq_some hf)
    have h3 : x.2 = l := by simpa using h1
    obtain ⟨a, b⟩ := x
    simp only at ha h3
    subst ha; subst h3
    exact h2

/-- with distinct level names, `child_to_parent[l]` is the level directly above `l` -/
theorem levelAbove_eq_some_iff {h : List Level} (hn : h.Nodup) {l pl : Level} :
    levelAbove h l = some pl ↔ (pl, l) ∈ levelPairs h := by
  refine ⟨mem_levelPairs_of_levelAbove, fun hm => ?_⟩
  cases ha : levelAbove h l with
  | none =>
    unfold levelAbove at ha
    simp only [Option.map_eq_none_iff, List.find?_eq_none] at ha
    have := ha (pl, l) (List.mem_reverse.2 hm)
    simp at this
  | some pl' =>
    rw [levelPairs_snd_unique hn (mem_levelPairs_of_levelAbove ha) hm]

/-! ### `fromLinks` -/

theorem pickLevels_eq (rough : List (Level × LevelMap)) (ps : List (Level × Level)) :
    pickLevels rough ps =
      if ∀ a ∈ ps, (rough.lookup a.1).isSome then .ok (ps.map fun a => (a.1, col rough a.1))
      else .error .missingLevel := by
  refine (ListAux.loop_eq_mapM (pickLevels rough) rfl (fun a as => ?_) ps).trans
    (ListAux.mapM_eq_ite (fun _ => rfl) ps)
  rw [pickLevels]
  unfold col
  cases rough.lookup a.1 <;> cases pickLevels rough as <;> rfl

theorem fromLinksRaw_shape {h : List Level} {rows : List LinkRow} {t : RawTree}
    (hr : fromLinksRaw h rows = .ok t) :
    ∃ rough leaf lm, treeAboveLeaves h rows [] = .ok rough ∧ t.hierarchy = h ∧
      t.levels = ((levelPairs h).map fun a => (a.1, col rough a.1)) ++ [(leaf, lm)] := by
  unfold fromLinksRaw at hr
  split at hr
  · cases hr
  · rename_i rough h1
    split at hr
    · cases hr
    · rename_i above h2
      rw [pickLevels_eq, ListAux.ite_eq_ok_iff] at h2
      rw [h2.2] at hr
      split at hr
      · cases hr
        exact ⟨rough, _, _, h1, rfl, rfl⟩
      · cases hr

theorem fromLinks_ok_inv {h : List Level} {rows : List LinkRow} {t : RawTree}
    (ht : fromLinks h rows = .ok t) :
    t.validate = .ok () ∧ t.hierarchy = h ∧ fromLinksRaw h rows = .ok t := by
  obtain ⟨hr, hv⟩ := fromLinks_eq_ok_iff.1 ht
  obtain ⟨_, _, _, _, hh, _⟩ := fromLinksRaw_shape hr
  exact ⟨hv, hh, hr⟩

theorem fromLinksRaw_isChild {h : List Level} {rows : List LinkRow} {t : RawTree}
    (hn : h.Nodup) (hr : fromLinksRaw h rows = .ok t) {pl cl : Level}
    (hm : (pl, cl) ∈ levelPairs h) (p c : Node) :
    IsChild t pl p c ↔
      ∃ r ∈ rows, levelAbove h r.level = some pl ∧ r.parent = p ∧ r.label = c := by
  obtain ⟨rough, leaf, lm, h1, _, h3⟩ := fromLinksRaw_shape hr
  have h2 : t.levels.lookup pl = some (col rough pl) := by
    rw [h3, List.lookup_append, ListAux.lookup_of_mem_nodup (v := col rough pl)
      (by rw [List.map_map]; exact levelPairs_fst_nodup hn) (List.mem_map.2 ⟨_, hm, rfl⟩)]
    rfl
  rw [IsChild, level, h2, Option.getD_some, ← hasLink_iff_col, treeAboveLeaves_hasLink h1]
  exact or_iff_right (hasLink_nil pl p c)

theorem fromLinks_rows_present {h : List Level} {rows : List LinkRow} {t : RawTree}
    (ht : fromLinks h rows = .ok t) :
    ∀ r ∈ rows, ∀ pl, (pl, r.level) ∈ levelPairs h →
      r.parentLevel = pl ∧ IsChild t pl r.parent r.label := by
  intro r hr pl hm
  obtain ⟨hv, hh, hraw⟩ := fromLinks_ok_inv ht
  have hn : h.Nodup := hh ▸ hierarchy_nodup_of_validate hv
  have ha := (levelAbove_eq_some_iff hn).2 hm
  obtain ⟨rough, _, _, h1, _⟩ := fromLinksRaw_shape hraw
  exact ⟨treeAboveLeaves_parentLevel h1 r hr pl ha,
    (fromLinksRaw_isChild hn hraw hm _ _).2 ⟨r, hr, ha, rfl, rfl⟩⟩

theorem fromLinks_links_from_rows {h : List Level} {rows : List LinkRow} {t : RawTree}
    (ht : fromLinks h rows = .ok t) :
    ∀ pl cl, (pl, cl) ∈ levelPairs h → ∀ p c, IsChild t pl p c →
      ∃ r ∈ rows, r.label = c ∧ r.level = cl ∧ r.parent = p ∧ r.parentLevel = pl := by
  intro pl cl hm p c hc
  obtain ⟨hv, hh, hraw⟩ := fromLinks_ok_inv ht
  have hn : h.Nodup := hh ▸ hierarchy_nodup_of_validate hv
  obtain ⟨rough, _, _, h1, _⟩ := fromLinksRaw_shape hraw
  obtain ⟨r, hr, e1, e2, e3⟩ := (fromLinksRaw_isChild hn hraw hm p c).1 hc
  exact ⟨r, hr, e3, levelPairs_fst_unique hn (mem_levelPairs_of_levelAbove e1) hm, e2,
    treeAboveLeaves_parentLevel h1 r hr pl e1⟩

end CTM.RawTree
