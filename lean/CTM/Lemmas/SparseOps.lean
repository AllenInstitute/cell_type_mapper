/-
  The major slices of a compressed matrix (`segOf`) and the dense matrix it stands for (`toDense`).
  From `SparseConcat` on, a matrix is known through the list of its slices (`ofSegs`), not through
  `rowSpec`: slices are what the copy loops move, and `toDense_eq_map` reads the dense matrix off
  them alone.  `toDense_getD` and `slice_toDense` are the readings by `rowSpec`; `transposeDense` is
  an involution on rectangular matrices.
-/
import CTM.Lemmas.Sparse

namespace CTM.Sparse
open CTM.Chunking

/-- the stored pairs of major slice `o` -/
def segOf {α} (M : Mat α) (o : Nat) : List Nat × List α :=
  (slice M.indices (ptr M.indptr o) (ptr M.indptr (o + 1)),
   slice M.data (ptr M.indptr o) (ptr M.indptr (o + 1)))

theorem segOf_lengths {α} (M : Mat α) (nMajor : Nat) (w : WFptr M.indptr nMajor M.indices.length)
    (hlen : M.data.length = M.indices.length) (o : Nat) (ho : o < nMajor) :
    (segOf M o).1.length = ptr M.indptr (o + 1) - ptr M.indptr o ∧
    (segOf M o).2.length = ptr M.indptr (o + 1) - ptr M.indptr o := by
  have h1 : ptr M.indptr (o + 1) ≤ M.indices.length := w.le_nnz ho
  unfold segOf
  exact ⟨slice_length_le _ h1, slice_length_le _ (by omega)⟩

/-! ### `toDense`, `transposeDense` -/

/-- a matrix whose major slices are `segs` denotes the rows scattered from `segs` -/
theorem toDense_eq_map {α} (zero : α) (P : Mat α) (nMinor : Nat) (segs : List (List Nat × List α))
    (h : ∀ i (hi : i < segs.length), segOf P i = segs[i]) :
    toDense zero P segs.length nMinor = segs.map fun s => scatter zero nMinor s.1 s.2 := by
  apply List.ext_getElem
  · simp [toDense]
  · intro i h1 h2
    have hi : i < segs.length := by simpa using h2
    simp only [toDense, List.getElem_map, List.getElem_range, ← h i hi]
    rfl

theorem toDense_length {α} (zero : α) (M : Mat α) (nMajor nMinor : Nat) :
    (toDense zero M nMajor nMinor).length = nMajor := by simp [toDense]

theorem toDense_rows_length {α} (zero : α) (M : Mat α) (nMajor nMinor : Nat) :
    ∀ row ∈ toDense zero M nMajor nMinor, row.length = nMinor := by
  intro row hrow
  unfold toDense at hrow
  rw [List.mem_map] at hrow
  obtain ⟨i, _, rfl⟩ := hrow
  exact scatter_length zero nMinor _ _

theorem toDense_getD {α} (zero : α) (M : Mat α) (nRows nCols : Nat) {r : Nat} (hr : r < nRows) :
    (toDense zero M nRows nCols).getD r [] = rowSpec zero M nCols r := by
  simp [toDense, List.getD_eq_getElem?_getD, hr]

theorem slice_toDense {α} (zero : α) (M : Mat α) (nRows nCols : Nat) {r0 r1 : Nat}
    (h1 : r1 ≤ nRows) :
    slice (toDense zero M nRows nCols) r0 r1 = (rangeOf (r0, r1)).map (rowSpec zero M nCols) := by
  rw [toDense, slice_map, slice_range h1]

theorem transposeDense_involutive {α} (zero : α) (D : Dense α) (n m : Nat)
    (hn : D.length = n) (hrows : ∀ row ∈ D, row.length = m) :
    transposeDense zero (transposeDense zero D m) n = D := by
  unfold transposeDense
  apply List.ext_getElem
  · simp [hn]
  · intro i h1 h2
    have hi : i < n := by simpa using h1
    simp only [List.getElem_map, List.getElem_range, List.map_map]
    apply List.ext_getElem
    · simp [hrows D[i] (List.getElem_mem h2)]
    · intro j h3 h4
      have hj : j < m := by simpa using h3
      simp only [List.getElem_map, List.getElem_range, Function.comp]
      have : (List.map (fun row => row.getD j zero) D).getD i zero = D[i].getD j zero := by
        simp [List.getD_eq_getElem?_getD, h2]
      rw [this]
      simp [List.getD_eq_getElem?_getD, h4]

end CTM.Sparse
