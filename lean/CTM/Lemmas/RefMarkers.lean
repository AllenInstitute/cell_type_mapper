/-
  Lemmas about the reference-marker model (`CTM/Model/RefMarkers.lean`).

  Each model function that can fail is described once, by an equation or an iff that says both what
  a successful call returns and when it fails: `penetranceDistance_eq_ok`, `approxPenetranceTest_eq`,
  `penetranceTests_eq_ok`, `scoreCoreWith_eq`, `getValidityMask_eq` (the mask route only composes:
  `workerRow_lookup`, `maskRouteWith_ok`).  Each of these hides behind an existential (`∃ bad`, `∃ T`,
  `∃ allowed`) the one quantity that soundness and completeness must not depend on.  Soundness and
  completeness of `score_differential_genes` and of the p-value-mask route, and what the `no_error`
  theorems of C11 need (`*_total`), are read off these.  Then: direction, swap symmetry, the merge of
  the tables of any division of the pairs into runs, the workers' chunk test, the pair list.
-/
import Mathlib.Tactic.Linarith
import Mathlib.Tactic.Ring
import Mathlib.Algebra.Order.Field.Rat
import CTM.Model.RefMarkers
import CTM.Lemmas.Holm

namespace CTM.RefMarkers
open CTM.Holm

/-! ### the criteria -/

/-- every strict threshold lies above its floor: the hypothesis under which C11 is stated, and what
`penetrance_parameter_distance` insists on -/
def ThresholdsOK (t : Thresholds) : Prop :=
  t.q1Min < t.q1Th ∧ t.qdiffMin < t.qdiffTh ∧ t.foldMin < t.foldTh

/-- a gene outside the gene list (scores `-1, 0, -1`) violates some floor -/
def FloorsExclude (t : Thresholds) : Prop :=
  -1 < t.q1Min ∨ 0 < t.qdiffMin ∨ -1 < t.foldMin

def AboveFloors (t : Thresholds) (s : GeneScore) : Prop :=
  t.q1Min ≤ s.q1 ∧ t.qdiffMin ≤ s.qdiff ∧ t.foldMin ≤ s.fold

def Strict (t : Thresholds) (s : GeneScore) : Prop :=
  t.q1Th < s.q1 ∧ t.qdiffTh < s.qdiff ∧ t.foldTh < s.fold

theorem checkThresholds_ok {t : Thresholds} : checkThresholds t = .ok () ↔ ThresholdsOK t := by
  unfold checkThresholds ThresholdsOK
  split_ifs with h1 h2 h3
  · exact ⟨nofun, fun h => absurd h.1 (not_lt.mpr h1)⟩
  · exact ⟨nofun, fun h => absurd h.2.1 (not_lt.mpr h2)⟩
  · exact ⟨nofun, fun h => absurd h.2.2 (not_lt.mpr h3)⟩
  · exact ⟨fun _ => ⟨not_le.mp h1, not_le.mp h2, not_le.mp h3⟩, fun _ => rfl⟩

theorem checkThresholds_cases (t : Thresholds) :
    checkThresholds t = .ok () ∨ ∃ e, checkThresholds t = .error e := by
  cases checkThresholds t with
  | ok u => exact .inl rfl
  | error e => exact .inr ⟨e, rfl⟩

theorem isInvalid_false_iff {t : Thresholds} {s : GeneScore} :
    isInvalid t s = false ↔ AboveFloors t s := by
  unfold isInvalid AboveFloors
  simp only [Bool.or_eq_false_iff, decide_eq_false_iff_not, not_lt]

theorem strictPass_iff {t : Thresholds} {s : GeneScore} : strictPass t s = true ↔ Strict t s := by
  simp only [strictPass, Strict, Bool.and_eq_true, decide_eq_true_eq, gt_iff_lt]
  exact ⟨fun ⟨a, b, c⟩ => ⟨b, c, a⟩, fun ⟨b, c, a⟩ => ⟨a, b, c⟩⟩

theorem strict_aboveFloors {t : Thresholds} {s : GeneScore} (ht : ThresholdsOK t)
    (h : Strict t s) : AboveFloors t s :=
  ⟨(ht.1.trans h.1).le, (ht.2.1.trans h.2.1).le, (ht.2.2.trans h.2.2).le⟩

theorem excludedScore_eq : excludedScore = { q1 := -1, qdiff := 0, fold := -1 } := by
  unfold excludedScore qScore
  simp

theorem excluded_invalid {t : Thresholds} (h : FloorsExclude t) : isInvalid t excludedScore = true := by
  rw [excludedScore_eq]
  unfold isInvalid
  simp only [Bool.or_eq_true, decide_eq_true_eq]
  exact h

/-! ### `penetrance_parameter_distance` -/

theorem term_nonneg (x th : Rat) : 0 ≤ term x th := by
  unfold term; split
  · exact le_refl _
  · exact mul_self_nonneg _

theorem term_zero_of_gt {x th : Rat} (h : th < x) : term x th = 0 := if_pos h

theorem raw_nonneg (t : Thresholds) (s : GeneScore) :
    0 ≤ rawQ1Dist t s ∧ 0 ≤ rawQdiffDist t s ∧ 0 ≤ rawFoldDist t s := by
  have a : 0 ≤ q1Term t s := term_nonneg _ _
  have b : 0 ≤ qdiffTerm t s := term_nonneg _ _
  have c : 0 ≤ foldTerm t s := term_nonneg _ _
  have h : (0 : Rat) ≤ 3 / 2 := by norm_num
  exact ⟨add_nonneg (add_nonneg b (mul_nonneg h a)) c, add_nonneg (add_nonneg (mul_nonneg h b) a) c,
    add_nonneg (add_nonneg b a) (mul_nonneg h c)⟩

theorem geneDist_invalid (t : Thresholds) (bad : Rat) (s : GeneScore) :
    (geneDist t bad s).invalid = isInvalid t s := by rfl

theorem geneDist_distSq (t : Thresholds) (bad : Rat) (s : GeneScore) :
    (geneDist t bad s).distSq = distSq t s := rfl

theorem geneDist_nonneg (t : Thresholds) {bad : Rat} (hb : 0 ≤ bad) (s : GeneScore) :
    0 ≤ (geneDist t bad s).q1 ∧ 0 ≤ (geneDist t bad s).qdiff ∧ 0 ≤ (geneDist t bad s).fold := by
  obtain ⟨a, b, c⟩ := raw_nonneg t s
  unfold geneDist
  cases isInvalid t s
  · exact ⟨a, b, c⟩
  · exact ⟨hb, hb, hb⟩

/-- the distances of a gene that is at distance 0 from the strict thresholds and violates no floor -/
def zeroDist : GeneDist := { distSq := 0, q1 := 0, qdiff := 0, fold := 0, wgt := 0, invalid := false }

theorem geneDist_strict (t : Thresholds) (bad : Rat) {s : GeneScore} (ht : ThresholdsOK t)
    (h : Strict t s) : geneDist t bad s = zeroDist := by
  have hinv : isInvalid t s = false := isInvalid_false_iff.mpr (strict_aboveFloors ht h)
  have e1 : q1Term t s = 0 := term_zero_of_gt h.1
  have e2 : qdiffTerm t s = 0 := term_zero_of_gt h.2.1
  have e3 : foldTerm t s = 0 := term_zero_of_gt h.2.2
  simp [geneDist, zeroDist, distSq, rawQ1Dist, rawQdiffDist, rawFoldDist, hinv, e1, e2, e3]

theorem le_foldl_max (x : Rat) (xs : List Rat) : x ≤ xs.foldl max x := by
  induction xs generalizing x with
  | nil => exact le_refl _
  | cons y ys ih => exact le_trans (le_max_left x y) (ih (max x y))

theorem listMax_nonneg {l : List Rat} {m : Rat} (h0 : ∀ x ∈ l, 0 ≤ x) (h : listMax l = some m) :
    0 ≤ m := by
  cases l with
  | nil => cases h
  | cons x xs =>
    cases h
    exact le_trans (h0 x (List.mem_cons_self ..)) (le_foldl_max x xs)

theorem listMax_some {l : List Rat} (h : l ≠ []) : ∃ m, listMax l = some m := by
  cases l with
  | nil => exact absurd rfl h
  | cons x xs => exact ⟨_, rfl⟩

theorem badDist_nonneg {t : Thresholds} {g : List GeneScore} {bad : Rat}
    (h : badDist t g = some bad) : 0 ≤ bad := by
  unfold badDist at h
  split at h
  · rename_i a b c ha _ _
    cases h
    have : 0 ≤ a := listMax_nonneg (by
      intro x hx
      obtain ⟨s, _, rfl⟩ := List.mem_map.mp hx
      exact (raw_nonneg t s).2.1) ha
    exact add_nonneg (this.trans (le_max_left _ _)) (by norm_num)
  · cases h

theorem badDist_some (t : Thresholds) {g : List GeneScore} (hg : g ≠ []) :
    ∃ bad, badDist t g = some bad := by
  cases g with
  | nil => exact absurd rfl hg
  | cons s ss => exact ⟨_, rfl⟩

/-- `penetrance_parameter_distance` succeeds exactly when the thresholds are above their floors and
there is a gene (`.max()` of a non-empty array); of `bad_dist` only `0 ≤ bad` is used -/
theorem penetranceDistance_eq_ok (t : Thresholds) (g : List GeneScore) :
    ∃ bad, 0 ≤ bad ∧ ∀ d, penetranceDistance t g = .ok d ↔
      ThresholdsOK t ∧ g ≠ [] ∧ d = g.map (geneDist t bad) := by
  unfold penetranceDistance
  rw [← checkThresholds_ok]
  cases g with
  | nil => exact ⟨0, le_refl 0, fun d => by cases checkThresholds t <;> simp [badDist, listMax]⟩
  | cons s ss =>
    obtain ⟨bad, hbad⟩ := badDist_some t (List.cons_ne_nil s ss)
    refine ⟨bad, badDist_nonneg hbad, fun d => ?_⟩
    rw [hbad]
    cases checkThresholds t <;> simp [eq_comm]

/-! ### `approx_penetrance_test` -/

theorem kth_mem {l : List Rat} {k : Nat} {c : Rat} (h : kth l k = some c) : c ∈ l :=
  (List.mergeSort_perm l _).mem_iff.mp (List.mem_of_getElem? h)

theorem kth_some {l : List Rat} {k : Nat} (h : k < l.length) : ∃ c, kth l k = some c :=
  ⟨_, List.getElem?_eq_getElem (by rw [List.length_mergeSort]; exact h)⟩

/-- `approx_penetrance_test` is `penetrance_parameter_distance` followed, in both branches, by one test
on every gene: it violates no floor and its distances pass a test `T` which a gene at distance 0
passes.  It raises nothing of its own: `n_valid` is clipped to the number of genes -/
theorem approxPenetranceTest_eq (t : Thresholds) (nValid : Nat) (g : List GeneScore) :
    ∃ T : GeneDist → Bool, T zeroDist = true ∧ approxPenetranceTest t nValid g =
      (penetranceDistance t g).map (List.map fun x => T x && !x.invalid) := by
  rw [approxPenetranceTest]
  cases hd : penetranceDistance t g with
  | error e => exact ⟨fun _ => true, rfl, rfl⟩
  | ok d =>
    obtain ⟨bad, hb, e⟩ := penetranceDistance_eq_ok t g
    obtain ⟨_, hg, rfl⟩ := (e d).mp hd
    have hg : 0 < g.length := List.length_pos_iff.mpr hg
    simp only
    split
    · exact ⟨fun x => decide (x.distSq < absEps), by decide +kernel, rfl⟩
    · -- the cut-off exists, and is one of the distances, hence `≥ 0`
      have hk : ∀ f : GeneDist → Rat, (∀ s, 0 ≤ f (geneDist t bad s)) →
          ∃ c, kth ((g.map (geneDist t bad)).map f) (min nValid g.length - 1) = some c ∧ 0 ≤ c := by
        intro f hf
        obtain ⟨c, hc⟩ := kth_some (l := (g.map (geneDist t bad)).map f)
          (k := min nValid g.length - 1) (by rw [List.length_map, List.length_map]; omega)
        obtain ⟨x, hx, rfl⟩ := List.mem_map.mp (kth_mem hc)
        obtain ⟨s, _, rfl⟩ := List.mem_map.mp hx
        exact ⟨_, hc, hf s⟩
      obtain ⟨c1, h1, p1⟩ := hk (·.q1) fun s => (geneDist_nonneg t hb s).1
      obtain ⟨c2, h2, p2⟩ := hk (·.qdiff) fun s => (geneDist_nonneg t hb s).2.1
      obtain ⟨c3, h3, p3⟩ := hk (·.fold) fun s => (geneDist_nonneg t hb s).2.2
      rw [h1, h2, h3]
      have hc : 0 ≤ min3 c1 c2 c3 := le_min p1 (le_min p2 p3)
      exact ⟨fun x => decide (x.qdiff ≤ min3 c1 c2 c3) || decide (x.q1 ≤ min3 c1 c2 c3)
        || decide (x.fold ≤ min3 c1 c2 c3), by simp [zeroDist, hc], rfl⟩

/-! ### gene masks, `penetrance_tests` -/

theorem andL_getElem?_true {a b : List Bool} {i : Nat} :
    (andL a b)[i]? = some true ↔ a[i]? = some true ∧ b[i]? = some true := by
  unfold andL
  rw [List.getElem?_zipWith]
  cases a[i]? <;> cases b[i]? <;> simp

theorem length_andL (a b : List Bool) : (andL a b).length = min a.length b.length :=
  List.length_zipWith

theorem allowedAt_true {gi : Option (List Nat)} {i : Nat} :
    allowedAt gi i = true ↔ ∀ idx, gi = some idx → i ∈ idx := by
  cases gi <;> simp [allowedAt]

theorem allowedMask_getElem? (n : Nat) (gi : Option (List Nat)) (i : Nat) :
    (allowedMask n gi)[i]? = if i < n then some (allowedAt gi i) else none := by
  cases gi with
  | none => simp only [allowedMask, allowedAt, List.getElem?_replicate]
  | some idx =>
    simp only [allowedMask, allowedAt, List.getElem?_map]
    split
    · rename_i h; rw [List.getElem?_range h]; rfl
    · rename_i h; rw [List.getElem?_eq_none (by simpa using h)]; rfl

theorem allowedMask_true {n : Nat} {gi : Option (List Nat)} {i : Nat} :
    (allowedMask n gi)[i]? = some true ↔ i < n ∧ ∀ idx, gi = some idx → i ∈ idx := by
  rw [allowedMask_getElem?, ← allowedAt_true]
  split <;> simp [*]

theorem length_allowedMask (n : Nat) (gi : Option (List Nat)) : (allowedMask n gi).length = n := by
  cases gi <;> simp [allowedMask]

theorem maskScores_getElem? {allowed : List Bool} {g : List GeneScore} {i : Nat} {s' : GeneScore} :
    (maskScores allowed g)[i]? = some s' ↔
      ∃ a s, allowed[i]? = some a ∧ g[i]? = some s ∧ (if a then s else excludedScore) = s' :=
  List.getElem?_zipWith_eq_some

theorem maskScores_eq_nil {allowed : List Bool} {g : List GeneScore} :
    maskScores allowed g = [] ↔ allowed = [] ∨ g = [] := List.zipWith_eq_nil_iff

/-- `penetrance_tests` applies one test `T` to every gene, between the strict criteria and the floors
(the strict criteria themselves in exact mode); only the approximate test can fail, exactly when
`penetrance_parameter_distance` does -/
theorem penetranceTests_eq_ok (t : Thresholds) (exact : Bool) (nValid : Nat) (g : List GeneScore) :
    ∃ T : GeneScore → Bool, (∀ s, Strict t s → T s = true) ∧
      (∀ s, T s = true → (ThresholdsOK t → AboveFloors t s) ∧ (exact = true → Strict t s)) ∧
      ∀ m, penetranceTests t exact nValid g = .ok m ↔
        (exact = false → ThresholdsOK t ∧ g ≠ []) ∧ m = g.map T := by
  have hS : ∀ s, strictPass t s = true →
      (ThresholdsOK t → AboveFloors t s) ∧ (exact = true → Strict t s) := fun s h =>
    ⟨fun ht => strict_aboveFloors ht (strictPass_iff.mp h), fun _ => strictPass_iff.mp h⟩
  unfold penetranceTests
  cases exact with
  | true =>
    exact ⟨strictPass t, fun s => strictPass_iff.mpr, hS, fun m =>
      ⟨fun h => ⟨nofun, (Except.ok.inj h).symm⟩, fun h => h.2 ▸ rfl⟩⟩
  | false =>
    obtain ⟨T', hT', e⟩ := approxPenetranceTest_eq t nValid g
    obtain ⟨bad, _, hd⟩ := penetranceDistance_eq_ok t g
    rw [if_neg Bool.false_ne_true, e]
    by_cases hok : ThresholdsOK t ∧ g ≠ []
    · refine ⟨fun s => T' (geneDist t bad s) && !isInvalid t s, fun s hs => ?_, fun s hs => ?_,
        fun m => ?_⟩
      · show (T' (geneDist t bad s) && !isInvalid t s) = true
        rw [geneDist_strict t bad hok.1 hs, hT',
          isInvalid_false_iff.mpr (strict_aboveFloors hok.1 hs)]
        rfl
      · have hs : (T' (geneDist t bad s) && !isInvalid t s) = true := hs
        rw [Bool.and_eq_true, Bool.not_eq_true'] at hs
        exact ⟨fun _ => isInvalid_false_iff.mp hs.2, nofun⟩
      · rw [(hd _).mpr ⟨hok.1, hok.2, rfl⟩]
        exact ⟨fun h => ⟨fun _ => hok, by rw [← Except.ok.inj h, List.map_map]; rfl⟩,
          fun h => by rw [h.2, Except.map, List.map_map]; rfl⟩
    · -- the distance computation fails; any test between the two criteria will do
      refine ⟨strictPass t, fun s => strictPass_iff.mpr, hS, fun m =>
        ⟨fun h => ?_, fun h => absurd (h.1 rfl) hok⟩⟩
      obtain ⟨d, hd', _⟩ := ListAux.exceptMap_eq_ok_iff.mp h
      obtain ⟨ht, hg, _⟩ := (hd d).mp hd'
      exact absurd ⟨ht, hg⟩ hok

theorem penetranceFromStats_eq (t : Thresholds) (exact : Bool) (nValid : Nat) (allowed : List Bool)
    (g : List GeneScore) : penetranceFromStats t exact nValid allowed g =
      penetranceTests t exact nValid (maskScores allowed g) := rfl

/-! ### `score_differential_genes` -/

/-- the p-value mask used by `score_differential_genes` -/
def pValidMask (pOrder : List Nat) (praw : List Rat) (pTh : Rat) : List Bool :=
  (approxCorrectTtestWith pOrder praw pTh).map (fun p => decide (p < pTh))

theorem pValidMask_getElem? {o : List Nat} {praw : List Rat} {pTh : Rat} {i : Nat} {p : Rat}
    (h : (approxCorrectTtestWith o praw pTh)[i]? = some p) :
    (pValidMask o praw pTh)[i]? = some (decide (p < pTh)) := by
  unfold pValidMask
  rw [List.getElem?_map, h]; rfl

theorem replicate_false_ne_true {n i : Nat} : (List.replicate n false)[i]? ≠ some true := by
  rw [List.getElem?_replicate]
  split <;> simp

/-- `score_differential_genes`: nothing valid when a cluster is too small; otherwise `up_mask`, and as
validity the p-value mask ∧ one penetrance test, run with the gene mask `valid_gene_idx` or, after the
relaxation pass, `valid_gene_idx ∧ p-mask`.  Which of the two does not depend on the cluster sizes and
means -/
theorem scoreCoreWith_eq (o : List Nat) (c : Config) (praw : List Rat) (g : List GeneScore) :
    ∃ allowed, (allowed = allowedMask g.length c.geneIdx ∨
        allowed = andL (allowedMask g.length c.geneIdx) (pValidMask o praw c.th.pTh)) ∧
      ∀ n1 n2 m1 m2, scoreCoreWith o c n1 n2 praw g m1 m2 =
        if n1 < c.nCellsMin ∨ n2 < c.nCellsMin then
          .ok { valid := List.replicate g.length false, up := List.replicate g.length false }
        else (penetranceFromStats c.th c.exact c.nValid allowed g).map fun pen =>
          { valid := andL (pValidMask o praw c.th.pTh) pen, up := upMask m1 m2 } := by
  unfold pValidMask
  cases h1 : penetranceFromStats c.th c.exact c.nValid (allowedMask g.length c.geneIdx) g with
  | error e =>
    refine ⟨_, .inl rfl, fun n1 n2 m1 m2 => ?_⟩
    simp only [scoreCoreWith, h1]
    rfl
  | ok pen1 =>
    by_cases hc : (andL ((approxCorrectTtestWith o praw c.th.pTh).map fun p => decide (p < c.th.pTh))
      pen1).count true ≥ c.nValidMin ∨ c.exact
    · refine ⟨_, .inl rfl, fun n1 n2 m1 m2 => ?_⟩
      simp only [scoreCoreWith, h1, if_pos hc]
      rfl
    · refine ⟨_, .inr rfl, fun n1 n2 m1 m2 => ?_⟩
      simp only [scoreCoreWith, h1, if_neg hc]
      split
      · rfl
      · cases penetranceFromStats c.th c.exact c.nValid _ g <;> rfl

theorem scoreCoreWith_large {o : List Nat} {c : Config} {n1 n2 : Nat} {praw : List Rat}
    {g : List GeneScore} {m1 m2 : List Rat} {out : Out}
    (h : scoreCoreWith o c n1 n2 praw g m1 m2 = .ok out) {i : Nat}
    (hi : out.valid[i]? = some true) : c.nCellsMin ≤ n1 ∧ c.nCellsMin ≤ n2 := by
  obtain ⟨_, _, e⟩ := scoreCoreWith_eq o c praw g
  by_contra hn
  rw [e, if_pos ((not_and_or.mp hn).imp Nat.lt_of_not_le Nat.lt_of_not_le)] at h
  cases h
  exact replicate_false_ne_true hi

/-- what `score_differential_genes` returns for two large enough clusters, with the gene mask `allowed`
of its penetrance test only bounded: between `valid_gene_idx ∧ p-mask` and `valid_gene_idx` -/
theorem scoreCoreWith_ok {o : List Nat} {c : Config} {n1 n2 : Nat} {praw : List Rat}
    {g : List GeneScore} {m1 m2 : List Rat} {out : Out}
    (h : scoreCoreWith o c n1 n2 praw g m1 m2 = .ok out)
    (hn1 : c.nCellsMin ≤ n1) (hn2 : c.nCellsMin ≤ n2) :
    out.up = upMask m1 m2 ∧
      ∃ allowed pen : List Bool, penetranceFromStats c.th c.exact c.nValid allowed g = .ok pen ∧
        out.valid = andL (pValidMask o praw c.th.pTh) pen ∧
        ∀ i : Nat, (allowed[i]? = some true → (allowedMask g.length c.geneIdx)[i]? = some true) ∧
          ((allowedMask g.length c.geneIdx)[i]? = some true →
            (pValidMask o praw c.th.pTh)[i]? = some true → allowed[i]? = some true) := by
  obtain ⟨allowed, hal, e⟩ := scoreCoreWith_eq o c praw g
  rw [e, if_neg (not_or.mpr ⟨Nat.not_lt.mpr hn1, Nat.not_lt.mpr hn2⟩)] at h
  obtain ⟨pen, hpen, rfl⟩ := ListAux.exceptMap_eq_ok_iff.mp h
  refine ⟨rfl, allowed, pen, hpen, rfl, fun i => ?_⟩
  rcases hal with rfl | rfl
  · exact ⟨id, fun ha _ => ha⟩
  · exact ⟨fun ha => (andL_getElem?_true.mp ha).1, fun ha hp => andL_getElem?_true.mpr ⟨ha, hp⟩⟩

theorem scoreCoreWith_sound {o : List Nat} {c : Config} {n1 n2 : Nat} {praw : List Rat}
    {g : List GeneScore} {m1 m2 : List Rat} {out : Out}
    (h : scoreCoreWith o c n1 n2 praw g m1 m2 = .ok out)
    (ht : ThresholdsOK c.th) (hx : FloorsExclude c.th) {i : Nat} (hi : out.valid[i]? = some true) :
    c.nCellsMin ≤ n1 ∧ c.nCellsMin ≤ n2 ∧
    (pValidMask o praw c.th.pTh)[i]? = some true ∧
    (∀ idx, c.geneIdx = some idx → i ∈ idx) ∧
    ∃ s, g[i]? = some s ∧ AboveFloors c.th s ∧ (c.exact = true → Strict c.th s) := by
  obtain ⟨hn1, hn2⟩ := scoreCoreWith_large h hi
  obtain ⟨_, allowed, pen, hpen, hv, hal⟩ := scoreCoreWith_ok h hn1 hn2
  obtain ⟨T, _, hT, e⟩ := penetranceTests_eq_ok c.th c.exact c.nValid (maskScores allowed g)
  obtain ⟨_, rfl⟩ := (e pen).mp hpen
  rw [hv] at hi
  obtain ⟨hpv, hpi⟩ := andL_getElem?_true.mp hi
  rw [List.getElem?_map] at hpi
  obtain ⟨s', hs', hTs⟩ := Option.map_eq_some_iff.mp hpi
  obtain ⟨a, s, ha, hg, rfl⟩ := maskScores_getElem?.mp hs'
  obtain ⟨hf, hst⟩ := hT _ hTs
  cases a with
  | true => exact ⟨hn1, hn2, hpv, (allowedMask_true.mp ((hal i).1 ha)).2, s, hg, hf ht, hst⟩
  | false =>
    -- a gene outside the mask carries `excludedScore`, which violates a floor
    exact (Bool.eq_false_iff.mp (isInvalid_false_iff.mpr (hf ht : AboveFloors c.th excludedScore))
      (excluded_invalid hx)).elim

theorem scoreCoreWith_complete {o : List Nat} {c : Config} {n1 n2 : Nat} {praw : List Rat}
    {g : List GeneScore} {m1 m2 : List Rat} {out : Out}
    (h : scoreCoreWith o c n1 n2 praw g m1 m2 = .ok out)
    (hn1 : c.nCellsMin ≤ n1) (hn2 : c.nCellsMin ≤ n2) {i : Nat} {s : GeneScore}
    (hg : g[i]? = some s) (hst : Strict c.th s)
    (hal : ∀ idx, c.geneIdx = some idx → i ∈ idx)
    (hp : (pValidMask o praw c.th.pTh)[i]? = some true) :
    out.valid[i]? = some true := by
  obtain ⟨_, allowed, pen, hpen, hv, hbetween⟩ := scoreCoreWith_ok h hn1 hn2
  obtain ⟨T, hT, _, e⟩ := penetranceTests_eq_ok c.th c.exact c.nValid (maskScores allowed g)
  obtain ⟨_, rfl⟩ := (e pen).mp hpen
  have ha := (hbetween i).2 (allowedMask_true.mpr ⟨(List.getElem?_eq_some_iff.mp hg).1, hal⟩) hp
  have hs : (maskScores allowed g)[i]? = some s := maskScores_getElem?.mpr ⟨true, s, ha, hg, rfl⟩
  rw [hv]
  exact andL_getElem?_true.mpr ⟨hp, by rw [List.getElem?_map, hs, Option.map_some, hT s hst]⟩

theorem scoreCoreWith_total (o : List Nat) (c : Config) (n1 n2 : Nat) {praw : List Rat}
    {g : List GeneScore} (m1 m2 : List Rat) (ht : ThresholdsOK c.th) (hg : g ≠ [])
    (hp : praw.length = g.length) : ∃ out, scoreCoreWith o c n1 n2 praw g m1 m2 = .ok out := by
  obtain ⟨allowed, hal, e⟩ := scoreCoreWith_eq o c praw g
  obtain ⟨T, _, _, eT⟩ := penetranceTests_eq_ok c.th c.exact c.nValid (maskScores allowed g)
  -- either gene mask has one entry per gene
  have hlen : allowed.length = g.length := by
    rcases hal with rfl | rfl
    · exact length_allowedMask ..
    · rw [length_andL, length_allowedMask, pValidMask, List.length_map, length_approxCorrectTtestWith, hp,
        Nat.min_self]
  have hne : maskScores allowed g ≠ [] := fun h0 => (maskScores_eq_nil.mp h0).elim
    (fun ha => hg (List.length_eq_zero_iff.mp (hlen ▸ congrArg List.length ha))) hg
  rw [e, penetranceFromStats_eq, (eT _).mpr ⟨fun _ => ⟨ht, hne⟩, rfl⟩]
  split <;> exact ⟨_, rfl⟩

/-! ### the p-value-mask route: `_p_values_worker`, `_get_validity_mask` -/

/-- what `_p_values_worker` stores: nothing for a pair with a 1-cell cluster; otherwise gene `i` is
in the row iff its corrected p is below the threshold and it violates no floor, and then with the
stored form of its weighted distance -/
theorem workerRow_lookup {o : List Nat} {r16 : Rat → Rat} {t : Thresholds} {n1 n2 : Nat}
    {praw : List Rat} {g : List GeneScore} {row : List (Nat × Rat)}
    (h : pValuesWorkerRowWith o r16 t n1 n2 praw g = .ok row) :
    (row = [] ∧ (n1 < 2 ∨ n2 < 2)) ∨
    (2 ≤ n1 ∧ 2 ≤ n2 ∧ ThresholdsOK t ∧ ∃ bad, ∀ i w, row.lookup i = some w ↔
      ∃ p s, (approxCorrectTtestWith o praw t.pTh)[i]? = some p ∧ p < t.pTh ∧ g[i]? = some s ∧
        isInvalid t s = false ∧ w = maskWgt r16 (geneDist t bad s).wgt) := by
  rw [pValuesWorkerRowWith] at h
  split at h
  · rename_i hn
    cases h
    exact .inl ⟨rfl, hn⟩
  · rename_i hn
    obtain ⟨h1, h2⟩ := not_or.mp hn
    refine .inr ⟨Nat.le_of_not_lt h1, Nat.le_of_not_lt h2, ?_⟩
    split at h
    · cases h
    · rename_i d hd
      obtain ⟨bad, _, e⟩ := penetranceDistance_eq_ok t g
      obtain ⟨ht, _, rfl⟩ := (e d).mp hd
      cases h
      refine ⟨ht, bad, fun i w => ?_⟩
      rw [ListAux.lookup_filterMap]
      · constructor
        · intro hw
          split at hw
          · split at hw
            · rename_i p x hp hx
              rw [List.getElem?_map] at hx
              obtain ⟨s, hs, rfl⟩ := Option.map_eq_some_iff.mp hx
              split at hw
              · rename_i hc
                cases hw
                rw [Bool.and_eq_true, decide_eq_true_eq, Bool.not_eq_true'] at hc
                exact ⟨p, s, hp, hc.1, hs, hc.2, rfl⟩
              · cases hw
            · cases hw
          · cases hw
        · rintro ⟨p, s, hp, hlt, hs, hinv, rfl⟩
          have hi : i ∈ List.range (g.map (geneDist t bad)).length := by
            rw [List.length_map]; exact List.mem_range.mpr (List.getElem?_eq_some_iff.mp hs).1
          rw [if_pos hi, hp, List.getElem?_map, hs]
          show Option.map Prod.snd
            (if (decide (p < t.pTh) && !isInvalid t s) = true then _ else none) = _
          rw [if_pos (by rw [decide_eq_true hlt, hinv]; rfl)]
          rfl
      · intro j k w hj
        split at hj
        · split at hj
          · cases hj; rfl
          · cases hj
        · cases hj

theorem maskWgt_zero {r16 : Rat → Rat} (h16 : r16 (-1) = -1) : maskWgt r16 0 = -1 := by
  unfold maskWgt f16Max eps16
  norm_num [h16, Rat.abs]

theorem maskDist0_nonneg (row : List (Nat × Rat)) (i : Nat) : 0 ≤ maskDist0 row i := by
  unfold maskDist0
  simp only
  split
  · exact le_refl _
  · rename_i hneg; exact not_lt.mp hneg

theorem maskDist_excluded {row : List (Nat × Rat)} {gi : Option (List Nat)} {bad : Rat}
    (hb : 1 ≤ bad) {i : Nat} (h : ((row.lookup i).isSome && allowedAt gi i) = false) :
    ¬ maskDist row gi bad i < maskEps ∧ bad ≤ maskDist row gi bad i := by
  have e : maskDist row gi bad i = 3 / 2 * bad := by unfold maskDist; rw [h]; rfl
  have hle : bad ≤ 3 / 2 * bad := le_mul_of_one_le_left (zero_le_one.trans hb) (by norm_num)
  rw [e, maskEps]
  exact ⟨not_lt.mpr (le_trans (by norm_num) (hb.trans hle)), hle⟩

/-- `_get_validity_mask` fails only without genes (`n_valid = min(n_valid, n_genes)`); otherwise, in both branches, a gene is recorded iff it is in the mask row and either
"absolutely valid" or passes a test `B` that only genes strictly below `bad` pass -/
theorem getValidityMask_eq (nValid nGenes : Nat) (row : List (Nat × Rat)) (gi : Option (List Nat)) :
    ∃ (bad : Rat) (B : Nat → Bool), 1 ≤ bad ∧ (∀ i, B i = true → maskDist row gi bad i < bad) ∧
      getValidityMask nValid nGenes row gi = if nGenes = 0 then .error .emptyMax else
        .ok ((List.range nGenes).map fun i => (row.lookup i).isSome &&
          (B i || decide (maskDist row gi bad i < maskEps))) := by
  by_cases hn : nGenes = 0
  · subst hn
    exact ⟨1, fun _ => false, le_refl 1, nofun, rfl⟩
  · obtain ⟨good, hgood⟩ := listMax_some (l := (List.range nGenes).map (maskDist0 row))
      (by rwa [Ne, List.map_eq_nil_iff, List.range_eq_nil])
    have hg0 : 0 ≤ good := listMax_nonneg (by
      intro x hx
      obtain ⟨j, _, rfl⟩ := List.mem_map.mp hx
      exact maskDist0_nonneg row j) hgood
    have hb : (1 : Rat) ≤ 2 * (good + 1) :=
      one_le_two.trans (le_mul_of_one_le_right zero_le_two (le_add_of_nonneg_left hg0))
    refine ⟨2 * (good + 1), ?_⟩
    rw [getValidityMask]
    simp only [if_neg hn, hgood]
    split
    · obtain ⟨c, hc⟩ := kth_some (l := (List.range nGenes).map (maskDist row gi (2 * (good + 1))))
        (k := min nValid nGenes - 1) (by rw [List.length_map, List.length_range]; omega)
      rw [hc]
      refine ⟨fun i => decide (maskDist row gi (2 * (good + 1)) i ≤ c) &&
        !decide (maskDist row gi (2 * (good + 1)) i ≥ 2 * (good + 1)), hb, fun i hB => ?_, rfl⟩
      simp only [Bool.and_eq_true, Bool.not_eq_true', decide_eq_false_iff_not, ge_iff_le,
        not_le] at hB
      exact hB.2
    · exact ⟨fun _ => false, hb, nofun, by simp only [Bool.false_or]⟩

theorem getValidityMask_sound {nValid nGenes : Nat} {row : List (Nat × Rat)}
    {geneIdx : Option (List Nat)} {v : List Bool}
    (h : getValidityMask nValid nGenes row geneIdx = .ok v) {i : Nat} (hi : v[i]? = some true) :
    i < nGenes ∧ (row.lookup i).isSome = true ∧ ∀ idx, geneIdx = some idx → i ∈ idx := by
  obtain ⟨bad, B, hb, hB, e⟩ := getValidityMask_eq nValid nGenes row geneIdx
  rw [e] at h
  split at h <;> cases h
  have hilt : i < nGenes := by simpa using (List.getElem?_eq_some_iff.mp hi).1
  rw [List.getElem?_map, List.getElem?_range hilt] at hi
  simp only [Option.map_some, Option.some.injEq, Bool.and_eq_true, Bool.or_eq_true,
    decide_eq_true_eq] at hi
  refine ⟨hilt, hi.1, allowedAt_true.mp ?_⟩
  -- a gene outside the list sits at `1.5 * bad`, which fails both disjuncts
  by_contra hne
  obtain ⟨e1, e2⟩ := maskDist_excluded (row := row) (gi := geneIdx) (i := i) hb
    (by rw [Bool.not_eq_true _ |>.mp hne, Bool.and_false])
  rcases hi.2 with hb2 | hb2
  · exact absurd (hB i hb2) (not_lt.mpr e2)
  · exact e1 hb2

theorem getValidityMask_complete {nValid nGenes : Nat} {row : List (Nat × Rat)}
    {geneIdx : Option (List Nat)} {v : List Bool}
    (h : getValidityMask nValid nGenes row geneIdx = .ok v) {i : Nat} (hilt : i < nGenes)
    (hrow : row.lookup i = some (-1)) (hal : ∀ idx, geneIdx = some idx → i ∈ idx) :
    v[i]? = some true := by
  obtain ⟨bad, B, _, _, e⟩ := getValidityMask_eq nValid nGenes row geneIdx
  rw [e, if_neg (Nat.ne_zero_of_lt hilt)] at h
  cases h
  have hd : maskDist row geneIdx bad i < maskEps := by
    unfold maskDist maskDist0 maskEps
    simp only [hrow, Option.isSome_some, allowedAt_true.mpr hal, Bool.and_self, if_true,
      Option.getD_some]
    norm_num
  simp only [List.getElem?_map, List.getElem?_range hilt, Option.map_some, hrow,
    Option.isSome_some, hd, decide_true, Bool.or_true, Bool.and_self]

theorem maskRouteWith_ok {o : List Nat} {r16 : Rat → Rat} {t : Thresholds} {nValid : Nat}
    {gi : Option (List Nat)} {n1 n2 : Nat} {praw : List Rat} {g : List GeneScore}
    {m1 m2 : List Rat} {out : Out}
    (h : maskRouteWith o r16 t nValid gi n1 n2 praw g m1 m2 = .ok out) :
    ∃ row, pValuesWorkerRowWith o r16 t n1 n2 praw g = .ok row ∧
      getValidityMask nValid g.length row gi = .ok out.valid ∧ out.up = upMask m1 m2 := by
  unfold maskRouteWith at h
  split at h
  · cases h
  · rename_i row hrow
    split at h
    · cases h
    · rename_i v hv
      cases h
      exact ⟨row, hrow, hv, rfl⟩

theorem maskRouteWith_sound {o : List Nat} {r16 : Rat → Rat} {t : Thresholds} {nValid : Nat}
    {gi : Option (List Nat)} {n1 n2 : Nat} {praw : List Rat} {g : List GeneScore}
    {m1 m2 : List Rat} {out : Out}
    (h : maskRouteWith o r16 t nValid gi n1 n2 praw g m1 m2 = .ok out) {i : Nat}
    (hi : out.valid[i]? = some true) :
    2 ≤ n1 ∧ 2 ≤ n2 ∧
    (pValidMask o praw t.pTh)[i]? = some true ∧ (∀ idx, gi = some idx → i ∈ idx) ∧
      ∃ s, g[i]? = some s ∧ AboveFloors t s := by
  obtain ⟨row, hrow, hv, _⟩ := maskRouteWith_ok h
  obtain ⟨_, hsome, hlist⟩ := getValidityMask_sound hv hi
  obtain ⟨w, hw⟩ := Option.isSome_iff_exists.mp hsome
  rcases workerRow_lookup hrow with ⟨hnil, _⟩ | ⟨hn1, hn2, _, bad, hlk⟩
  · rw [hnil] at hw; cases hw
  · obtain ⟨p, s, hp, hlt, hs, hinv, _⟩ := (hlk i w).mp hw
    exact ⟨hn1, hn2, by rw [pValidMask_getElem? hp, decide_eq_true hlt], hlist, s, hs,
      isInvalid_false_iff.mp hinv⟩

/-- a strict gene has weighted distance 0, which is stored as -1 (`h16`: float16 holds -1 exactly) -/
theorem maskRouteWith_complete {o : List Nat} {r16 : Rat → Rat} {t : Thresholds} {nValid : Nat}
    {gi : Option (List Nat)} {n1 n2 : Nat} {praw : List Rat} {g : List GeneScore}
    {m1 m2 : List Rat} {out : Out}
    (h16 : r16 (-1) = -1)
    (h : maskRouteWith o r16 t nValid gi n1 n2 praw g m1 m2 = .ok out)
    (hn1 : 2 ≤ n1) (hn2 : 2 ≤ n2) {i : Nat} {s : GeneScore}
    (hg : g[i]? = some s) (hst : Strict t s) (hal : ∀ idx, gi = some idx → i ∈ idx)
    (hp : (pValidMask o praw t.pTh)[i]? = some true) :
    out.valid[i]? = some true := by
  obtain ⟨row, hrow, hv, _⟩ := maskRouteWith_ok h
  rcases workerRow_lookup hrow with ⟨_, hsmall⟩ | ⟨_, _, ht, bad, hlk⟩
  · exact (hsmall.elim (Nat.not_lt.mpr hn1) (Nat.not_lt.mpr hn2)).elim
  · apply getValidityMask_complete hv (List.getElem?_eq_some_iff.mp hg).1 _ hal
    unfold pValidMask at hp
    simp only [List.getElem?_map, Option.map_eq_some_iff, decide_eq_true_eq] at hp
    obtain ⟨p, hp1, hp2⟩ := hp
    refine (hlk i (-1)).mpr ⟨p, s, hp1, hp2, hg,
      isInvalid_false_iff.mpr (strict_aboveFloors ht hst), ?_⟩
    rw [geneDist_strict t bad ht hst, zeroDist, maskWgt_zero h16]

theorem maskRouteWith_total (o : List Nat) (r16 : Rat → Rat) {t : Thresholds} (nValid : Nat)
    (gi : Option (List Nat)) (n1 n2 : Nat) (praw : List Rat) {g : List GeneScore}
    (m1 m2 : List Rat) (ht : ThresholdsOK t) (hg : g ≠ []) :
    ∃ out, maskRouteWith o r16 t nValid gi n1 n2 praw g m1 m2 = .ok out := by
  obtain ⟨bad, _, e⟩ := penetranceDistance_eq_ok t g
  have hd := (e _).mpr ⟨ht, hg, rfl⟩
  obtain ⟨row, hrow⟩ : ∃ row, pValuesWorkerRowWith o r16 t n1 n2 praw g = .ok row := by
    unfold pValuesWorkerRowWith
    split
    · exact ⟨_, rfl⟩
    · simp only [hd]; exact ⟨_, rfl⟩
  obtain ⟨_, _, _, _, hv⟩ := getValidityMask_eq nValid g.length row gi
  rw [if_neg (mt List.length_eq_zero_iff.mp hg)] at hv
  unfold maskRouteWith
  rw [hrow]
  simp only [hv]
  exact ⟨_, rfl⟩

/-! ### direction -/

theorem upMask_getElem? {m1 m2 : List Rat} {i : Nat} {a b : Rat}
    (h1 : m1[i]? = some a) (h2 : m2[i]? = some b) :
    (upMask m1 m2)[i]? = some (decide (b > a)) := by
  unfold upMask
  rw [List.getElem?_zipWith, h1, h2]

theorem whereTrue_mem {m : List Bool} {i : Nat} : i ∈ whereTrue m ↔ m[i]? = some true := by
  unfold whereTrue
  simp only [List.mem_filter, List.mem_range, List.getD_eq_getElem?_getD]
  constructor
  · rintro ⟨hlt, h⟩
    rw [List.getElem?_eq_getElem hlt] at h ⊢
    simpa using h
  · intro h
    exact ⟨(List.getElem?_eq_some_iff.mp h).1, by rw [h]; rfl⟩

theorem whereTrue_sorted (m : List Bool) : (whereTrue m).Pairwise (· < ·) :=
  List.Pairwise.filter _ List.pairwise_lt_range

theorem whereTrue_lt (m : List Bool) : ∀ g ∈ whereTrue m, g < m.length :=
  fun _ hg => (List.getElem?_eq_some_iff.mp (whereTrue_mem.mp hg)).1

theorem mem_upDown (o : Out) (i : Nat) :
    (i ∈ (upDown o).1 ↔ o.valid[i]? = some true ∧ o.up[i]? = some true) ∧
    (i ∈ (upDown o).2 ↔ o.valid[i]? = some true ∧ o.up[i]? = some false) := by
  unfold upDown
  simp only [whereTrue_mem, andL_getElem?_true, List.getElem?_map, Option.map_eq_some_iff,
    Bool.not_eq_true', exists_eq_right, and_self]

theorem upDown_disjoint (o : Out) (i : Nat) : ¬ (i ∈ (upDown o).1 ∧ i ∈ (upDown o).2) := by
  rw [(mem_upDown o i).1, (mem_upDown o i).2]
  rintro ⟨⟨_, h1⟩, _, h2⟩
  rw [h1] at h2
  cases h2

theorem upDown_cover (o : Out) (i : Nat) (hv : o.valid[i]? = some true) (b : Bool)
    (hu : o.up[i]? = some b) :
    (i ∈ (upDown o).1 ↔ b = true) ∧ (i ∈ (upDown o).2 ↔ b = false) := by
  rw [(mem_upDown o i).1, (mem_upDown o i).2, hv, hu]
  simp

theorem upDown_valid (o : Out) (i : Nat) (h : i ∈ (upDown o).1 ∨ i ∈ (upDown o).2) :
    o.valid[i]? = some true := by
  rw [(mem_upDown o i).1, (mem_upDown o i).2] at h
  rcases h with h | h <;> exact h.1

/-! ### swapping the two clusters -/

theorem qScore_comm (p1 p2 : Rat) : qScore p1 p2 = qScore p2 p1 := by
  unfold qScore
  simp only [Rat.abs_sub_comm (x := p1)]
  rcases lt_trichotomy p1 p2 with h | h | h
  · simp [h, not_lt.mpr (le_of_lt h)]
  · subst h; rfl
  · simp [h, not_lt.mpr (le_of_lt h)]

theorem log2Fold_comm (a b : Rat) : log2Fold a b = log2Fold b a := Rat.abs_sub_comm

theorem zipWith4_swap {α β γ} (f : α → α → β → β → γ) (hf : ∀ a b c d, f a b c d = f b a d c)
    (as bs : List α) (cs ds : List β) : zipWith4 f as bs cs ds = zipWith4 f bs as ds cs := by
  fun_induction zipWith4 f as bs cs ds with
  | case1 a as b bs c cs d ds ih => rw [zipWith4, hf, ih]
  | case2 as bs cs ds h =>
    -- some list is empty, so the swapped call also falls through to `[]`
    unfold zipWith4
    split
    · exact (h _ _ _ _ _ _ _ _ rfl rfl rfl rfl).elim
    · rfl

theorem geneScores_swap (s : PairStats) : geneScores s.swap = geneScores s := by
  unfold geneScores PairStats.swap
  apply zipWith4_swap
  intro a b c d
  rw [qScore_comm a b, log2Fold_comm c d]

theorem nuNum_comm (v1 : Rat) (n1 : Nat) (v2 : Rat) (n2 : Nat) :
    nuNum v1 n1 v2 n2 = nuNum v2 n2 v1 n1 := add_comm _ _

theorem scoreCoreWith_swap_valid (o : List Nat) (c : Config) (n1 n2 : Nat) (praw : List Rat)
    (g : List GeneScore) (m1 m2 : List Rat) :
    (scoreCoreWith o c n2 n1 praw g m2 m1).map (·.valid)
      = (scoreCoreWith o c n1 n2 praw g m1 m2).map (·.valid) := by
  obtain ⟨allowed, _, e⟩ := scoreCoreWith_eq o c praw g
  rw [e, e]
  by_cases hn : n1 < c.nCellsMin ∨ n2 < c.nCellsMin
  · rw [if_pos hn, if_pos hn.symm]
  · rw [if_neg hn, if_neg fun h => hn h.symm]
    cases penetranceFromStats c.th c.exact c.nValid allowed g <;> rfl

/-! ### tables: the merge of any division of the rows into runs -/

theorem indptrFrom_append (off : Nat) (a b : List (List Nat)) :
    indptrFrom off (a ++ b) = indptrFrom off a ++ indptrFrom (off + a.flatten.length) b := by
  induction a generalizing off with
  | nil => simp [indptrFrom]
  | cons r rs ih =>
    simp only [List.cons_append, indptrFrom, ih, List.flatten_cons, List.length_append]
    rw [Nat.add_assoc]

theorem indptrFrom_shift (k off : Nat) (a : List (List Nat)) :
    (indptrFrom k a).map (· + off) = indptrFrom (k + off) a := by
  induction a generalizing k with
  | nil => rfl
  | cons r rs ih => rw [indptrFrom, List.map_cons, ih, indptrFrom, Nat.add_right_comm]

theorem indptrFrom_eq (off : Nat) (rows : List (List Nat)) :
    indptrFrom off rows
      = (List.range rows.length).map (fun k => off + ((rows.take k).map List.length).sum) := by
  induction rows generalizing off with
  | nil => rfl
  | cons r rs ih =>
    rw [indptrFrom, ih, List.length_cons, List.range_succ_eq_map, List.map_cons, List.map_map]
    congr 1
    apply List.map_congr_left
    intro k _
    rw [Function.comp, List.take_succ_cons, List.map_cons, List.sum_cons, Nat.add_assoc]

theorem mergeGo_lookup (off : Nat) (cs : List (List (List Nat))) :
    mergeGo off (cs.map lookupToSparse) = (indptrFrom off cs.flatten, cs.flatten.flatten) := by
  induction cs generalizing off with
  | nil => rfl
  | cons c cs ih =>
    simp only [List.map_cons, lookupToSparse, mergeGo, ih, List.dropLast_concat,
      indptrFrom_shift, Nat.zero_add, List.flatten_cons, indptrFrom_append, List.flatten_append]

theorem chunksOf_flatten {α} (n : Nat) (l : List α) : (chunksOf n l).flatten = l := by
  fun_induction chunksOf n l with
  | case1 => rfl
  | case2 l _ hl => simp
  | case3 l h ih => rw [List.flatten_cons, ih, List.take_append_drop]

theorem chunksOf_map {α β} (f : α → β) (n : Nat) (l : List α) :
    (chunksOf n l).map (List.map f) = chunksOf n (l.map f) := by
  fun_induction chunksOf n l with
  | case1 => simp [chunksOf]
  | case2 l h hl =>
    rw [chunksOf.eq_1 n (l.map f), dif_pos (by simpa using h), if_neg (by simpa using hl)]; rfl
  | case3 l h ih =>
    rw [chunksOf.eq_1 n (l.map f), dif_neg (by simpa using h), List.map_cons, ih, List.map_take,
      List.map_drop]

/-- however the rows are divided into consecutive runs, the merge of the per-run tables is the table
built in one piece -/
theorem mergeSparse_parts (parts : List (List (List Nat))) :
    mergeSparse (parts.map lookupToSparse) = lookupToSparse parts.flatten := by
  unfold mergeSparse
  rw [mergeGo_lookup]
  rfl

theorem mergeSparse_parts_map {α} (row : α → List Nat) (parts : List (List α)) :
    mergeSparse (parts.map fun ch => lookupToSparse (ch.map row))
      = lookupToSparse (parts.flatten.map row) := by
  have := mergeSparse_parts (parts.map (List.map row))
  rwa [List.map_map, ← List.map_flatten] at this

theorem mergeSparse_chunks_map {α} (row : α → List Nat) (nPer : Nat) (pairs : List α) :
    mergeSparse ((chunksOf nPer pairs).map (fun ch => lookupToSparse (ch.map row)))
      = lookupToSparse (pairs.map row) := by
  rw [mergeSparse_parts_map, chunksOf_flatten]

/-! ### the workers' chunk test -/

theorem diffs_range' (a k : Nat) :
    List.zipWith (fun (x y : Nat) => (y : Int) - (x : Int)) (List.range' a (k + 1))
      (List.range' (a + 1) k) = List.replicate k 1 := by
  induction k generalizing a with
  | zero => simp
  | succ k ih =>
    rw [List.range'_succ (s := a) (n := k + 1)]
    conv_lhs => arg 3; rw [List.range'_succ (s := a + 1) (n := k)]
    simp only [List.zipWith_cons_cons, List.replicate_succ]
    rw [ih (a + 1)]
    congr 1
    push_cast; ring

theorem eraseDups_replicate_one (k : Nat) : (List.replicate (k + 1) (1 : Int)).eraseDups = [1] := by
  induction k with
  | zero => simp [List.eraseDups_cons]
  | succ n ih =>
    rw [List.replicate_succ, List.eraseDups_cons]
    rw [List.replicate_succ, List.eraseDups_cons] at ih
    have hf : ∀ m : Nat, (List.replicate m (1 : Int)).filter (fun b => !b == 1) = [] := by
      intro m
      apply List.filter_eq_nil_iff.mpr
      intro x hx
      simp [(List.mem_replicate.mp hx).2]
    rw [hf] at ih ⊢
    exact ih

/-- any run of consecutive pair indices passes the workers' test; a single index does because the
test is `len(idx_values) > 1 and …` -/
theorem consecutive_ok (a k : Nat) : consecutiveCheck (List.range' a k) = .ok () := by
  unfold consecutiveCheck
  simp only [List.length_range']
  split
  · rename_i hk
    obtain ⟨k', rfl⟩ : ∃ k', k = k' + 2 := ⟨k - 2, by omega⟩
    have ht : (List.range' a (k' + 2)).tail = List.range' (a + 1) (k' + 1) := by
      rw [List.range'_succ]; rfl
    rw [ht, diffs_range' a (k' + 1), eraseDups_replicate_one]
    simp
  · rfl

/-! ### pairs per worker, the pair list -/

theorem nPerMain_spec (nPairs nProc : Nat) : nPerMain nPairs nProc % 8 = 0 ∧ 8 ≤ nPerMain nPairs nProc := by
  unfold nPerMain
  simp only
  omega

theorem length_combos2_aux {α} (l : List α) :
    (combos2 l).length * 2 + l.length = l.length * l.length := by
  induction l with
  | nil => rfl
  | cons a rest ih =>
    rw [combos2, List.length_append, List.length_map, List.length_cons, Nat.add_one_mul,
      Nat.mul_add_one rest.length]
    omega

theorem length_combos2 {α} (l : List α) : (combos2 l).length = l.length * (l.length - 1) / 2 := by
  rw [Nat.mul_sub_one, ← length_combos2_aux l, Nat.add_sub_cancel, Nat.mul_div_cancel _ Nat.two_pos]

theorem combos2_sorted {l : List Nat} (hs : l.Pairwise (· < ·)) :
    (combos2 l).Nodup ∧ ∀ a b, (a, b) ∈ combos2 l ↔ a ∈ l ∧ b ∈ l ∧ a < b := by
  induction l with
  | nil => simp [combos2]
  | cons x rest ih =>
    have hs' := (List.pairwise_cons.mp hs).2
    have hx := (List.pairwise_cons.mp hs).1
    obtain ⟨ihn, ihm⟩ := ih hs'
    have hnd : rest.Nodup := hs'.imp (fun h => ne_of_lt h)
    constructor
    · simp only [combos2]
      rw [List.nodup_append]
      refine ⟨?_, ihn, ?_⟩
      · exact List.Pairwise.map _ (fun a b (h : a ≠ b) => fun e => h (by simpa using e)) hnd
      · intro p hp q hq
        obtain ⟨b, hb, rfl⟩ := List.mem_map.mp hp
        obtain ⟨c, d⟩ := q
        rintro ⟨⟩
        exact lt_irrefl _ (hx _ ((ihm _ _).mp hq).1)
    · intro a b
      simp only [combos2, List.mem_append, List.mem_map, Prod.mk.injEq, List.mem_cons]
      constructor
      · rintro (⟨c, hc, rfl, rfl⟩ | h)
        · exact ⟨Or.inl rfl, Or.inr hc, hx _ hc⟩
        · obtain ⟨h1, h2, h3⟩ := (ihm a b).mp h
          exact ⟨Or.inr h1, Or.inr h2, h3⟩
      · rintro ⟨ha | ha, hb | hb, hlt⟩
        · subst ha hb; exact absurd hlt (lt_irrefl _)
        · subst ha; exact Or.inl ⟨b, hb, rfl, rfl⟩
        · subst hb; exact absurd hlt (lt_asymm (hx a ha))
        · exact Or.inr ((ihm a b).mpr ⟨ha, hb, hlt⟩)

end CTM.RefMarkers
