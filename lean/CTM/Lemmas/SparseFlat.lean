/-
  Flat-array level of the on-disk transposition.

  The fill pass with the code's addressing (`next_idx`, one zeroed buffer per block) writes the
  stable bucketing of `Sparse.lean` (`transposeFlat_eq`, `transposeOnDiskFlat_eq`).  The invariant
  `FillInv` of one block: with `acc v` the values written so far for minor index `v`,
  `next_idx[v] = indptr[v] + (acc v).length` and the buffer is `layout`, for each `v` of the block
  `acc v` padded with zeros to the capacity the counting pass found.  The loops of a block are
  flattened to one list of writes (`flatChunks_eq_writes`); `fill_steps` carries the invariant
  along it, and needs the capacity bound of the whole list to know that each single write fits.

  Then the joining loop of the parallel transposition with its block addressing: copying block by
  block at a running offset is one write (`blockCopyInto_eq`), so `transposeV2Blocked` is
  `transposeV2`.
-/
import CTM.Lemmas.SparseV2

namespace CTM.Sparse
open CTM.Chunking

/-! ### `writeAt` -/

theorem writeAt_length {β} (buf : List β) (pos : Nat) (xs : List β)
    (h : pos + xs.length ≤ buf.length) : (writeAt buf pos xs).length = buf.length := by
  unfold writeAt
  simp only [List.length_append, List.length_take, List.length_drop]
  omega

theorem writeAt_nil {β} (buf : List β) (pos : Nat) : writeAt buf pos [] = buf := by
  unfold writeAt
  simp

theorem writeAt_append_left {β} (T R : List β) (k : Nat) (xs : List β) :
    writeAt (T ++ R) (T.length + k) xs = T ++ writeAt R k xs := by
  unfold writeAt
  rw [List.take_length_add_append, Nat.add_assoc, List.drop_length_add_append]
  simp only [List.append_assoc]

theorem writeAt_append_right {β} (S C : List β) (off : Nat) (xs : List β)
    (h : off + xs.length ≤ S.length) : writeAt (S ++ C) off xs = writeAt S off xs ++ C := by
  unfold writeAt
  rw [List.take_append_of_le_length (by omega), List.drop_append_of_le_length h]
  simp only [List.append_assoc]

theorem writeAt_middle {β} (A S C : List β) (off : Nat) (xs : List β)
    (h : off + xs.length ≤ S.length) :
    writeAt (A ++ S ++ C) (A.length + off) xs = A ++ writeAt S off xs ++ C := by
  rw [List.append_assoc, writeAt_append_left, writeAt_append_right _ _ _ _ h, List.append_assoc]

theorem writeAt_padded {β} (z : β) (a xs : List β) (m : Nat) :
    writeAt (a ++ List.replicate m z) a.length xs
      = (a ++ xs) ++ List.replicate (m - xs.length) z := by
  unfold writeAt
  rw [List.take_append_of_le_length (Nat.le_refl _), List.take_length]
  rw [List.drop_append, List.drop_eq_nil_of_le (by omega)]
  have : a.length + xs.length - a.length = xs.length := by omega
  rw [this, List.nil_append, List.drop_replicate]

theorem writeAt_writeAt {β} (dst : List β) (d : Nat) (a b : List β) (h : d ≤ dst.length) :
    writeAt (writeAt dst d a) (d + a.length) b = writeAt dst d (a ++ b) := by
  have := writeAt_append_left (dst.take d ++ a) (dst.drop (d + a.length)) 0 b
  rw [List.length_append, List.length_take_of_le h, Nat.add_zero] at this
  show writeAt (dst.take d ++ a ++ dst.drop (d + a.length)) (d + a.length) b = _
  rw [this]
  unfold writeAt
  rw [List.take_zero, List.nil_append, Nat.zero_add, List.drop_drop, List.length_append]
  simp only [List.append_assoc, Nat.add_assoc]

/-! ### the invariant of one block, and one write -/

/-- capacity of minor index `v`: the number of entries the counting pass found -/
def cap (ip : List Nat) (v : Nat) : Nat := ptr ip (v + 1) - ptr ip v

/-- the part of a block buffer that belongs to minor index `v` when `acc v` has
been written for it: the filled part, then zeros up to the capacity -/
def padded {β} (z : β) (ip : List Nat) (acc : Nat → List β) (v : Nat) : List β :=
  acc v ++ List.replicate (cap ip v - (acc v).length) z

/-- the block buffer when `acc v` has been written for `v` -/
def layout {β} (z : β) (ip : List Nat) (blk : Nat × Nat) (acc : Nat → List β) : List β :=
  (rangeOf blk).flatMap (padded z ip acc)

/-- the counting-sort invariant inside one block -/
structure FillInv {β} (z : β) (ip : List Nat) (blk : Nat × Nat) (next : List Nat) (buf : List β)
    (acc : Nat → List β) : Prop where
  len : next.length = ip.length
  nxt : ∀ v, blk.1 ≤ v → v < blk.2 → ptr next v = ptr ip v + (acc v).length
  fits : ∀ v, blk.1 ≤ v → v < blk.2 → (acc v).length ≤ cap ip v
  buf_eq : buf = layout z ip blk acc

theorem range_cap_length {β} (ip : List Nat) (n nnz : Nat) (w : WFptr ip n nnz)
    (g : Nat → List β) (a b : Nat) (hab : a ≤ b) (hb : b ≤ n)
    (hg : ∀ v, a ≤ v → v < b → (g v).length = cap ip v) :
    ((rangeOf (a, b)).flatMap g).length = ptr ip b - ptr ip a := by
  rw [← w.sum_widths hab hb, List.flatMap_def, List.length_flatten, List.map_map]
  congr 1
  apply List.map_congr_left
  intro v hv
  rw [mem_rangeOf] at hv
  exact hg v hv.1 (by omega)

theorem padded_length {β} (z : β) (ip : List Nat) (acc : Nat → List β) {v : Nat}
    (h : (acc v).length ≤ cap ip v) : (padded z ip acc v).length = cap ip v := by
  rw [padded, List.length_append, List.length_replicate, Nat.add_sub_cancel' h]

/-- one write of the fill pass preserves the invariant: the buffer is the parts
before `v`, the part of `v`, the parts after `v`, and the write appends to the
filled part of `v` (`acc'` is `acc` with `xs` appended at `v`) -/
theorem fill_step {β} (z : β) (ip : List Nat) (n nnz : Nat) (w : WFptr ip n nnz)
    (blk : Nat × Nat) (hb : blk.2 ≤ n) (next : List Nat) (buf : List β) (acc : Nat → List β)
    (inv : FillInv z ip blk next buf acc) (v : Nat) (hv1 : blk.1 ≤ v) (hv2 : v < blk.2)
    (xs : List β) (acc' : Nat → List β) (hv : acc' v = acc v ++ xs)
    (hu : ∀ u, u ≠ v → acc' u = acc u) (hfit : (acc' v).length ≤ cap ip v) :
    FillInv z ip blk (next.set v (ptr next v + xs.length))
      (writeAt buf (ptr next v - ptr ip blk.1) xs) acc' := by
  have hl := w.len
  rw [hv, List.length_append] at hfit
  constructor
  · rw [List.length_set]; exact inv.len
  · intro u hu1 hu2
    rw [ptr_set _ _ _ _ (by rw [inv.len]; omega)]
    by_cases h : u = v
    · subst h; rw [if_pos rfl, hv, List.length_append, inv.nxt u hu1 hu2]; omega
    · rw [if_neg h, hu u h]; exact inv.nxt u hu1 hu2
  · intro u hu1 hu2
    by_cases h : u = v
    · subst h; rw [hv, List.length_append]; exact hfit
    · rw [hu u h]; exact inv.fits u hu1 hu2
  · have hother : ∀ l : List Nat, v ∉ l → l.flatMap (padded z ip acc') = l.flatMap (padded z ip acc) := by
      intro l hl
      apply ListAux.flatMap_congr
      intro u hu'
      rw [padded, padded, hu u (fun e => hl (e ▸ hu'))]
    have hlenA := range_cap_length ip n nnz w (padded z ip acc) blk.1 v hv1 (by omega)
      (fun u h1 h2 => padded_length z ip acc (inv.fits u h1 (by omega)))
    have hmono : ptr ip blk.1 ≤ ptr ip v := w.mono hv1 (by omega)
    rw [inv.buf_eq, inv.nxt v hv1 hv2,
      show ptr ip v + (acc v).length - ptr ip blk.1
        = ((rangeOf (blk.1, v)).flatMap (padded z ip acc)).length + (acc v).length by
          rw [hlenA]; omega]
    unfold layout
    rw [rangeOf_split hv1 hv2, List.flatMap_append, List.flatMap_cons, List.flatMap_append,
      List.flatMap_cons, hother _ (by rw [mem_rangeOf]; omega),
      hother _ (by rw [mem_rangeOf]; omega), ← List.append_assoc,
      ← List.append_assoc, writeAt_middle]
    · congr 2
      rw [padded, padded, hv, List.length_append, writeAt_padded, Nat.sub_sub]
    · rw [padded, List.length_append, List.length_replicate]
      omega

/-! ### one block as a list of writes -/

/-- one write of the fill pass: `s.2` goes to the next free cells of minor index `s.1` -/
def bucketWrite {β} (d0 : Nat) (st : List Nat × List β) (s : Nat × List β) : List Nat × List β :=
  (st.1.set s.1 (ptr st.1 s.1 + s.2.length), writeAt st.2 (ptr st.1 s.1 - d0) s.2)

theorem flatStep_eq {α β} (f : Entry α → β) (d0 : Nat) (c : List (Entry α))
    (st : List Nat × List β) (v : Nat) :
    flatStep f d0 c st v = bucketWrite d0 st (v, (piece c v).map f) := by
  rw [bucketWrite, List.length_map]
  rfl

/-- what a list of writes appends for `v` -/
def written {β} (steps : List (Nat × List β)) (v : Nat) : List β :=
  (steps.filter (·.1 == v)).flatMap (·.2)

theorem written_append {β} (a b : List (Nat × List β)) (v : Nat) :
    written (a ++ b) v = written a v ++ written b v := by
  unfold written
  rw [List.filter_append, List.flatMap_append]

theorem written_single {β} (s : Nat × List β) (v : Nat) :
    written [s] v = if v = s.1 then s.2 else [] := by
  unfold written
  rw [List.filter_cons]
  by_cases h : v = s.1
  · rw [if_pos h, if_pos (beq_iff_eq.mpr h.symm), List.flatMap_cons, List.filter_nil,
      List.flatMap_nil, List.append_nil]
  · rw [if_neg h, if_neg (fun e => h (beq_iff_eq.mp e).symm)]
    rfl

/-- `fill_step` along the list `all` of writes, split as `pre ++ steps`: when `pre` has been
carried out, the buffer holds `written pre`.  Every single write fits because what the whole
list writes for `v` stays within the capacity the counting pass found (`hcap`). -/
theorem fill_steps {β} (z : β) (ip : List Nat) (n nnz : Nat)
    (w : WFptr ip n nnz) (blk : Nat × Nat) (hb : blk.2 ≤ n) (all : List (Nat × List β))
    (hcap : ∀ v, blk.1 ≤ v → v < blk.2 → (written all v).length ≤ cap ip v) :
    ∀ (steps pre : List (Nat × List β)) (st : List Nat × List β), pre ++ steps = all →
      (∀ s ∈ steps, blk.1 ≤ s.1 ∧ s.1 < blk.2) →
      FillInv z ip blk st.1 st.2 (written pre) →
      FillInv z ip blk (steps.foldl (bucketWrite (ptr ip blk.1)) st).1
        (steps.foldl (bucketWrite (ptr ip blk.1)) st).2 (written all) := by
  intro steps
  induction steps with
  | nil =>
    intro pre st hall _ inv
    rw [List.append_nil] at hall
    exact hall ▸ inv
  | cons s rest ih =>
    intro pre st hall hin inv
    have hs := hin s List.mem_cons_self
    have hall' : (pre ++ [s]) ++ rest = all := by rw [← hall, List.append_assoc]; rfl
    have happ : ∀ v, written (pre ++ [s]) v = written pre v ++ if v = s.1 then s.2 else [] :=
      fun v => by rw [written_append, written_single]
    have hfit : (written (pre ++ [s]) s.1).length ≤ cap ip s.1 := by
      have := hcap s.1 hs.1 hs.2
      rw [← hall', written_append, List.length_append] at this
      omega
    rw [List.foldl_cons]
    exact ih (pre ++ [s]) _ hall' (fun t ht => hin t (List.mem_cons_of_mem _ ht))
      (fill_step z ip n nnz w blk hb st.1 st.2 _ inv s.1 hs.1 hs.2 s.2 (written (pre ++ [s]))
        (by rw [happ, if_pos rfl]) (fun u hu => by rw [happ, if_neg hu, List.append_nil]) hfit)

theorem foldl_bucketWrite_ptr_of_ne {β} (d0 : Nat) :
    ∀ (steps : List (Nat × List β)) (st : List Nat × List β) (u : Nat),
      (∀ s ∈ steps, s.1 ≠ u) → ptr (steps.foldl (bucketWrite d0) st).1 u = ptr st.1 u := by
  intro steps
  induction steps with
  | nil => intro st u _; rfl
  | cons s rest ih =>
    intro st u h
    rw [List.foldl_cons, ih (bucketWrite d0 st s) u (fun t ht => h t (by simp [ht]))]
    have hne : ¬ u = s.1 := fun e => h s (by simp) e.symm
    simp only [bucketWrite]
    by_cases hlt : s.1 < st.1.length
    · rw [ptr_set _ _ _ _ hlt, if_neg hne]
    · rw [List.set_eq_of_length_le (by omega)]

theorem foldl_bucketWrite_length {β} (d0 : Nat) :
    ∀ (steps : List (Nat × List β)) (st : List Nat × List β),
      (steps.foldl (bucketWrite d0) st).1.length = st.1.length := by
  intro steps
  induction steps with
  | nil => intro st; rfl
  | cons s rest ih =>
    intro st
    rw [List.foldl_cons, ih]
    simp [bucketWrite]

/-- the counting sort inside one block: from `next_idx = csr_indptr` on the block and a zeroed
buffer, writes that fill every minor index of the block exactly to its capacity (`hcap`) leave no
padding, and `next_idx` is untouched outside the block -/
theorem fill_writes {β} (z : β) (ip : List Nat) (n nnz : Nat) (w : WFptr ip n nnz)
    (blk : Nat × Nat) (hb1 : blk.1 ≤ blk.2) (hb : blk.2 ≤ n) (steps : List (Nat × List β))
    (hin : ∀ s ∈ steps, blk.1 ≤ s.1 ∧ s.1 < blk.2)
    (hcap : ∀ v, blk.1 ≤ v → v < blk.2 → (written steps v).length = cap ip v)
    (next : List Nat) (hlen : next.length = ip.length)
    (hnext : ∀ v, blk.1 ≤ v → v < blk.2 → ptr next v = ptr ip v) :
    (steps.foldl (bucketWrite (ptr ip blk.1))
        (next, List.replicate (ptr ip blk.2 - ptr ip blk.1) z)).2
      = (rangeOf blk).flatMap (written steps) ∧
    (steps.foldl (bucketWrite (ptr ip blk.1))
        (next, List.replicate (ptr ip blk.2 - ptr ip blk.1) z)).1.length = ip.length ∧
    (∀ u, (u < blk.1 ∨ blk.2 ≤ u) →
      ptr (steps.foldl (bucketWrite (ptr ip blk.1))
        (next, List.replicate (ptr ip blk.2 - ptr ip blk.1) z)).1 u = ptr next u) := by
  have inv0 : FillInv z ip blk next (List.replicate (ptr ip blk.2 - ptr ip blk.1) z)
      (fun _ => ([] : List β)) := by
    constructor
    · exact hlen
    · intro v h1 h2; simp [hnext v h1 h2]
    · intro v _ _; simp
    · unfold layout padded
      simp only [List.nil_append, List.length_nil, Nat.sub_zero]
      rw [List.flatMap_def, ListAux.flatten_replicates z (cap ip) (rangeOf blk)]
      exact congrArg (List.replicate · z) (w.sum_widths hb1 hb).symm
  have inv := fill_steps z ip n nnz w blk hb steps
    (fun v h1 h2 => Nat.le_of_eq (hcap v h1 h2)) steps []
    (next, List.replicate (ptr ip blk.2 - ptr ip blk.1) z) rfl hin inv0
  refine ⟨?_, ?_, ?_⟩
  · rw [inv.buf_eq]
    unfold layout
    apply ListAux.flatMap_congr
    intro v hv
    rw [mem_rangeOf] at hv
    rw [padded, hcap v (by omega) (by omega), Nat.sub_self, List.replicate_zero, List.append_nil]
  · rw [foldl_bucketWrite_length]; exact hlen
  · intro u hu
    refine foldl_bucketWrite_ptr_of_ne _ _ _ u ?_
    intro s hs
    have := hin s hs
    omega

/-- the loops of one block, chunk by chunk and value by value, as one list of writes -/
theorem flatChunks_eq_writes {α β} (f : Entry α → β) (blk : Nat × Nat) (d0 : Nat)
    (cs : List (List (Entry α))) (st : List Nat × List β) :
    cs.foldl (flatChunk f blk d0) st
      = (cs.flatMap fun c => (rangeOf blk).map fun u => (u, (piece c u).map f)).foldl
          (bucketWrite d0) st := by
  induction cs generalizing st with
  | nil => rfl
  | cons c rest ih =>
    rw [List.foldl_cons, ih, List.flatMap_cons, List.foldl_append, List.foldl_map]
    congr 1
    rw [flatChunk]
    congr 1
    funext st u
    exact flatStep_eq f d0 c st u

theorem filter_fst_flatMap_rangeOf {γ β} (g : γ → Nat → List β) (cs : List γ) (blk : Nat × Nat) (v : Nat)
    (hv1 : blk.1 ≤ v) (hv2 : v < blk.2) :
    (cs.flatMap fun c => (rangeOf blk).map fun u => (u, g c u)).filter (·.1 == v)
      = cs.map fun c => (v, g c v) := by
  induction cs with
  | nil => rfl
  | cons c rest ih =>
    rw [List.flatMap_cons, List.filter_append, ih, List.map_cons]
    congr 1
    rw [List.filter_map]
    have : ((fun x : Nat × List β => x.1 == v) ∘ fun u => (u, g c u)) = (· == v) := rfl
    rw [this, ListAux.filter_beq_of_nodup _ v (nodup_rangeOf _) (by rw [mem_rangeOf]; omega)]
    rfl

theorem fill_block {α β} (f : Entry α → β) (z : β) (ip : List Nat) (n nnz : Nat)
    (w : WFptr ip n nnz) (blk : Nat × Nat) (hb1 : blk.1 ≤ blk.2) (hb : blk.2 ≤ n)
    (cs : List (List (Entry α))) (F : List (Entry α))
    (hpieces : ∀ v, cs.flatMap (fun c => piece c v) = F.filter (·.minor == v))
    (hcap : ∀ v, blk.1 ≤ v → v < blk.2 → (F.filter (·.minor == v)).length = cap ip v)
    (next : List Nat) (hlen : next.length = ip.length)
    (hnext : ∀ v, blk.1 ≤ v → v < blk.2 → ptr next v = ptr ip v) :
    (cs.foldl (flatChunk f blk (ptr ip blk.1))
        (next, List.replicate (ptr ip blk.2 - ptr ip blk.1) z)).2
      = (rangeOf blk).flatMap (fun v => (F.filter (·.minor == v)).map f) ∧
    (cs.foldl (flatChunk f blk (ptr ip blk.1))
        (next, List.replicate (ptr ip blk.2 - ptr ip blk.1) z)).1.length = ip.length ∧
    (∀ u, (u < blk.1 ∨ blk.2 ≤ u) →
      ptr (cs.foldl (flatChunk f blk (ptr ip blk.1))
        (next, List.replicate (ptr ip blk.2 - ptr ip blk.1) z)).1 u = ptr next u) := by
  have hwritten : ∀ v, blk.1 ≤ v → v < blk.2 →
      written (cs.flatMap fun c => (rangeOf blk).map fun u => (u, (piece c u).map f)) v
        = (F.filter (·.minor == v)).map f := by
    intro v h1 h2
    rw [written, filter_fst_flatMap_rangeOf (fun c u => (piece c u).map f) cs blk v h1 h2, List.flatMap_map,
      ← hpieces v, List.map_flatMap]
  have hin : ∀ s ∈ (cs.flatMap fun c => (rangeOf blk).map fun u => (u, (piece c u).map f)),
      blk.1 ≤ s.1 ∧ s.1 < blk.2 := by
    intro s hs
    obtain ⟨c, _, hs⟩ := List.mem_flatMap.mp hs
    obtain ⟨u, hu, rfl⟩ := List.mem_map.mp hs
    rw [mem_rangeOf] at hu
    simp only; omega
  obtain ⟨b1, b2, b3⟩ := fill_writes z ip n nnz w blk hb1 hb _ hin
    (fun v h1 h2 => by rw [hwritten v h1 h2, List.length_map, hcap v h1 h2]) next hlen hnext
  rw [flatChunks_eq_writes]
  refine ⟨b1.trans (ListAux.flatMap_congr fun v hv => ?_), b2, b3⟩
  rw [mem_rangeOf] at hv
  exact hwritten v (by omega) (by omega)

/-! ### all blocks: the flat fill pass is the bucket level -/

/-- for any cutting of the minor range `[r0, n)` into consecutive blocks; `done` is what the blocks
before `r0` wrote -/
theorem fill_blocks {α β} (f : Entry α → β) (z : β) (ip : List Nat) (n nnz : Nat)
    (w : WFptr ip n nnz) (cs : List (List (Entry α))) (F : List (Entry α))
    (hpieces : ∀ v, cs.flatMap (fun c => piece c v) = F.filter (·.minor == v))
    (hcap : ∀ v, v < n → (F.filter (·.minor == v)).length = cap ip v)
    {r0 : Nat} {blks : List (Nat × Nat)} (t : Tiles r0 n blks) :
    ∀ (next : List Nat) (out done : List β),
      next.length = ip.length → (∀ v, r0 ≤ v → v < n → ptr next v = ptr ip v) →
      out = done ++ List.replicate (ptr ip n - ptr ip r0) z → done.length = ptr ip r0 →
      (blks.foldl (flatBlock f z cs ip) (next, out)).2
        = done ++ (rangeOf (r0, n)).flatMap (fun v => (F.filter (·.minor == v)).map f) := by
  induction t with
  | nil a =>
    intro next out done _ _ hout _
    simp [hout, rangeOf_self]
  | @cons r0 r1 n ps h01 t ih =>
    intro next out done hlen hnext hout hdone
    have hr1 : r1 ≤ n := t.le
    obtain ⟨b1, b2, b3⟩ := fill_block f z ip n nnz w (r0, r1) h01 hr1 cs F
      hpieces (fun v _ hv2 => hcap v (Nat.lt_of_lt_of_le hv2 hr1)) next hlen
      (fun v hv1 hv2 => hnext v hv1 (Nat.lt_of_lt_of_le hv2 hr1))
    have hblen := range_cap_length ip n nnz w
      (fun v => (F.filter (·.minor == v)).map f) r0 r1 h01 hr1
      (fun v _ hv => by rw [List.length_map]; exact hcap v (Nat.lt_of_lt_of_le hv hr1))
    have hm1 : ptr ip r0 ≤ ptr ip r1 := w.mono h01 hr1
    have hm2 : ptr ip r1 ≤ ptr ip n := w.mono hr1 (Nat.le_refl _)
    have hstep : flatBlock f z cs ip (next, out) (r0, r1)
        = ((cs.foldl (flatChunk f (r0, r1) (ptr ip r0))
              (next, List.replicate (ptr ip r1 - ptr ip r0) z)).1,
           (done ++ (rangeOf (r0, r1)).flatMap (fun v => (F.filter (·.minor == v)).map f))
             ++ List.replicate (ptr ip n - ptr ip r1) z) := by
      unfold flatBlock
      simp only
      rw [b1, hout, ← hdone, writeAt_padded, hblen]
      congr 3
      omega
    rw [List.foldl_cons, hstep, ih w hcap _ _ _ b2
      (fun v hv1 hv2 => by rw [b3 v (Or.inr hv1)]; exact hnext v (by omega) hv2) rfl
      (by rw [List.length_append, hblen, hdone]; omega),
      List.append_assoc, ← List.flatMap_append, rangeOf_append h01 hr1]

theorem transposeFlat_eq {α β} (f : Entry α → β) (z : β) (E : List (Entry α))
    (sl : Option (Nat × Nat)) (n lo el : Nat) (hlo : 1 ≤ lo) (hE : MajorsSorted E)
    (hr : ∀ e ∈ sliceEntries sl E, e.minor < n) :
    transposeFlat f z E sl (canonOut (sliceEntries sl E) n).indptr
        (sliceEntries sl E).length lo el
      = (bucketSpec (sliceEntries sl E) n).map f := by
  have w := canonOut_wf (sliceEntries sl E) n hr
  have hl := w.len
  unfold transposeFlat blockCuts
  simp only
  have hp0 : ptr (canonOut (sliceEntries sl E) n).indptr 0 = 0 := w.first
  have hcap : ∀ v, v < n → ((sliceEntries sl E).filter (·.minor == v)).length
      = cap (canonOut (sliceEntries sl E) n).indptr v := by
    intro v hv
    unfold cap canonOut
    simp only
    rw [ptr_map_range _ _ _ (by omega), ptr_map_range _ _ _ (by omega), countP_minor_succ]
    omega
  have := fill_blocks f z _ n _ w ((sliceChunks lo E).map (sliceEntries sl)) (sliceEntries sl E)
    (fun v => pieces_eq_filter E sl lo hlo hE v) hcap
    (by have := blockCuts_tiles (canonOut (sliceEntries sl E) n).indptr el
        rwa [hl, Nat.add_sub_cancel] at this)
    (canonOut (sliceEntries sl E) n).indptr
    (List.replicate (sliceEntries sl E).length z) [] rfl (fun _ _ _ => rfl)
    (by rw [w.last, hp0]; simp) (by rw [hp0]; rfl)
  unfold blockCuts at this
  rw [this]
  unfold bucketSpec
  rw [rangeOf_zero, List.nil_append, List.map_flatMap]

theorem transposeOnDiskFlat_eq {α} (zero : α) (M : Mat α) (imax : Nat)
    (sl : Option (Nat × Nat)) (B : Budget)
    (hlo : 1 ≤ B.lo) (hc : 1 ≤ B.loCount) (hlen : M.data.length = M.indices.length)
    (hr : ∀ x ∈ sliceMinors sl M.indices, x < nMinorOf imax sl) :
    transposeOnDiskFlat zero M imax sl B = transposeOnDisk M imax sl B := by
  rw [transposeOnDisk_eq_canonOut M imax sl B hlo hc hlen hr]
  unfold transposeOnDiskFlat
  rw [calcIndptr_ok M.indices imax sl B.loCount hc hr]
  simp only [bind, Except.bind, pure, Except.pure]
  have hminors : (sliceEntries sl (entriesOf M)).map (·.minor) = sliceMinors sl M.indices := by
    rw [sliceEntries_map_minor, entriesOf_map_minor M hlen]
  have hE : ∀ e ∈ sliceEntries sl (entriesOf M), e.minor < nMinorOf imax sl := by
    intro e he
    apply hr
    rw [← hminors]
    exact List.mem_map_of_mem he
  have hip : (List.range (nMinorOf imax sl + 1)).map
        (fun k => (sliceMinors sl M.indices).countP (· < k))
      = (canonOut (sliceEntries sl (entriesOf M)) (nMinorOf imax sl)).indptr := by
    unfold canonOut
    simp only
    apply List.map_congr_left
    intro k _
    rw [← hminors, List.countP_map]
    rfl
  have hnnz : (sliceMinors sl M.indices).length = (sliceEntries sl (entriesOf M)).length := by
    rw [← hminors, List.length_map]
  rw [hip, hnnz, transposeFlat_eq _ _ _ sl _ B.lo B.el hlo (entriesOf_majorsSorted M) hE]
  unfold canonOut
  simp only [List.map_map]
  rfl

/-! ### the blockwise joining loop of the parallel transposition -/

theorem foldl_writeAt_tiles {β} (dst : List β) (dst0 : Nat) (src : List β) {r0 n : Nat}
    {ps : List (Nat × Nat)} (t : Tiles r0 n ps) (hn : n ≤ src.length) (h : dst0 ≤ dst.length) :
    ps.foldl (fun st p => (writeAt st.1 st.2 (slice src p.1 p.2), st.2 + (p.2 - p.1)))
        (writeAt dst dst0 (slice src 0 r0), dst0 + r0)
      = (writeAt dst dst0 (slice src 0 n), dst0 + n) := by
  induction t with
  | nil => rfl
  | @cons a m n ps ham t ih =>
    have hm := t.le
    have := writeAt_writeAt dst dst0 (slice src 0 a) (slice src a m) h
    rw [slice_length_le _ (by omega), Nat.sub_zero, slice_append src (Nat.zero_le _) ham] at this
    rw [List.foldl_cons, this, Nat.add_assoc, Nat.add_sub_cancel' ham]
    exact ih hn

theorem blockCopyInto_eq {β} (blk : Nat) (hblk : 1 ≤ blk) (dst : List β) (dst0 : Nat)
    (src : List β) (h : dst0 + src.length ≤ dst.length) :
    blockCopyInto blk dst dst0 src = (writeAt dst dst0 src, dst0 + src.length) := by
  have := foldl_writeAt_tiles dst dst0 src (chunks_tiles src.length blk hblk) (Nat.le_refl _)
    (by omega)
  rwa [slice_self, writeAt_nil, slice_zero_length] at this

/-- the fold over the pieces, generalised for the induction: `doneI`, `doneD` are what the pieces
already copied have written, and the offset is their length -/
theorem foldl_blockCopyInto_eq {α} (zero : α) (blk : Nat) (hblk : 1 ≤ blk) :
    ∀ (parts : List (Mat α)) (doneI : List Nat) (doneD : List α),
      (∀ P ∈ parts, P.data.length = P.indices.length) → doneD.length = doneI.length →
      parts.foldl
        (fun st P => ((blockCopyInto blk st.1 st.2.2 P.indices).1,
                      (blockCopyInto blk st.2.1 st.2.2 P.data).1,
                      st.2.2 + P.indices.length))
        (doneI ++ List.replicate ((parts.map (·.indices.length)).sum) 0,
         doneD ++ List.replicate ((parts.map (·.indices.length)).sum) zero, doneI.length)
      = (doneI ++ parts.flatMap (·.indices), doneD ++ parts.flatMap (·.data),
         doneI.length + (parts.map (·.indices.length)).sum) := by
  intro parts
  induction parts with
  | nil => intro doneI doneD _ _; simp
  | cons P Ps ih =>
    intro doneI doneD hp hd
    have hP := hp P (by simp)
    simp only [List.map_cons, List.sum_cons, List.foldl_cons, List.flatMap_cons]
    rw [blockCopyInto_eq blk hblk _ _ P.indices (by simp),
      blockCopyInto_eq blk hblk _ _ P.data (by simp; omega)]
    simp only
    rw [writeAt_padded, ← hd, writeAt_padded, hP]
    have e : P.indices.length + (Ps.map (·.indices.length)).sum - P.indices.length
        = (Ps.map (·.indices.length)).sum := by omega
    rw [e]
    have := ih (doneI ++ P.indices) (doneD ++ P.data) (fun Q hQ => hp Q (by simp [hQ]))
      (by simp [hd, hP])
    rw [List.length_append] at this
    rw [hd]
    rw [this]
    simp only [List.append_assoc, Nat.add_assoc]

theorem joinBlocked_eq {α} (zero : α) (blk : Nat) (hblk : 1 ≤ blk) (parts : List (Mat α))
    (hp : ∀ P ∈ parts, P.data.length = P.indices.length) :
    joinBlocked zero blk parts = joinParts parts := by
  unfold joinBlocked
  have := foldl_blockCopyInto_eq zero blk hblk parts [] [] hp rfl
  simp only [List.nil_append, List.length_nil, Nat.zero_add] at this
  simp only
  rw [this]
  unfold joinParts
  simp only
  rw [(concatAux_arrays _ parts 0).1, (concatAux_arrays _ parts 0).2]

theorem transposeV2Blocked_eq {α} (zero : α) (M : Mat α) (imax nProc : Nat) (B : Budget)
    (blk : Nat) (hblk : 1 ≤ blk) :
    transposeV2Blocked zero M imax nProc B blk = transposeV2 M imax nProc B := by
  unfold transposeV2Blocked transposeV2
  by_cases hz : (ceilDiv imax nProc == 0) = true
  · simp [hz]
  · simp only [hz, Bool.false_eq_true, if_false]
    cases hm : (chunks imax (ceilDiv imax nProc)).mapM
        (fun sl => transposeOnDisk M imax (some sl) B) with
    | error e => rfl
    | ok parts =>
      simp only [bind, Except.bind, pure, Except.pure]
      congr 1
      apply joinBlocked_eq zero blk hblk
      intro P hP
      obtain ⟨sl, _, hsl⟩ := ListAux.mapM_ok_of_mem_output hm hP
      exact transposeOnDisk_lengths M imax (some sl) B P hsl

end CTM.Sparse
