/-
  The name → column dict `{n: i for i, n in enumerate(names)}` (`Markers.nameToIdx`), core Lean
  only: which index it gives, and the lookup `name_to_col[g]` as a total function (`colOf`) with
  its `KeyError` (`orRaise_nameToIdx`).  Every model that addresses columns by gene name uses it.
-/
import CTM.Model.Markers
import CTM.Lemmas.ListAux

namespace CTM
namespace Markers

theorem getElem?_of_nameToIdx (names : List Gene) (g : Gene) (i : Nat) (h : nameToIdx names g = some i) :
    names[i]? = some g := by
  induction names generalizing i with
  | nil => simp [nameToIdx] at h
  | cons x xs ih =>
    simp only [nameToIdx] at h
    cases hx : nameToIdx xs g with
    | some j =>
      simp only [hx, Option.some.injEq] at h
      subst h
      simpa using ih j hx
    | none =>
      simp only [hx] at h
      split at h
      · rename_i he
        cases h
        simp only [beq_iff_eq] at he
        simp [he]
      · cases h

theorem nameToIdx_of_mem (names : List Gene) (g : Gene) (h : g ∈ names) :
    ∃ i, nameToIdx names g = some i := by
  induction names with
  | nil => cases h
  | cons x xs ih =>
    simp only [nameToIdx]
    cases hx : nameToIdx xs g with
    | some j => exact ⟨j + 1, rfl⟩
    | none =>
      rcases List.mem_cons.1 h with rfl | h
      · exact ⟨0, by simp⟩
      · obtain ⟨i, hi⟩ := ih h
        rw [hx] at hi; cases hi

theorem mem_of_nameToIdx (names : List Gene) (g : Gene) (i : Nat) (h : nameToIdx names g = some i) :
    g ∈ names := List.mem_of_getElem? (getElem?_of_nameToIdx names g i h)

theorem nameToIdx_eq_none_iff (names : List Gene) (g : Gene) : nameToIdx names g = none ↔ g ∉ names := by
  constructor
  · intro h hm
    obtain ⟨i, hi⟩ := nameToIdx_of_mem names g hm
    rw [h] at hi; cases hi
  · intro h
    cases hx : nameToIdx names g with
    | none => rfl
    | some i => exact absurd (mem_of_nameToIdx names g i hx) h

theorem nameToIdx_eq_some_iff (names : List Gene) (hn : names.Nodup) (g : Gene) (i : Nat) :
    nameToIdx names g = some i ↔ names[i]? = some g := by
  constructor
  · exact getElem?_of_nameToIdx names g i
  · intro h
    obtain ⟨k, hk⟩ := nameToIdx_of_mem names g (List.mem_of_getElem? h)
    have hk' := getElem?_of_nameToIdx names g k hk
    obtain ⟨hi, e1⟩ := List.getElem?_eq_some_iff.1 h
    obtain ⟨hk2, e2⟩ := List.getElem?_eq_some_iff.1 hk'
    have : k = i := (List.getElem_inj hn).1 (e2.trans e1.symm)
    rw [hk, this]

/-- the column the name → column dict gives `g` (0 for an unknown name) -/
def colOf (names : List Gene) (g : Gene) : Nat := (nameToIdx names g).getD 0

theorem nameToIdx_colOf (names : List Gene) (g : Gene) (h : g ∈ names) :
    nameToIdx names g = some (colOf names g) := by
  obtain ⟨i, hi⟩ := nameToIdx_of_mem names g h
  rw [colOf, hi]; rfl

/-- `name_to_col[g]` -/
theorem orRaise_nameToIdx {ε} (e : ε) (names : List Gene) (g : Gene) :
    ListAux.orRaise e (nameToIdx names g) = if g ∈ names then .ok (colOf names g) else .error e := by
  by_cases h : g ∈ names
  · rw [nameToIdx_colOf names g h, if_pos h]; rfl
  · rw [(nameToIdx_eq_none_iff names g).2 h, if_neg h]; rfl

theorem colOf_lt (names : List Gene) (g : Gene) (h : g ∈ names) : colOf names g < names.length :=
  (List.getElem?_eq_some_iff.1 (getElem?_of_nameToIdx names g _ (nameToIdx_colOf names g h))).1

end Markers
end CTM
