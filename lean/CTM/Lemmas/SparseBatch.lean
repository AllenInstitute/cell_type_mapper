/-
  `DenseArrayRowIterator.get_batch` and `merge_index_list` of `CTM/Model/Sparse.lean`.

  `get_batch` reads the rows in sorted order and un-sorts: reading along `argsort rows` and then
  at `(argsort rows).idxOf i` gives position `i` back (`argsort_map_idxOf`).  Ties in the sort
  matter nowhere: a request with repeats is rejected (`strictInc`), and `merge_index_list` removes
  repeats (`npUnique`) before it cuts runs.  The CSR `get_batch` is in `SparseDisjoint`.
-/
import CTM.Lemmas.SparseRows

namespace CTM.Sparse
open CTM.Chunking

/-! ### the sorted request: `argsort`, `strictInc` -/

theorem strictInc_iff_pairwise : ∀ (l : List Nat), strictInc l = true ↔ l.Pairwise (· < ·)
  | [] => by simp [strictInc]
  | [x] => by simp [strictInc]
  | x :: y :: ys => by
    rw [strictInc, Bool.and_eq_true, decide_eq_true_eq, strictInc_iff_pairwise (y :: ys),
      List.pairwise_cons (a := x)]
    constructor
    · rintro ⟨h, hp⟩
      refine ⟨fun z hz => ?_, hp⟩
      rcases List.mem_cons.mp hz with rfl | hz
      · exact h
      · exact Nat.lt_trans h ((List.pairwise_cons.mp hp).1 z hz)
    · rintro ⟨h, hp⟩
      exact ⟨h y List.mem_cons_self, hp⟩

/-- `row_index_list[sorted_dex]` is the first components of the sorted (row, position) pairs -/
theorem argsort_map_getD (rows : List Nat) :
    (argsort rows).map (rows.getD · 0)
      = (isort (fun a b : Nat × Nat => decide (a.1 ≤ b.1)) rows.zipIdx).map (·.1) := by
  unfold argsort
  rw [List.map_map]
  apply List.map_congr_left
  intro p hp
  have hp' := (isort_perm _ rows.zipIdx).subset hp
  rw [List.mem_zipIdx_iff_getElem?] at hp'
  simp [Function.comp, List.getD_eq_getElem?_getD, hp']

theorem argsort_perm (rows : List Nat) : (argsort rows).Perm (List.range rows.length) := by
  unfold argsort
  have h1 := (isort_perm (fun a b : Nat × Nat => decide (a.1 ≤ b.1)) rows.zipIdx).map (·.2)
  have h2 : rows.zipIdx.map (·.2) = List.range rows.length := by
    rw [List.zipIdx_map_snd, List.range_eq_range']
  rw [h2] at h1
  exact h1

/-- un-sorting (`sorted[argsort.idxOf i]`): whatever is read along `argsort rows`, position
`i`'s value stands where `i` stands in the argsort -/
theorem argsort_map_idxOf {β} (rows : List Nat) (f : Nat → β) {i : Nat} (hi : i < rows.length) :
    ((argsort rows).map f)[(argsort rows).idxOf i]? = some (f i) :=
  ListAux.getElem?_map_idxOf f ((argsort_perm rows).mem_iff.mpr (List.mem_range.mpr hi))

theorem argsort_map_getD_perm (rows : List Nat) : ((argsort rows).map (rows.getD · 0)).Perm rows := by
  rw [argsort_map_getD]
  have h1 := (isort_perm (fun a b : Nat × Nat => decide (a.1 ≤ b.1)) rows.zipIdx).map (·.1)
  rw [List.zipIdx_map_fst] at h1
  exact h1

theorem argsort_map_getD_strict (rows : List Nat) (hn : rows.Nodup) :
    ((argsort rows).map (rows.getD · 0)).Pairwise (· < ·) := by
  have hnd : ((argsort rows).map (rows.getD · 0)).Nodup :=
    (argsort_map_getD_perm rows).nodup_iff.mpr hn
  rw [argsort_map_getD] at hnd ⊢
  have hs := isort_sorted (fun p : Nat × Nat => p.1) rows.zipIdx
  rw [List.pairwise_map]
  rw [List.Nodup, List.pairwise_map] at hnd
  apply List.Pairwise.imp _ (List.Pairwise.and hs hnd)
  intro a b hab
  omega

/-! ### `DenseArrayRowIterator.get_batch` -/

theorem denseGetBatch_ok {α} (zero : α) (D : Dense α) (nCols : Nat) (rows : List Nat)
    (hne : rows ≠ []) (hn : rows.Nodup) (hr : ∀ r ∈ rows, r < D.length) :
    denseGetBatch zero D nCols rows = .ok (rows.map (D.getD · [])) := by
  unfold denseGetBatch
  simp only
  have h1 : rows.isEmpty = false := by
    cases rows with
    | nil => exact absurd rfl hne
    | cons _ _ => rfl
  have h2 : strictInc ((argsort rows).map (rows.getD · 0)) = true :=
    (strictInc_iff_pairwise _).mpr (argsort_map_getD_strict rows hn)
  have h3 : ((argsort rows).map (rows.getD · 0)).any (· ≥ D.length) = false := by
    rw [List.any_eq_false]
    intro x hx
    have := hr x ((argsort_map_getD_perm rows).subset hx)
    simp; omega
  simp only [h1, h2, h3, Bool.false_eq_true, if_false, Bool.not_true]
  congr 1
  rw [List.map_map, ListAux.foldl_set_perm (argsort rows) _ _ (by rw [List.length_replicate]; exact argsort_perm rows),
    List.length_replicate]
  apply List.ext_getElem
  · simp
  · intro j _ hj
    have hj : j < rows.length := by simpa using hj
    simp [List.getD_eq_getElem?_getD, hj]

/-! ### `merge_index_list` -/

/-- the loop of `merge_index_list`, entered with the open run `[lo, hi]` and the strictly increasing
rest `ys`: the ranges list `lo, …, hi` and then `ys`, are non-empty and are separated by gaps.
`lo ≤ p.1` is what places a closed run before those that follow it. -/
theorem mergeRuns_spec : ∀ (ys : List Nat) (lo hi : Nat), lo ≤ hi → (hi :: ys).Pairwise (· < ·) →
    (mergeRuns lo hi ys).flatMap rangeOf = rangeOf (lo, hi + 1) ++ ys ∧
    (mergeRuns lo hi ys).Pairwise (fun p q => p.2 < q.1) ∧
    ∀ p ∈ mergeRuns lo hi ys, lo ≤ p.1 ∧ p.1 < p.2
  | [], lo, hi, hle, _ => by
    refine ⟨by simp [mergeRuns], List.pairwise_singleton _ _, fun p hp => ?_⟩
    obtain rfl := List.mem_singleton.mp hp
    exact ⟨Nat.le_refl _, Nat.lt_succ_of_le hle⟩
  | y :: ys, lo, hi, hle, hs => by
    rw [List.pairwise_cons] at hs
    have hy : hi < y := hs.1 y List.mem_cons_self
    rw [mergeRuns]
    split
    · obtain ⟨i1, i2, i3⟩ := mergeRuns_spec ys y y (Nat.le_refl y) hs.2
      refine ⟨?_, List.pairwise_cons.mpr ⟨fun q hq => ?_, i2⟩, fun p hp => ?_⟩
      · rw [List.flatMap_cons, i1, rangeOf_cons (Nat.lt_succ_self y), rangeOf_self]
        rfl
      · have := (i3 q hq).1
        dsimp only; omega
      · rcases List.mem_cons.mp hp with rfl | hp
        · dsimp only; omega
        · have := i3 p hp; omega
    · obtain rfl : y = hi + 1 := by omega
      obtain ⟨i1, i2, i3⟩ := mergeRuns_spec ys lo (hi + 1) (by omega) hs.2
      exact ⟨by rw [i1, rangeOf_concat (by omega), List.append_assoc]; rfl, i2, i3⟩

theorem dedupAdj_of_strict : ∀ (l : List Nat), l.Pairwise (· < ·) → dedupAdj l = l := by
  intro l
  induction l with
  | nil => intro _; rfl
  | cons x xs ih =>
    intro h
    rw [List.pairwise_cons] at h
    cases xs with
    | nil => rfl
    | cons y ys =>
      have : x < y := h.1 y (by simp)
      have hne : (x == y) = false := by simp; omega
      simp only [dedupAdj, hne, Bool.false_eq_true, if_false]
      rw [ih h.2]

theorem npUnique_of_strict (l : List Nat) (h : l.Pairwise (· < ·)) : npUnique l = l := by
  unfold npUnique
  rw [isort_of_pairwise]
  · exact dedupAdj_of_strict l h
  · apply List.Pairwise.imp _ h
    intro a b hab
    simp; omega

theorem dedupAdj_spec : ∀ (l : List Nat), l.Pairwise (· ≤ ·) →
    (dedupAdj l).Pairwise (· < ·) ∧ (∀ z, z ∈ dedupAdj l ↔ z ∈ l) := by
  intro l
  fun_induction dedupAdj l with
  | case1 x y r hxy ih =>
    intro h
    rw [List.pairwise_cons] at h
    obtain ⟨i1, i2⟩ := ih h.2
    refine ⟨i1, ?_⟩
    intro z
    rw [i2 z]
    have : x = y := by simpa using hxy
    subst this
    simp
  | case2 x y r hxy ih =>
    intro h
    rw [List.pairwise_cons] at h
    obtain ⟨i1, i2⟩ := ih h.2
    have hne : x ≠ y := by simpa using hxy
    refine ⟨?_, ?_⟩
    · rw [List.pairwise_cons]
      refine ⟨?_, i1⟩
      intro z hz
      have hz' := (i2 z).mp hz
      have hxy' := h.1 y (by simp)
      rcases List.mem_cons.mp hz' with hz' | hz'
      · subst hz'; omega
      · have := (List.pairwise_cons.mp h.2).1 z hz'
        omega
    · intro z
      simp only [List.mem_cons, i2 z]
  | case3 l hl =>
    intro h
    refine ⟨?_, fun z => Iff.rfl⟩
    cases l with
    | nil => exact List.Pairwise.nil
    | cons a t =>
      cases t with
      | nil => simp
      | cons b t' => exact absurd rfl (hl a b t')

theorem mergeIndexList_ok (xs : List Nat) (hne : xs ≠ []) :
    ∃ rs, mergeIndexList xs = .ok rs ∧
      rs.flatMap rangeOf = npUnique xs ∧
      (npUnique xs).Pairwise (· < ·) ∧ (∀ z, z ∈ npUnique xs ↔ z ∈ xs) ∧
      rs.Pairwise (fun p q => p.2 < q.1) ∧ (∀ p ∈ rs, p.1 < p.2) := by
  have hs : (isort (fun a b => decide (a ≤ b)) xs).Pairwise (· ≤ ·) :=
    isort_sorted (fun a : Nat => a) xs
  obtain ⟨u1, u2⟩ := dedupAdj_spec _ hs
  have hmem : ∀ z, z ∈ npUnique xs ↔ z ∈ xs := by
    intro z
    unfold npUnique
    rw [u2 z]
    exact (isort_perm _ xs).mem_iff
  unfold mergeIndexList
  cases hu : npUnique xs with
  | nil =>
    exfalso
    cases xs with
    | nil => exact hne rfl
    | cons a t =>
      have := (hmem a).mpr (by simp)
      rw [hu] at this
      simp at this
  | cons x rest =>
    have hstrict : (x :: rest).Pairwise (· < ·) := by
      rw [← hu]; exact u1
    obtain ⟨c1, c2, c3⟩ := mergeRuns_spec rest x x (Nat.le_refl _) hstrict
    refine ⟨mergeRuns x x rest, rfl, ?_, hstrict, ?_, c2, fun p hp => (c3 p hp).2⟩
    · rw [c1, rangeOf_cons (Nat.lt_succ_self x), rangeOf_self]
      rfl
    · intro z; rw [← hu]; exact hmem z

end CTM.Sparse
