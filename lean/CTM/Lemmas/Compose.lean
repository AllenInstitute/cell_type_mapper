/-
  The election model composed with the level loop (design_notes/compose.md).

  * `electionVote`, the INTERPRETED oracle (tally, then `choose_node`, over the leaves of the
    children asked about), and `electionVote_ok`: it satisfies `VoteOK` / `PayloadOK` on any tree;
  * `NoRaise`, `NodeRecompute`, `StepOK`, `walk_stepOK`: where the code does not raise, every
    step of a cell's walk is C02's node-level statement (`Linked` carries a property along a
    walk, `Asked` is a question the level loop really puts; both are defined in
    `Lemmas/LevelLoop.lean`);
  * `NodeContract`, `nodeRecompute_contract`: the C03 contract of one level;
  * `stableTie` (an insertion sort of the columns by votes) and `exP`: a tie order and example
    parameters on `LevelLoop.exTree` that meet the hypotheses.

  The record of a cell in terms of its raw walk, for any oracle, is `OutBridge.cellResult_raw`.
-/
import CTM.Props.C02
import CTM.Props.C03.Bridge
import CTM.Lemmas.Election
import CTM.Lemmas.ListAux

namespace CTM.Compose
open CTM CTM.LevelLoop CTM.OutBridge CTM.Election CTM.Numeric

/-- everything `_run_type_assignment` reads besides the tree and the cell:
the reference profiles, the node's marker genes (as query / reference columns,
paired by name), and the nondeterminism (drawn subsets, tie order) -/
structure ElectionParams where
  /-- mean profile of a leaf cluster (reference gene order) -/
  means : Node → List Rat
  /-- the node's marker genes as columns of the query row -/
  qcols : Parent → List Nat
  /-- the same genes as columns of the reference rows -/
  rcols : Parent → List Nat
  /-- the subset drawn at each bootstrap iteration (per parent and cell) -/
  subsets : Parent → List Rat → List (List Nat)
  /-- the correlation value reported for (iteration, reference row) -/
  corrOf : Parent → List Rat → Nat → Nat → Rat
  /-- the row of `argsort(votes)[::-1]` for a vote row -/
  tie : Parent → List Rat → List Nat → List Nat
  /-- `n_assignments = n_runners_up + 1` -/
  nAssign : Nat

/-- `tree_as_leaves[child_level][child]` as the oracle receives it -/
def leavesOfKids (kl : List (Node × List Node)) (c : Node) : List Node := (kl.lookup c).getD []

/-- `assemble_query_data`: reference rows (leaves below the parent, sorted) and
their types (the child owning each) -/
def nodeRows (kl : List (Node × List Node)) : List Node × List Node :=
  assembleRows (kl.map (·.1)) (leavesOfKids kl)

def nodeRefs (P : ElectionParams) (p : Parent) (kl : List (Node × List Node)) : List (List Rat) :=
  (nodeRows kl).1.map (fun leaf => pick (P.rcols p) (P.means leaf))

def nodeQuery (P : ElectionParams) (p : Parent) (x : List Rat) : List Rat := pick (P.qcols p) x

/-- `_run_type_assignment` for one cell: assemble, tally over the drawn
subsets, aggregate, choose.  `none` = one of the Python `raise` sites of
`tally_votes` / `choose_node` is hit (subset index out of range, no reference
row, `n_assignments = 0`) or there is no iteration. -/
def nodeChoice (P : ElectionParams) (p : Parent) (kl : List (Node × List Node)) (x : List Rat) :
    Option Choice :=
  match tallyVotes (nodeRefs P p kl) (nodeQuery P p x) (P.subsets p x) (P.corrOf p x) with
  | .error _ => none
  | .ok tally =>
    match chooseCell (nodeRows kl).2 tally.1 tally.2 (P.subsets p x).length P.nAssign
        (P.tie p x (columns (nodeRows kl).2 tally.1 tally.2).1) with
    | .error _ => none
    | .ok ch => some ch

/-- placeholder answer where the code raises (the `Oracle` type is total): the
first child, probability 1; never reached under `NoRaise`.  `corr := some 0` and
`runnersUp := some []` make `PayloadOK` hold on this branch too. -/
def fallbackVote (kl : List (Node × List Node)) : Vote :=
  { assignment := ((kl.head?).map (·.1)).getD 0, prob := 1, corr := some 0, runnersUp := some [] }

/-- the INTERPRETED oracle of the level loop -/
def electionVote (P : ElectionParams) : Oracle (List Rat) := fun p kl x =>
  match nodeChoice P p kl x with
  | some ch => voteOfChoice ch
  | none => fallbackVote kl

/-- the tie order handed in is one numpy's argsort may return -/
def TieOK (P : ElectionParams) : Prop := ∀ p x V, ValidOrder V (P.tie p x V)

/-! ### `nodeRows`: the reference rows of `assemble_query_data` -/

theorem leavesOfKids_kidsOf (t : RawTree) (l : Level) (kids : List Node) (c : Node) :
    c ∈ kids → leavesOfKids (kidsOf t l kids) c = t.asLeaves l c := by
  induction kids with
  | nil => exact fun h => nomatch h
  | cons k kids ih =>
    intro h
    unfold leavesOfKids kidsOf
    rw [List.map_cons, List.lookup_cons]
    by_cases e : c = k
    · rw [e, beq_self_eq_true]; rfl
    · rw [beq_false_of_ne e]
      exact ih ((List.mem_cons.1 h).resolve_left e)

theorem nodeRows_nodup (kl : List (Node × List Node)) : (nodeRows kl).1.Nodup :=
  (assembleRows_spec _ _).1.imp Nat.ne_of_lt

theorem nodeRows_mem (kl : List (Node × List Node)) (x : Node) :
    x ∈ (nodeRows kl).1 ↔ ∃ c ∈ kl.map (fun (e : Node × List Node) => e.1), x ∈ leavesOfKids kl c :=
  (assembleRows_spec _ _).2.1 x

theorem nodeRows_length (kl : List (Node × List Node)) :
    (nodeRows kl).2.length = (nodeRows kl).1.length :=
  (assembleRows_spec _ _).2.2.1

theorem nodeRows_type (kl : List (Node × List Node)) (i : Nat) (hi : i < (nodeRows kl).1.length) :
    (nodeRows kl).2.getD i 0 ∈ kl.map (fun (e : Node × List Node) => e.1) ∧
    (nodeRows kl).1[i] ∈ leavesOfKids kl ((nodeRows kl).2.getD i 0) :=
  (assembleRows_spec _ _).2.2.2 i hi

/-- "types ⊆ kids": every reference type `assemble_query_data` records is one
of the children the oracle was asked about — for ANY tree -/
theorem nodeRows_types_sub (kl : List (Node × List Node)) :
    ∀ a ∈ (nodeRows kl).2, a ∈ kl.map (·.1) := by
  intro a ha
  obtain ⟨i, hi, rfl⟩ := List.mem_iff_getElem.1 ha
  have h := (nodeRows_type kl i (nodeRows_length kl ▸ hi)).1
  rwa [List.getD_eq_getElem?_getD, List.getElem?_eq_getElem hi, Option.getD_some] at h

theorem mem_nodeRows_kidsOf {t : RawTree} {l : Level} {kids : List Node} {a lf : Node}
    (ha : a ∈ kids) (hlf : lf ∈ t.asLeaves l a) : lf ∈ (nodeRows (kidsOf t l kids)).1 :=
  (nodeRows_mem _ lf).2 ⟨a, by rwa [map_fst_kidsOf], by rwa [leavesOfKids_kidsOf t l kids a ha]⟩

theorem nodeRefs_length (P : ElectionParams) (p : Parent) (kl : List (Node × List Node)) :
    (nodeRefs P p kl).length = (nodeRows kl).2.length := by
  rw [nodeRows_length, nodeRefs, List.length_map]

/-! ### the oracle's answer: `VoteOK` and `PayloadOK` on any tree -/

theorem nodeChoice_eq_some {P : ElectionParams} {p : Parent} {kl : List (Node × List Node)}
    {x : List Rat} {ch : Choice} (h : nodeChoice P p kl x = some ch) :
    ∃ tally, tallyVotes (nodeRefs P p kl) (nodeQuery P p x) (P.subsets p x) (P.corrOf p x)
        = .ok tally ∧
      chooseCell (nodeRows kl).2 tally.1 tally.2 (P.subsets p x).length P.nAssign
        (P.tie p x (columns (nodeRows kl).2 tally.1 tally.2).1) = .ok ch ∧
      tally.1.length = (nodeRows kl).2.length := by
  unfold nodeChoice at h
  split at h
  · cases h
  · next tally ht =>
    split at h
    · cases h
    · next ch' hch =>
      cases h
      exact ⟨tally, ht, hch, by rw [tallyVotes_length ht, nodeRefs_length]⟩

theorem electionVote_of_some {P : ElectionParams} {p : Parent} {kl : List (Node × List Node)}
    {x : List Rat} {ch : Choice} (h : nodeChoice P p kl x = some ch) :
    electionVote P p kl x = voteOfChoice ch := by
  rw [electionVote, h]

theorem electionVote_of_none {P : ElectionParams} {p : Parent} {kl : List (Node × List Node)}
    {x : List Rat} (h : nodeChoice P p kl x = none) : electionVote P p kl x = fallbackVote kl := by
  rw [electionVote, h]

/-- also where the code raises: the placeholder names the first child -/
theorem electionVote_mem (P : ElectionParams) (htie : TieOK P) (p : Parent)
    {kl : List (Node × List Node)} (hne : kl ≠ []) (x : List Rat) :
    (electionVote P p kl x).assignment ∈ kl.map (·.1) := by
  cases hch : nodeChoice P p kl x with
  | some ch =>
    obtain ⟨tally, _, hc, hlen⟩ := nodeChoice_eq_some hch
    rw [electionVote_of_some hch]
    exact nodeRows_types_sub _ _ (C03.chooseCell_winner_mem _ _ _ _ _ _ ch hlen (htie _ _ _) hc)
  | none =>
    rw [electionVote_of_none hch]
    obtain ⟨e, kl', rfl⟩ := List.exists_cons_of_ne_nil hne
    exact List.mem_cons_self

theorem electionVote_payload (P : ElectionParams) (htie : TieOK P) (p : Parent)
    (kl : List (Node × List Node)) (x : List Rat) :
    PayloadOKVote (P.nAssign - 1) (kl.map (·.1)) (electionVote P p kl x) := by
  cases hch : nodeChoice P p kl x with
  | some ch =>
    obtain ⟨tally, _, hc, hlen⟩ := nodeChoice_eq_some hch
    rw [electionVote_of_some hch]
    exact C03.chooseCell_payloadOK _ _ _ _ _ _ ch _ hlen (htie _ _ _) (nodeRows_types_sub kl) hc
  | none =>
    rw [electionVote_of_none hch]
    refine ⟨rfl, fun r hr => ?_⟩
    cases hr
    exact ⟨Nat.zero_le _, fun _ h => nomatch h⟩

/-- both hypotheses of the pipeline theorems, on any tree, whether the code raises or not -/
theorem electionVote_ok (t : RawTree) (P : ElectionParams) (htie : TieOK P) :
    VoteOK t (electionVote P) ∧ PayloadOK (P.nAssign - 1) t (electionVote P) := by
  refine ⟨fun p cl kids c hk => ?_, fun p cl kids c _ => ?_⟩
  · have hne : kidsOf t cl kids ≠ [] := by
      intro e
      have := map_fst_kidsOf t cl kids
      rw [e] at this
      subst this
      simp at hk
    have := electionVote_mem P htie p hne c
    rwa [map_fst_kidsOf] at this
  · have := electionVote_payload P htie p (kidsOf t cl kids) c
    rwa [map_fst_kidsOf] at this

/-! ### where the code does not raise: C02's node-level statement at every step of a walk -/

/-- the questions on which neither `tally_votes` nor `choose_node` raises -/
structure NoRaise (P : ElectionParams) (p : Parent) (kl : List (Node × List Node))
    (x : List Rat) : Prop where
  iters : P.subsets p x ≠ []
  range : ∀ s ∈ P.subsets p x, ∀ i ∈ s, i < (P.qcols p).length ∧ i < (P.rcols p).length
  rows : (nodeRows kl).1 ≠ []
  nAssign : 1 ≤ P.nAssign

theorem NoRaise.query_range {P : ElectionParams} {p : Parent} {kl : List (Node × List Node)}
    {x : List Rat} (h : NoRaise P p kl x) :
    ∀ s ∈ P.subsets p x, ∀ i ∈ s, i < (nodeQuery P p x).length := fun s hs i hi => by
  rw [nodeQuery, pick_length]
  exact (h.range s hs i hi).1

theorem NoRaise.refs_range {P : ElectionParams} {p : Parent} {kl : List (Node × List Node)}
    {x : List Rat} (h : NoRaise P p kl x) :
    ∀ s ∈ P.subsets p x, ∀ m ∈ nodeRefs P p kl, ∀ i ∈ s, i < m.length := fun s hs m hm i hi => by
  obtain ⟨leaf, _, rfl⟩ := List.mem_map.1 hm
  rw [pick_length]
  exact (h.range s hs i hi).2

theorem nodeChoice_isSome (P : ElectionParams) (htie : TieOK P) (p : Parent)
    (kl : List (Node × List Node)) (x : List Rat) (h : NoRaise P p kl x) :
    ∃ ch, nodeChoice P p kl x = some ch := by
  have hrows : (nodeRows kl).2 ≠ [] := fun e =>
    h.rows (List.eq_nil_of_length_eq_zero (by rw [← nodeRows_length, e]; rfl))
  have hrefs : nodeRefs P p kl ≠ [] := fun e =>
    hrows (List.eq_nil_of_length_eq_zero (by rw [← nodeRefs_length P p, e]; rfl))
  have hiter : ∀ s ∈ P.subsets p x,
      ∃ r, tallyIter (nodeRefs P p kl) (nodeQuery P p x) s = .ok r := fun s hs =>
    tallyIter_isOk _ _ _ hrefs (h.query_range s hs) (fun m hm => h.refs_range s hs m hm)
  obtain ⟨near, hnear⟩ := ListAux.mapM_ok_of_forall hiter
  obtain ⟨tally, ht⟩ : ∃ tally, tallyVotes (nodeRefs P p kl) (nodeQuery P p x) (P.subsets p x)
      (P.corrOf p x) = .ok tally := ⟨_, by rw [tallyVotes_eq, hnear]; rfl⟩
  obtain ⟨ch, hch⟩ := chooseCell_isOk (nodeRows kl).2 tally.1 tally.2 (P.subsets p x).length
    P.nAssign _ (by rw [tallyVotes_length ht, nodeRefs_length]) hrows
    (fun e => h.iters (List.eq_nil_of_length_eq_zero e)) h.nAssign (htie p x _)
  refine ⟨ch, ?_⟩
  unfold nodeChoice
  rw [ht]
  dsimp only  -- reduces the outer `match`
  rw [hch]

/-- C02's node-level statement for the dict `e` written for cell `x` under
parent `p` with children-and-leaves `kl`: `e` is the write-back of the model's
`choose_node` on the tally over the drawn subsets (so every node-level theorem
of `Props/C02.lean` / `Props/C03.lean` applies: the model equations, the valid
tie order and the length fact are their hypotheses), and — `C02.recompute` —
recomputing per iteration the arg-max leaf (`near`) reproduces it: the
assignment is a reference type owning the largest number of arg-max
iterations, the probability is that number over the iteration count. -/
def NodeRecompute (P : ElectionParams) (p : Parent) (kl : List (Node × List Node))
    (x : List Rat) (e : Entry) : Prop :=
  ∃ (tally : List Nat × List Rat) (ch : Choice) (near : List (Nat × Rat)),
    tallyVotes (nodeRefs P p kl) (nodeQuery P p x) (P.subsets p x) (P.corrOf p x) = .ok tally ∧
    ValidOrder (columns (nodeRows kl).2 tally.1 tally.2).1
      (P.tie p x (columns (nodeRows kl).2 tally.1 tally.2).1) ∧
    tally.1.length = (nodeRows kl).2.length ∧
    chooseCell (nodeRows kl).2 tally.1 tally.2 (P.subsets p x).length P.nAssign
      (P.tie p x (columns (nodeRows kl).2 tally.1 tally.2).1) = .ok ch ∧
    e = { assignment := ch.winner, prob := ch.prob, corr := some ch.avgCorr,
          ru := some (keepRunners ch.runners) } ∧
    (P.subsets p x).mapM (tallyIter (nodeRefs P p kl) (nodeQuery P p x)) = .ok near ∧
    near.length = (P.subsets p x).length ∧
    ch.winner ∈ (nodeRows kl).2 ∧
    (∀ ty ∈ (nodeRows kl).2,
      (near.filter (fun r => (nodeRows kl).2.getD r.1 0 == ty)).length ≤
      (near.filter (fun r => (nodeRows kl).2.getD r.1 0 == ch.winner)).length) ∧
    ch.prob = ((near.filter (fun r => (nodeRows kl).2.getD r.1 0 == ch.winner)).length : Rat) /
      ((P.subsets p x).length : Rat)

theorem electionVote_nodeRecompute (P : ElectionParams) (htie : TieOK P) (p : Parent)
    (kl : List (Node × List Node)) (x : List Rat) (hnr : NoRaise P p kl x) :
    NodeRecompute P p kl x (entryOf (electionVote P p kl x)) := by
  obtain ⟨ch, hch⟩ := nodeChoice_isSome P htie p kl x hnr
  obtain ⟨tally, ht, hc, hlen⟩ := nodeChoice_eq_some hch
  have hv := htie p x (columns (nodeRows kl).2 tally.1 tally.2).1
  obtain ⟨near, hn⟩ := C02.recompute _ _ _ _ _ _ _ ch tally (nodeRefs_length P p kl).symm ht hv hc
  rw [electionVote_of_some hch, entryOf_voteOfChoice]
  exact ⟨tally, ch, near, ht, hv, hlen, hc, rfl, hn⟩

/-- on every question the level loop really puts with at least two children
the code does not raise -/
def NoRaiseAll (P : ElectionParams) (t : RawTree) : Prop :=
  ∀ (p : Parent) (l : Level) (kids : List Node) (c : List Rat), Asked t p l kids →
    2 ≤ kids.length → NoRaise P p (kidsOf t l kids) c

/-- what one level of a cell's walk is: under a single-child parent the
constants of the trivial branch, otherwise the node-level statement of C02 -/
def StepOK (P : ElectionParams) (t : RawTree) (c : List Rat) (p : Parent) (l : Level)
    (e : Entry) : Prop :=
  ∃ kids, Asked t p l kids ∧
    ((∃ only, kids = [only] ∧
        e = { assignment := only, prob := 1, corr := none, ru := some ([], [], []) }) ∨
     (2 ≤ kids.length ∧ NodeRecompute P p (kidsOf t l kids) c e))

theorem walk_stepOK (P : ElectionParams) (htie : TieOK P) {t : RawTree} (hwf : wfb t = true)
    (hnr : NoRaiseAll P t) (c : List Rat) (es : List (Level × Entry))
    (h : walkFrom t (electionVote P) c t.hierarchy none = .ok es) :
    Linked (StepOK P t c) none es := by
  obtain ⟨es', h', _, hl⟩ := walk_steps hwf (electionVote_ok t P htie).1 c
  cases h'.symm.trans h
  refine Linked.imp ?_ none es hl
  rintro p l e ⟨kids, hask, rfl⟩
  refine ⟨kids, hask, ?_⟩
  obtain ⟨_, _, _, _, hne, _⟩ := id hask  -- `id`: `hask` itself stays
  rcases kids with _ | ⟨a, _ | ⟨b, rest⟩⟩
  · exact absurd rfl hne
  · exact Or.inl ⟨a, rfl, rfl⟩
  · have h2 : 2 ≤ (a :: b :: rest).length := Nat.le_add_left 2 _
    exact Or.inr ⟨h2, electionVote_nodeRecompute P htie p _ c (hnr p l _ c hask h2)⟩

/-! ### the C03 contract of one level -/

/-- every reported per-iteration correlation lies in [-1, 1] (it is a Pearson
correlation: `C03.corr_range`) -/
def CorrOK (P : ElectionParams) : Prop := ∀ p x it j, |P.corrOf p x it j| ≤ 1

/-- the C03 contract of one directly assigned level where a choice was made
(`kl` = the children of the parent with their leaves, `iters` iterations,
`nA - 1` runners-up requested) -/
def NodeContract (nA iters : Nat) (kl : List (Node × List Node)) (e : Entry) : Prop :=
  e.assignment ∈ kl.map (·.1) ∧
  (∃ k : Nat, e.prob * (iters : Rat) = (k : Rat) ∧ 1 ≤ k ∧ k ≤ iters) ∧
  0 < e.prob ∧ e.prob ≤ 1 ∧
  (∃ q, e.corr = some q ∧ |q| ≤ 1) ∧
  ∃ ra rc rp, e.ru = some (ra, rc, rp) ∧
    ra.length = rc.length ∧ rc.length = rp.length ∧ ra.length ≤ nA - 1 ∧
    ra.Nodup ∧ e.assignment ∉ ra ∧ (∀ a ∈ ra, a ∈ kl.map (·.1)) ∧
    (∀ q ∈ rp, 0 < q ∧ q ≤ e.prob) ∧ rp.Pairwise (· ≥ ·) ∧
    (∀ q ∈ rc, |q| ≤ 1) ∧
    e.prob + rp.sum ≤ 1 ∧
    ((uniqSorted (nodeRows kl).2).length ≤ nA → e.prob + rp.sum = 1)

theorem nodeRecompute_contract (P : ElectionParams) (hcorr : CorrOK P) (p : Parent)
    (kl : List (Node × List Node)) (x : List Rat) (e : Entry)
    (h : NodeRecompute P p kl x e) :
    NodeContract P.nAssign (P.subsets p x).length kl e := by
  obtain ⟨tally, ch, _, ht, hv, hlen, hc, rfl, _, _, hwin, _, _⟩ := h
  have hsum := tallyVotes_sum ht
  obtain ⟨k, hk1, hk2, hk3, hk4, hk5⟩ := C03.prob_whole _ _ _ _ _ _ ch hlen hsum hv hc
  obtain ⟨r1, r2, r3, r4, r5, r6, r7, r8⟩ := C03.runners _ _ _ _ _ _ ch hlen hv hc
  obtain ⟨s1, s2⟩ := C03.sum_le_one _ _ _ _ _ _ ch hlen hsum hv hc
  -- correlations: the tally is `tallyCell` of rows with |corr| ≤ 1
  obtain ⟨near, _, rfl⟩ := tallyVotes_ok ht
  have hrows : ∀ r ∈ Election.rowsOf near (P.corrOf p x), |r.2| ≤ 1 := fun r hr => by
    obtain ⟨q, _, rfl⟩ := List.mem_map.1 hr
    exact hcorr p x _ _
  obtain ⟨a1, _, a3⟩ := C03.avg_corr_range _ _ _ hrows _ _ _ ch hc
  exact ⟨nodeRows_types_sub kl _ hwin, ⟨k, hk1, hk2, hk3⟩, hk4, hk5, ⟨_, rfl, a1⟩, _, _, _, rfl,
    r1, r2, r3, r4, r5, fun a ha => nodeRows_types_sub kl _ (r6 a ha), r7, r8, a3, s1,
    fun hle => s2 (by rw [columns_types_length]; exact hle)⟩

/-! ### a tie order and parameters that meet the hypotheses (non-vacuity examples) -/

/-- insert column `i` into a list of columns ordered by non-increasing votes
(structural recursion: evaluates in the kernel) -/
def insByVotes (V : List Nat) (i : Nat) : List Nat → List Nat
  | [] => [i]
  | j :: js => if V.getD j 0 ≤ V.getD i 0 then i :: j :: js else j :: insByVotes V i js

def sortByVotes (V : List Nat) : List Nat → List Nat
  | [] => []
  | i :: is => insByVotes V i (sortByVotes V is)

/-- a tie order that is always valid (insertion sort of the columns by
decreasing votes): `TieOK` is satisfiable.  The example parameters are run by `decide`, so the
order has to evaluate in the kernel; `Election.validOrder_exists` has the bare existence from
`mergeSort`, which does not. -/
def stableTie (V : List Nat) : List Nat := sortByVotes V (List.range V.length)

theorem perm_insByVotes (V : List Nat) (i : Nat) (l : List Nat) :
    (insByVotes V i l).Perm (i :: l) := by
  induction l with
  | nil => exact List.Perm.refl _
  | cons j js ih =>
    unfold insByVotes
    split
    · exact List.Perm.refl _
    · exact (ih.cons j).trans (List.Perm.swap i j js)

theorem perm_sortByVotes (V : List Nat) (l : List Nat) : (sortByVotes V l).Perm l := by
  induction l with
  | nil => exact List.Perm.refl _
  | cons i is ih => exact (perm_insByVotes V i _).trans (ih.cons i)

theorem sorted_insByVotes (V : List Nat) (i : Nat) (l : List Nat)
    (h : l.Pairwise (fun a b => V.getD b 0 ≤ V.getD a 0)) :
    (insByVotes V i l).Pairwise (fun a b => V.getD b 0 ≤ V.getD a 0) := by
  induction l with
  | nil => exact List.pairwise_singleton _ _
  | cons j js ih =>
    unfold insByVotes
    rw [List.pairwise_cons] at h
    split
    · next hle =>
      refine List.pairwise_cons.2 ⟨fun a ha => ?_, List.pairwise_cons.2 h⟩
      rcases List.mem_cons.1 ha with rfl | ha
      · exact hle
      · exact Nat.le_trans (h.1 a ha) hle
    · next hnle =>
      refine List.pairwise_cons.2 ⟨fun a ha => ?_, ih h.2⟩
      rcases List.mem_cons.1 ((perm_insByVotes V i js).mem_iff.1 ha) with rfl | h'
      · exact Nat.le_of_not_le hnle
      · exact h.1 a h'

theorem sorted_sortByVotes (V : List Nat) (l : List Nat) :
    (sortByVotes V l).Pairwise (fun a b => V.getD b 0 ≤ V.getD a 0) := by
  induction l with
  | nil => exact List.Pairwise.nil
  | cons i is ih => exact sorted_insByVotes V i _ ih

theorem stableTie_valid (V : List Nat) : ValidOrder V (stableTie V) := by
  refine ⟨perm_sortByVotes V _, ?_⟩
  rw [List.pairwise_map]
  exact (sorted_sortByVotes V _).imp (fun h => h)

/-- parameters for `LevelLoop.exTree` (leaves 30, 31, 32): three genes, two
iterations, one runner-up requested -/
def exP : ElectionParams :=
  { means := fun leaf => if leaf = 30 then [1, 2, 4] else if leaf = 31 then [3, 1, 2]
      else [2, 2, 9],
    qcols := fun _ => [2, 0, 1], rcols := fun _ => [0, 1, 2],
    subsets := fun _ _ => [[0, 1, 2], [0, 2]],
    corrOf := fun _ _ _ _ => 1 / 2,
    tie := fun _ _ V => stableTie V,
    nAssign := 2 }

theorem exP_tie : TieOK exP := fun _ _ V => stableTie_valid V

/-- the run of the non-vacuity witnesses: two cells on two workers, chunks
gathered in reverse order -/
theorem exRun_ok (P : ElectionParams) (htie : TieOK P) :
    mapPipeline exTree { chunkSize := 1, nProc := 2 } (electionVote P) [7, 3]
        [[2, 4, 1], [2, 9, 2]] [1, 0] =
      .ok ((List.zipWith (mkRecord exTree (electionVote P)) [7, 3] [[2, 4, 1], [2, 9, 2]]).map
        (markDirect exTree.hierarchy)) :=
  mapPipeline_plain_ok exTree _ _ _ _ _ rfl rfl exTree_wf (electionVote_ok exTree P htie).1 rfl
    (by decide) (by decide) (by decide) (by decide)

theorem exP_iters (p : Parent) (x : List Rat) : exP.subsets p x ≠ [] := List.cons_ne_nil _ _

theorem exP_range (p : Parent) (x : List Rat) : ∀ s ∈ exP.subsets p x, ∀ i ∈ s,
    i < (exP.qcols p).length ∧ i < (exP.rcols p).length := by
  show ∀ s ∈ [[0, 1, 2], [0, 2]], ∀ i ∈ s, i < 3 ∧ i < 3
  decide

theorem exP_corr : CorrOK exP := fun _ _ _ _ => by
  show |(1 / 2 : Rat)| ≤ 1
  rw [abs_of_pos (by norm_num)]; norm_num

theorem exP_noRaise : NoRaiseAll exP exTree := by
  -- every parent of a level pair of `exTree` has a leaf below one of its children
  have key : ∀ pl ∈ levelPairs exTree, ∀ p ∈ parentNodeList exTree pl.1,
      (match exTree.children p with
       | .ok kids => !(nodeRows (kidsOf exTree pl.2 kids)).1.isEmpty
       | .error _ => true) = true := by decide +kernel
  rintro p l kids c ⟨plo, hmem, hp, hk, _, _⟩ _
  have := key (plo, l) hmem p hp
  rw [hk] at this
  refine ⟨exP_iters p c, exP_range p c, fun e => ?_, Nat.le_succ 1⟩
  simp only [e] at this
  cases this

end CTM.Compose
