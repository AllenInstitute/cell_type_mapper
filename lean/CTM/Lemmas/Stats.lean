/-
  Lemmas about the writer of the reference-statistics model (`CTM.Model.Stats`) behind
  `CTM.Props.C09`.

  The accumulators form a commutative monoid (`Row.add`, unit `Row.empty`), so the cells of an
  output row can be summed in any order and grouping (`rowSum_append`, `rowSum_perm`); mean and
  variance are read off the running sums `Σx`, `Σx²`.  The chunk ranges tile each file and
  `workSplit` deals them into at most `n_processors` non-empty loads.  `directBuf` is the file
  direct computation gives; every route the code takes to a file is an equation that ends at it:
  here the chunks dealt to workers and merged (`precompute_eq_direct`), in `StatsFiles.lean` a
  finer file collapsed and a file read back and aggregated.  Last, accumulators of finite width:
  `precomputeW` is `precompute` whenever the totals fit, and they fit with fewer than `2^bits` cells.
-/
import CTM.Model.Stats
import CTM.Lemmas.ListAux
import CTM.Lemmas.Chunking
import Mathlib.Tactic.Ring
import Mathlib.Data.List.Perm.Basic
import Mathlib.Data.List.Nodup
import Mathlib.Algebra.Order.Field.Rat

namespace CTM.Stats

/-! ### the accumulators: `+=` on the arrays (`GStat.add`, `vadd`, `Row.add`) is associative and
commutative, with the empty row as unit and the `np.zeros` row as unit at its own width -/

theorem GStat.ext' {a b : GStat} (h1 : a.sum = b.sum) (h2 : a.sumsq = b.sumsq)
    (h3 : a.gt0 = b.gt0) (h4 : a.gt1 = b.gt1) (h5 : a.ge1 = b.ge1) : a = b := by
  cases a; cases b; simp_all

theorem GStat.add_comm (a b : GStat) : a.add b = b.add a := by
  simp only [GStat.add, _root_.add_comm]

theorem GStat.add_assoc (a b c : GStat) : (a.add b).add c = a.add (b.add c) := by
  simp only [GStat.add, _root_.add_assoc]

theorem GStat.zero_add (a : GStat) : GStat.zero.add a = a := by
  simp only [GStat.add, GStat.zero, _root_.zero_add]

theorem GStat.add_zero (a : GStat) : a.add GStat.zero = a := by
  simp only [GStat.add, GStat.zero, _root_.add_zero]

@[simp] theorem vadd_nil_left (x : List GStat) : vadd [] x = x := by
  simp [vadd]

@[simp] theorem vadd_nil_right (x : List GStat) : vadd x [] = x := by
  cases x <;> simp [vadd]

@[simp] theorem vadd_cons (x y : GStat) (xs ys : List GStat) :
    vadd (x :: xs) (y :: ys) = x.add y :: vadd xs ys := by
  simp [vadd]

theorem vadd_comm (x y : List GStat) : vadd x y = vadd y x := by
  induction x generalizing y with
  | nil => simp
  | cons a x ih =>
    cases y with
    | nil => simp
    | cons b y => simp [GStat.add_comm a b, ih y]

theorem vadd_assoc (x y z : List GStat) : vadd (vadd x y) z = vadd x (vadd y z) := by
  induction x generalizing y z with
  | nil => simp
  | cons a x ih =>
    cases y with
    | nil => simp
    | cons b y =>
      cases z with
      | nil => simp
      | cons c z => simp [GStat.add_assoc, ih]

theorem vadd_length (x y : List GStat) : (vadd x y).length = max x.length y.length := by
  induction x generalizing y with
  | nil => simp
  | cons a x ih =>
    cases y with
    | nil => simp
    | cons b y =>
      rw [vadd_cons, List.length_cons, ih, List.length_cons, List.length_cons]
      exact (Nat.succ_max_succ _ _).symm

theorem vadd_getElem? (x y : List GStat) (j : Nat) :
    (vadd x y)[j]? = Option.merge GStat.add x[j]? y[j]? := by
  induction x generalizing y j with
  | nil => rw [vadd_nil_left, List.getElem?_nil, Option.merge_none_left]
  | cons a x ih =>
    cases y with
    | nil => rw [vadd_nil_right, List.getElem?_nil, Option.merge_none_right]
    | cons b y =>
      cases j with
      | zero => rfl
      | succ j => exact ih y j

theorem vadd_mem_left (x y : List GStat) (s : GStat) (hs : s ∈ x) :
    ∃ t ∈ vadd x y, s.gt0 ≤ t.gt0 ∧ s.gt1 ≤ t.gt1 ∧ s.ge1 ≤ t.ge1 := by
  obtain ⟨j, hj⟩ := List.getElem?_of_mem hs
  have h := vadd_getElem? x y j
  rw [hj] at h
  cases hy : y[j]? with
  | none =>
    rw [hy] at h
    exact ⟨s, List.mem_of_getElem? h, Nat.le_refl _, Nat.le_refl _, Nat.le_refl _⟩
  | some b =>
    rw [hy] at h
    exact ⟨s.add b, List.mem_of_getElem? h, Nat.le_add_right .., Nat.le_add_right ..,
      Nat.le_add_right ..⟩

theorem vadd_replicate_zero_left (k : Nat) : ∀ (xs : List GStat), k ≤ xs.length →
    vadd (List.replicate k GStat.zero) xs = xs := by
  induction k with
  | zero => intro xs _; cases xs <;> simp
  | succ k ih =>
    intro xs h
    cases xs with
    | nil => simp at h
    | cons x xs =>
      simp only [List.replicate_succ, vadd, GStat.zero_add]
      rw [ih xs (by simpa using h)]

theorem Row.ext' {a b : Row} (h1 : a.n = b.n) (h2 : a.genes = b.genes) : a = b := by
  cases a; cases b; simp_all

theorem Row.add_comm (a b : Row) : a.add b = b.add a := by
  apply Row.ext' <;> simp only [Row.add]
  · omega
  · exact vadd_comm _ _

theorem Row.add_assoc (a b c : Row) : (a.add b).add c = a.add (b.add c) := by
  apply Row.ext' <;> simp only [Row.add]
  · omega
  · exact vadd_assoc _ _ _

@[simp] theorem Row.empty_add (a : Row) : Row.empty.add a = a := by
  apply Row.ext' <;> simp [Row.add, Row.empty]

@[simp] theorem Row.add_empty (a : Row) : a.add Row.empty = a := by
  apply Row.ext' <;> simp [Row.add, Row.empty]

theorem Row.add_left_comm (a b c : Row) : a.add (b.add c) = b.add (a.add c) := by
  rw [← Row.add_assoc, Row.add_comm a b, Row.add_assoc]

theorem Row.zero_add_of_le (g : Nat) (r : Row) (h : g ≤ r.genes.length) :
    (Row.zero g).add r = r := by
  apply Row.ext' <;> simp [Row.add, Row.zero, vadd_replicate_zero_left g _ h]

theorem Row.zero_add_distrib (g : Nat) (x y : Row) :
    ((Row.zero g).add x).add ((Row.zero g).add y) = (Row.zero g).add (x.add y) := by
  rw [Row.add_assoc, Row.add_left_comm x, ← Row.add_assoc (Row.zero g) (Row.zero g),
    Row.zero_add_of_le g _ (by simp [Row.zero])]

/-! ### `rowSum`: the rows of a block may be added in any order and grouping, also onto a zeroed row -/

@[simp] theorem rowSum_nil : rowSum [] = Row.empty := rfl
@[simp] theorem rowSum_cons (r : Row) (rs : List Row) : rowSum (r :: rs) = r.add (rowSum rs) := rfl

theorem rowSum_append (a b : List Row) : rowSum (a ++ b) = (rowSum a).add (rowSum b) := by
  induction a with
  | nil => simp
  | cons r a ih => simp [ih, Row.add_assoc]

theorem rowSum_perm {a b : List Row} (h : a.Perm b) : rowSum a = rowSum b := by
  induction h with
  | nil => rfl
  | cons x _ ih => simp [ih]
  | swap x y l => simp [Row.add_left_comm]
  | trans _ _ ih1 ih2 => exact ih1.trans ih2

theorem rowSum_flatten (ls : List (List Row)) : rowSum ls.flatten = rowSum (ls.map rowSum) := by
  induction ls with
  | nil => rfl
  | cons l ls ih => simp [rowSum_append, ih]

theorem foldl_Row_add (rows : List Row) (a : Row) : rows.foldl Row.add a = a.add (rowSum rows) := by
  induction rows generalizing a with
  | nil => simp
  | cons r rows ih => simp [ih, Row.add_assoc]

theorem rowSum_map_zero_add (g : Nat) {α : Type} (F : α → Row) (L : List α) (hL : L ≠ []) :
    rowSum (L.map (fun x => (Row.zero g).add (F x))) = (Row.zero g).add (rowSum (L.map F)) := by
  induction L with
  | nil => exact absurd rfl hL
  | cons x L ih =>
    cases L with
    | nil => simp
    | cons y L => rw [List.map_cons, rowSum_cons, ih (by simp), Row.zero_add_distrib]; rfl

theorem zero_add_rowSum_map_zero_add (g : Nat) {α : Type} (F : α → Row) (L : List α) :
    (Row.zero g).add (rowSum (L.map (fun x => (Row.zero g).add (F x))))
      = (Row.zero g).add (rowSum (L.map F)) := by
  cases L with
  | nil => rfl
  | cons x L =>
    rw [rowSum_map_zero_add g F _ (List.cons_ne_nil x L), ← Row.add_assoc,
      Row.zero_add_of_le g _ (by simp [Row.zero])]

theorem rowSum_n (rows : List Row) : (rowSum rows).n = (rows.map (·.n)).sum := by
  induction rows with
  | nil => rfl
  | cons r rows ih => simp [Row.add, ih]

theorem rowSum_genes_length_le (g : Nat) (rows : List Row) (hlen : ∀ r ∈ rows, r.genes.length ≤ g) :
    (rowSum rows).genes.length ≤ g := by
  induction rows with
  | nil => simp [Row.empty]
  | cons r rows ih =>
    have := ih (fun r hr => hlen r (List.mem_cons_of_mem _ hr))
    have := hlen r List.mem_cons_self
    rw [rowSum_cons, Row.add, vadd_length]; omega

theorem zero_add_rowSum_genes_length (g : Nat) (rows : List Row) (hlen : ∀ r ∈ rows, r.genes.length ≤ g) :
    ((Row.zero g).add (rowSum rows)).genes.length = g := by
  have := rowSum_genes_length_le g rows hlen
  simp only [Row.add, Row.zero, vadd_length, List.length_replicate]; omega

theorem zero_add_rowSum (g : Nat) (rows : List Row) (hne : rows ≠ [])
    (hlen : ∀ r ∈ rows, r.genes.length = g) : (Row.zero g).add (rowSum rows) = rowSum rows := by
  cases rows with
  | nil => exact absurd rfl hne
  | cons r rows =>
    rw [rowSum_cons, ← Row.add_assoc, Row.zero_add_of_le g r (hlen r List.mem_cons_self).ge]

/-! ### `summary_stats_for_chunk` gene by gene: entry `j` of the block's row is the accumulator of
column `j` of the block -/

def rowsColumn (rows : List Row) (j : Nat) : GStat :=
  (rows.map (fun r => r.genes.getD j GStat.zero)).foldr GStat.add GStat.zero

theorem zero_add_rowSum_genes (g : Nat) (rows : List Row)
    (hlen : ∀ r ∈ rows, r.genes.length = g) (j : Nat) (hj : j < g) :
    ((Row.zero g).add (rowSum rows)).genes[j]? = some (rowsColumn rows j) := by
  induction rows with
  | nil => simp [Row.zero, hj, rowsColumn]
  | cons r rows ih =>
    have hr : r.genes[j]? = some (r.genes.getD j GStat.zero) := by
      simp [List.getD_eq_getElem?_getD, hlen r List.mem_cons_self, hj]
    rw [rowSum_cons, Row.add_left_comm, Row.add, vadd_getElem?, hr,
      ih (fun r hr => hlen r (List.mem_cons_of_mem _ hr))]
    rfl

theorem foldr_add_fields {α : Type} (f : α → GStat) (L : List α) :
    ((L.map f).foldr GStat.add GStat.zero).sum = (L.map (fun x => (f x).sum)).sum ∧
    ((L.map f).foldr GStat.add GStat.zero).sumsq = (L.map (fun x => (f x).sumsq)).sum ∧
    ((L.map f).foldr GStat.add GStat.zero).gt0 = (L.map (fun x => (f x).gt0)).sum ∧
    ((L.map f).foldr GStat.add GStat.zero).gt1 = (L.map (fun x => (f x).gt1)).sum ∧
    ((L.map f).foldr GStat.add GStat.zero).ge1 = (L.map (fun x => (f x).ge1)).sum := by
  induction L with
  | nil => simp [GStat.zero]
  | cons a L ih =>
    obtain ⟨h1, h2, h3, h4, h5⟩ := ih
    simp [GStat.add, h1, h2, h3, h4, h5]

theorem rowsColumn_fields (rows : List Row) (j : Nat) :
    (rowsColumn rows j).sum = (rows.map (fun r => (r.genes.getD j GStat.zero).sum)).sum ∧
    (rowsColumn rows j).sumsq = (rows.map (fun r => (r.genes.getD j GStat.zero).sumsq)).sum ∧
    (rowsColumn rows j).gt0 = (rows.map (fun r => (r.genes.getD j GStat.zero).gt0)).sum ∧
    (rowsColumn rows j).gt1 = (rows.map (fun r => (r.genes.getD j GStat.zero).gt1)).sum ∧
    (rowsColumn rows j).ge1 = (rows.map (fun r => (r.genes.getD j GStat.zero).ge1)).sum :=
  foldr_add_fields _ rows

def cellsColumn (cells : List (List Rat)) (j : Nat) : GStat :=
  (cells.map (fun c => geneStat (c.getD j 0))).foldr GStat.add GStat.zero

theorem cellsColumn_fields (cells : List (List Rat)) (j : Nat) :
    (cellsColumn cells j).sum = (cells.map (fun c => c.getD j 0)).sum ∧
    (cellsColumn cells j).sumsq = (cells.map (fun c => c.getD j 0 * c.getD j 0)).sum ∧
    (cellsColumn cells j).gt0 = (cells.map (fun c => (geneStat (c.getD j 0)).gt0)).sum ∧
    (cellsColumn cells j).gt1 = (cells.map (fun c => (geneStat (c.getD j 0)).gt1)).sum ∧
    (cellsColumn cells j).ge1 = (cells.map (fun c => (geneStat (c.getD j 0)).ge1)).sum :=
  foldr_add_fields (fun c : List Rat => geneStat (c.getD j 0)) cells

theorem rowsColumn_map_cellStat (cells : List (List Rat)) (j : Nat) (hj : ∀ c ∈ cells, j < c.length) :
    rowsColumn (cells.map cellStat) j = cellsColumn cells j := by
  rw [rowsColumn, cellsColumn, List.map_map]
  congr 1
  apply List.map_congr_left
  intro c hc
  simp [cellStat, List.getD_eq_getElem?_getD, hj c hc]

theorem summaryStats_n (cells : List (List Rat)) : (summaryStats cells).n = cells.length := by
  simp [summaryStats, rowSum_n, Function.comp_def, cellStat]

theorem cellStat_length {g : Nat} {cells : List (List Rat)} (hlen : ∀ c ∈ cells, c.length = g) :
    ∀ r ∈ cells.map cellStat, r.genes.length = g := by
  simp only [List.mem_map, forall_exists_index, and_imp, forall_apply_eq_imp_iff₂]
  intro c hc
  simp [cellStat, hlen c hc]

theorem zero_add_summaryStats_genes (g : Nat) (cells : List (List Rat))
    (hlen : ∀ c ∈ cells, c.length = g) (j : Nat) (hj : j < g) :
    ((Row.zero g).add (summaryStats cells)).genes[j]? = some (cellsColumn cells j) := by
  rw [summaryStats, zero_add_rowSum_genes g _ (cellStat_length hlen) j hj,
    rowsColumn_map_cellStat cells j (fun c hc => by rw [hlen c hc]; exact hj)]

theorem summaryStats_genes (g : Nat) (cells : List (List Rat)) (hne : cells ≠ [])
    (hlen : ∀ c ∈ cells, c.length = g) (j : Nat) (hj : j < g) :
    (summaryStats cells).genes[j]? = some (cellsColumn cells j) := by
  rw [← zero_add_summaryStats_genes g cells hlen j hj, summaryStats,
    zero_add_rowSum g _ (by simpa using hne) (cellStat_length hlen)]

theorem zero_add_summaryStats_genes_length (g : Nat) (cells : List (List Rat))
    (hlen : ∀ c ∈ cells, c.length = g) :
    ((Row.zero g).add (summaryStats cells)).genes.length = g :=
  zero_add_rowSum_genes_length g _ (fun r hr => (cellStat_length hlen r hr).le)

theorem rowSum_cellStat_n (L : List CellRec) :
    (rowSum (L.map (fun cell => cellStat cell.vals))).n = L.length := by
  simp [rowSum_n, Function.comp_def, cellStat]

theorem zero_add_rowSum_cellStat_genes (g : Nat) (members : List CellRec)
    (hg : ∀ cell ∈ members, cell.vals.length = g) (j : Nat) (hj : j < g) :
    ∃ s, ((Row.zero g).add (rowSum (members.map (fun cell => cellStat cell.vals)))).genes[j]? = some s ∧
      s.sum = (members.map (fun cell => cell.vals.getD j 0)).sum ∧
      s.sumsq = (members.map (fun cell => cell.vals.getD j 0 * cell.vals.getD j 0)).sum ∧
      s.gt0 = (members.map (fun cell => (geneStat (cell.vals.getD j 0)).gt0)).sum ∧
      s.gt1 = (members.map (fun cell => (geneStat (cell.vals.getD j 0)).gt1)).sum ∧
      s.ge1 = (members.map (fun cell => (geneStat (cell.vals.getD j 0)).ge1)).sum := by
  have e : rowSum (members.map (fun cell => cellStat cell.vals))
      = summaryStats (members.map (·.vals)) := by
    rw [summaryStats, List.map_map]; rfl
  refine ⟨cellsColumn (members.map (·.vals)) j, ?_, ?_⟩
  · rw [e, zero_add_summaryStats_genes g _ (by simpa using hg) j hj]
  · rw [cellsColumn, List.map_map]
    exact foldr_add_fields (fun cell : CellRec => geneStat (cell.vals.getD j 0)) members

/-! ### mean and variance as `aggregate_stats` takes them from the running sums `Σx`, `Σx²` -/

theorem sum_sq_dev (xs : List Rat) (m : Rat) :
    (xs.map (fun x => (x - m) ^ 2)).sum
      = (xs.map (fun x => x * x)).sum - 2 * m * xs.sum + (xs.length : Rat) * m ^ 2 := by
  induction xs with
  | nil => simp
  | cons x xs ih => simp only [List.map_cons, List.sum_cons, List.length_cons, ih]; push_cast; ring

theorem meanOf_mul_n (n : Nat) (s : Rat) (hn : 1 ≤ n) : meanOf n s * (n : Rat) = s := by
  have h : (n : Rat) ≠ 0 := Nat.cast_ne_zero.mpr (by omega)
  rw [meanOf, Nat.max_eq_right hn, div_mul_cancel₀ s h]

/-- `2 ≤ n` makes the divisor `max 1 (n - 1)` equal to `n - 1`, non-zero, so that it cancels. -/
theorem varOf_mul_pred (n : Nat) (s q : Rat) (hn : 2 ≤ n) :
    varOf n s q * ((n : Rat) - 1) = q - 2 * meanOf n s * s + (n : Rat) * meanOf n s ^ 2 := by
  have hm := meanOf_mul_n n s (by omega)
  have h1 : ((n - 1 : Nat) : Rat) = (n : Rat) - 1 := by
    rw [Nat.cast_sub (by omega), Nat.cast_one]
  have h2 : (n : Rat) - 1 ≠ 0 := by rw [← h1]; exact Nat.cast_ne_zero.mpr (by omega)
  rw [varOf, Nat.max_eq_right (by omega : 1 ≤ n - 1), h1, div_mul_cancel₀ _ h2, mul_div_assoc]
  -- `s / ↑(max 1 n)` is `meanOf n s` unfolded
  show q - s * meanOf n s = _
  rw [show (n : Rat) * meanOf n s ^ 2 = meanOf n s * (meanOf n s * n) by ring, hm]
  ring

theorem varOf_mul_pred_eq_sum_sq_dev (xs : List Rat) (hn : 2 ≤ xs.length) :
    varOf xs.length xs.sum (xs.map (fun x => x * x)).sum * ((xs.length : Rat) - 1)
      = (xs.map (fun x => (x - meanOf xs.length xs.sum) ^ 2)).sum := by
  rw [sum_sq_dev, varOf_mul_pred _ _ _ hn]


/-! ### the chunk ranges of `range(0, n, rows)`: they cut a list of `n` rows into non-empty
consecutive slices (also the ranges `CTM.Model.Validate` reads a stored layer by) -/

/-- the `for` loop steps to `r0 + rows`, the iterator's `while` loop to `min n (r0 + rows)`; both stop
at the first start `≥ n`, so they list the same ranges, and `CTM.Lemmas.Chunking` speaks for both -/
theorem chunkRangesAux_eq_chunksAux (n rows : Nat) : ∀ fuel r0 : Nat,
    chunkRangesAux n rows fuel r0 = Chunking.chunksAux n rows fuel (min n r0) := by
  intro fuel
  induction fuel with
  | zero => intro r0; rfl
  | succ fuel ih =>
    intro r0
    rw [chunkRangesAux, Chunking.chunksAux]
    by_cases h : r0 < n
    · rw [if_pos h, Nat.min_eq_right (Nat.le_of_lt h), if_pos h, ih]
    · rw [if_neg h, Nat.min_eq_left (Nat.le_of_not_lt h), if_neg (Nat.lt_irrefl n)]

theorem chunkRanges_eq_chunks (n rows : Nat) : chunkRanges n rows = Chunking.chunks n rows :=
  (chunkRangesAux_eq_chunksAux n rows n 0).trans (by rw [Nat.min_zero]; rfl)

theorem chunkRanges_tile {α : Type} (xs : List α) (rows : Nat) (hrows : 1 ≤ rows) :
    ((chunkRanges xs.length rows).map (fun p => (xs.drop p.1).take (p.2 - p.1))).flatten = xs :=
  chunkRanges_eq_chunks xs.length rows ▸ Chunking.sliceChunks_flatten xs rows hrows

theorem chunkRanges_bounds (n rows : Nat) (hrows : 1 ≤ rows) (p : Nat × Nat)
    (h : p ∈ chunkRanges n rows) : p.1 < p.2 ∧ p.2 ≤ n ∧ p.2 - p.1 ≤ rows :=
  have hb := Chunking.chunksAux_bounds n rows hrows n 0 p (chunkRanges_eq_chunks n rows ▸ h :)
  ⟨hb.2.1, hb.2.2.1, hb.2.2.2.1⟩

theorem chunkRanges_slice_ne_nil {α : Type} (xs : List α) (rows : Nat) (hrows : 1 ≤ rows)
    (p : Nat × Nat) (hp : p ∈ chunkRanges xs.length rows) :
    (xs.drop p.1).take (p.2 - p.1) ≠ [] :=
  have hb := chunkRanges_bounds xs.length rows hrows p hp
  List.ne_nil_of_length_pos
    (Nat.lt_of_lt_of_eq (Nat.sub_pos_of_lt hb.1) (Chunking.slice_length_le xs hb.2.1).symm)

theorem chunkRanges_cover {α : Type} (xs : List α) (rows : Nat) (hrows : 1 ≤ rows) (v : α)
    (hv : v ∈ xs) : ∃ p ∈ chunkRanges xs.length rows, v ∈ (xs.drop p.1).take (p.2 - p.1) := by
  rw [← chunkRanges_tile xs rows hrows] at hv
  obtain ⟨l, hl, hvl⟩ := List.mem_flatten.1 hv
  obtain ⟨p, hp, rfl⟩ := List.mem_map.1 hl
  exact ⟨p, hp, hvl⟩

theorem chunkRanges_range (n rows : Nat) (hrows : 1 ≤ rows) :
    (chunkRanges n rows).flatMap (fun p => List.range' p.1 (p.2 - p.1)) = List.range n :=
  chunkRanges_eq_chunks n rows ▸ Chunking.chunks_flatMap_rangeOf n rows hrows

/-! ### the work split of `_precompute_summary_stats_from_h5ad_and_lookup`: `fileChunks` tiles each
file, and `workSplit` cuts the list of all chunks into at most `n_processors` non-empty loads -/

theorem fileChunks_cells (rows f : Nat) (cells : List CellRec) (hrows : 1 ≤ rows) :
    (fileChunks rows f cells).flatMap (·.cells) = cells := by
  rw [fileChunks, List.flatMap_def, List.map_map]
  exact chunkRanges_tile cells rows hrows

theorem fileChunks_mem (rows f : Nat) (cells : List CellRec) (hrows : 1 ≤ rows) (c : Chunk)
    (h : c ∈ fileChunks rows f cells) :
    c.r0 < c.r1 ∧ c.r1 ≤ cells.length ∧ c.cells.length = c.r1 - c.r0 ∧ c.file = f ∧
      c.r1 - c.r0 ≤ rows := by
  obtain ⟨p, hp, rfl⟩ := List.mem_map.mp h
  have hb := chunkRanges_bounds cells.length rows hrows p hp
  exact ⟨hb.1, hb.2.1, Chunking.slice_length_le cells hb.2.1, rfl, hb.2.2⟩

def sizeSum (cs : List Chunk) : Nat := (cs.map (fun c => c.r1 - c.r0)).sum

@[simp] theorem sizeSum_nil : sizeSum [] = 0 := rfl
@[simp] theorem sizeSum_cons (c : Chunk) (cs : List Chunk) :
    sizeSum (c :: cs) = (c.r1 - c.r0) + sizeSum cs := by simp [sizeSum]
theorem sizeSum_eq_length (cs : List Chunk) (h : ∀ c ∈ cs, c.cells.length = c.r1 - c.r0) :
    sizeSum cs = (cs.flatMap (·.cells)).length := by
  induction cs with
  | nil => rfl
  | cons c cs ih =>
    simp only [sizeSum_cons, List.flatMap_cons, List.length_append]
    rw [ih (fun c hc => h c (by simp [hc])), h c (by simp)]

theorem flatMap_fileChunks_cells (rows : Nat) (files : List (Nat × List CellRec)) (hrows : 1 ≤ rows) :
    (files.flatMap (fun f => fileChunks rows f.1 f.2)).flatMap (·.cells)
      = files.flatMap (·.2) := by
  induction files with
  | nil => rfl
  | cons f files ih =>
    simp only [List.flatMap_cons, List.flatMap_append, ih, fileChunks_cells _ _ _ hrows]

theorem flatMap_fileChunks_cells_length (rows : Nat) (files : List (Nat × List CellRec))
    (hrows : 1 ≤ rows) :
    ∀ c ∈ files.flatMap (fun f => fileChunks rows f.1 f.2), c.cells.length = c.r1 - c.r0 := by
  intro c hc
  obtain ⟨f, _, hc⟩ := List.mem_flatMap.mp hc
  exact (fileChunks_mem rows f.1 f.2 hrows c hc).2.2.1

theorem sizeSum_flatMap_fileChunks (rows : Nat) (files : List (Nat × List CellRec))
    (hrows : 1 ≤ rows) :
    sizeSum (files.flatMap (fun f => fileChunks rows f.1 f.2))
      = (files.map (fun f => f.2.length)).sum := by
  rw [sizeSum_eq_length _ (flatMap_fileChunks_cells_length rows files hrows),
    flatMap_fileChunks_cells rows files hrows, List.length_flatMap]

theorem le_mul_nPer (nTotal nProc : Nat) (h : 1 ≤ nProc) : nTotal ≤ nProc * nPer nTotal nProc := by
  have := Nat.lt_mul_div_succ (nTotal + nProc - 1) (show 0 < nProc by omega)
  simp only [nPer]
  rw [Nat.mul_add, Nat.mul_one] at this
  omega

theorem splitLoop_cons (nProc nPer : Nat) (st : SplitState) (c : Chunk) (cs : List Chunk)
    (h : st.done.length < nProc) :
    splitLoop nProc nPer st (c :: cs) = splitLoop nProc nPer
      (if st.thisN + (c.r1 - c.r0) > nPer then ⟨st.done ++ [st.cur ++ [c]], [], 0⟩
        else ⟨st.done, st.cur ++ [c], st.thisN + (c.r1 - c.r0)⟩) cs := by
  by_cases ht : st.thisN + (c.r1 - c.r0) > nPer <;> simp only [splitLoop, splitStep, h, ht, if_true, if_false]

/-- The second hypothesis is a potential: every closed load holds more than `nPer` rows, so with at
most `nProc * nPer` rows in all fewer than `nProc` loads are closed, which is what `splitStep` tests. -/
theorem splitLoop_ok (nProc nPer : Nat) (hproc : 1 ≤ nProc) :
    ∀ (cs : List Chunk) (st : SplitState),
      st.done.length * (nPer + 1) + st.thisN + sizeSum cs ≤ nProc * nPer →
      ∃ st', splitLoop nProc nPer st cs = .ok st' := by
  intro cs
  induction cs with
  | nil => intro st _; exact ⟨st, rfl⟩
  | cons c cs ih =>
    intro st hinv
    rw [sizeSum_cons] at hinv
    have hlt : st.done.length < nProc := by
      by_contra hn
      have := Nat.mul_le_mul_right (nPer + 1) (Nat.le_of_not_lt hn)
      rw [Nat.mul_add, Nat.mul_one] at this
      omega
    rw [splitLoop_cons _ _ _ _ _ hlt]
    apply ih
    split
    · simp only [List.length_append, List.length_singleton, Nat.add_mul]
      omega
    · simp only
      omega

/-- The loop only regroups the chunks, and the number of loads, counting the open one if it holds
anything, stays within `nProc`: closing a load empties `cur`, so a step from `done.length < nProc`
ends with at most `done.length + 1` loads either way. -/
theorem splitLoop_spec (nProc nPer : Nat) :
    ∀ (cs : List Chunk) (st st' : SplitState), splitLoop nProc nPer st cs = .ok st' →
      (st'.done ++ [st'.cur]).flatten = (st.done ++ [st.cur]).flatten ++ cs ∧
      (st.done.length + (if st.cur = [] then 0 else 1) ≤ nProc →
        st'.done.length + (if st'.cur = [] then 0 else 1) ≤ nProc) := by
  intro cs
  induction cs with
  | nil =>
    intro st st' h
    cases h
    exact ⟨(List.append_nil _).symm, id⟩
  | cons c cs ih =>
    intro st st' h
    by_cases hlt : st.done.length < nProc
    · rw [splitLoop_cons _ _ _ _ _ hlt] at h
      obtain ⟨h1, h2⟩ := ih _ _ h
      refine ⟨?_, fun _ => h2 ?_⟩
      · rw [h1]; split <;> simp
      · split <;> simp <;> omega
    · simp [splitLoop, splitStep, hlt] at h

theorem workSplit_ok (files : List (Nat × List CellRec)) (rows nProc : Nat)
    (hrows : 1 ≤ rows) (hproc : 1 ≤ nProc) : ∃ loads, workSplit files rows nProc = .ok loads := by
  have h1 : ¬ nProc = 0 := by omega
  have h2 : (rows = 0 && !files.isEmpty) = false := by
    have : ¬ rows = 0 := by omega
    simp [this]
  obtain ⟨st', hst⟩ := splitLoop_ok nProc (nPer (files.map (fun f => f.2.length)).sum nProc) hproc
    (files.flatMap (fun f => fileChunks rows f.1 f.2)) ⟨[], [], 0⟩
    (by
      rw [sizeSum_flatMap_fileChunks rows files hrows]
      have := le_mul_nPer (files.map (fun f => f.2.length)).sum nProc hproc
      simpa using this)
  refine ⟨(st'.done ++ [st'.cur]).filter (fun l => !l.isEmpty), ?_⟩
  simp only [workSplit, h1, h2, if_false, Bool.false_eq_true, hst]

theorem workSplit_spec (files : List (Nat × List CellRec)) (rows nProc : Nat)
    (loads : List (List Chunk)) (h : workSplit files rows nProc = .ok loads) :
    loads.flatten = files.flatMap (fun f => fileChunks rows f.1 f.2) ∧
      loads.length ≤ nProc ∧ ∀ l ∈ loads, l ≠ [] := by
  simp only [workSplit] at h
  by_cases h1 : nProc = 0
  · simp [h1] at h
  · simp only [h1, if_false] at h
    by_cases h2 : (rows = 0 && !files.isEmpty) = true
    · simp [h2] at h
    · rw [if_neg h2] at h
      split at h
      · simp at h
      · rename_i st hst
        simp only [Except.ok.injEq] at h
        subst h
        obtain ⟨e1, e2⟩ := splitLoop_spec _ _ _ _ _ hst
        refine ⟨?_, ?_, ?_⟩
        · rw [ListAux.flatten_filter_nonempty, e1]; simp
        · have := ListAux.length_filter_nonempty_snoc st.done st.cur
          have := e2 (by simp)
          omega
        · intro l hl
          simp only [List.mem_filter] at hl
          intro hnil
          simp [hnil] at hl

/-! ### `_process_chunk`, `_process_chunk_spec`

Each loop is given in closed form, failure included: `if` every named row is inside the buffer
`then .ok (buf.mapIdx fun c row => row.add (S ntr c cells)) else .error .rowOutOfRange`, where
`S ntr c cells` (defined below) is what the cells of the block named for row `c` contribute.  That
is the shape of `directBuf`, to which every route to a file is normalised. -/

@[simp] theorem zeroBuffer_length (nC g : Nat) : (zeroBuffer nC g).length = nC :=
  List.length_replicate

theorem zeroBuffer_getElem? (g : Nat) {nC c : Nat} (hc : c < nC) :
    (zeroBuffer nC g)[c]? = some (Row.zero g) := by
  simp [zeroBuffer, hc]

theorem bufAdd_eq (buf : Buffer) (u : Nat) (r : Row) :
    bufAdd buf u r = if u < buf.length then some (buf.modify u (·.add r)) else none := by
  induction buf generalizing u with
  | nil => rfl
  | cons b bs ih =>
    cases u with
    | zero => rfl
    | succ u =>
      rw [bufAdd, ih]
      simp only [List.length_cons, Nat.add_lt_add_iff_right, List.modify_succ_cons]
      split <;> rfl

theorem mem_uniqueSorted (a : Nat) (xs : List Nat) : a ∈ uniqueSorted xs ↔ a ∈ xs :=
  ListAux.mem_foldr_insertUniq (ins := insertUniq) (fun _ => rfl) (fun _ _ _ => rfl) a xs

theorem uniqueSorted_pairwise (xs : List Nat) : (uniqueSorted xs).Pairwise (· < ·) :=
  ListAux.pairwise_foldr_insertUniq (ins := insertUniq) (fun _ => rfl) (fun _ _ _ => rfl) xs

theorem uniqueSorted_nodup (xs : List Nat) : (uniqueSorted xs).Nodup :=
  (uniqueSorted_pairwise xs).imp (fun h => Nat.ne_of_lt h)

/-- contribution of a block of cells to output row `c`: the ordered sum of
`cellStat` over the cells of the block named for row `c` -/
def S (nameToRow : List (Nat × Nat)) (c : Nat) (cells : List CellRec) : Row :=
  rowSum ((cellsOfRow nameToRow c cells).map (fun cell => cellStat cell.vals))

theorem S_nil (ntr : List (Nat × Nat)) (c : Nat) : S ntr c [] = Row.empty := rfl

theorem cellsOfRow_append (ntr : List (Nat × Nat)) (c : Nat) (A B : List CellRec) :
    cellsOfRow ntr c (A ++ B) = cellsOfRow ntr c A ++ cellsOfRow ntr c B :=
  List.filter_append ..

theorem S_append (ntr : List (Nat × Nat)) (c : Nat) (A B : List CellRec) :
    S ntr c (A ++ B) = (S ntr c A).add (S ntr c B) := by
  rw [S, cellsOfRow_append, List.map_append, rowSum_append]; rfl

/-- only the named cells (those `rowOf` sends to a row) matter, in any order -/
theorem S_perm_of_named (ntr : List (Nat × Nat)) (c : Nat) (A B : List CellRec)
    (h : (A.filter (fun cell => (rowOf ntr cell).isSome)).Perm
      (B.filter (fun cell => (rowOf ntr cell).isSome))) : S ntr c A = S ntr c B := by
  have named : ∀ L : List CellRec, cellsOfRow ntr c L
      = (L.filter (fun cell => (rowOf ntr cell).isSome)).filter
          (fun cell => rowOf ntr cell == some c) := fun L => by
    rw [cellsOfRow, List.filter_filter]
    exact List.filter_congr fun cell _ => by cases rowOf ntr cell <;> simp
  rw [S, S, named A, named B]
  exact rowSum_perm ((h.filter _).map _)

theorem summaryStats_cellsOfRow (ntr : List (Nat × Nat)) (c : Nat) (cells : List CellRec) :
    summaryStats ((cellsOfRow ntr c cells).map (·.vals)) = S ntr c cells := by
  simp [summaryStats, S, List.map_map, Function.comp_def]

theorem cellsOfRow_eq_nil (ntr : List (Nat × Nat)) (c : Nat) (cells : List CellRec)
    (h : c ∉ cells.filterMap (rowOf ntr)) : cellsOfRow ntr c cells = [] := by
  simp only [cellsOfRow, List.filter_eq_nil_iff]
  intro cell hcell hrow
  apply h
  simp only [List.mem_filterMap]
  exact ⟨cell, hcell, by simpa using hrow⟩

/-- the loop over `np.unique(cluster_chunk)`, failure included: the only way to fail is a row
outside the buffer (`bufAdd`'s IndexError) -/
theorem processUnique_eq (ntr : List (Nat × Nat)) (cells : List CellRec) :
    ∀ (us : List Nat) (buf : Buffer), us.Nodup →
      processUnique ntr cells buf us =
        if ∀ u ∈ us, u < buf.length then
          .ok (buf.mapIdx fun c row => if c ∈ us then row.add (S ntr c cells) else row)
        else .error .rowOutOfRange := by
  intro us
  induction us with
  | nil =>
    intro buf _
    rw [processUnique, if_pos (fun _ h => nomatch h)]
    exact congrArg Except.ok (List.ext_getElem? fun c => by simp)
  | cons u us ih =>
    intro buf hnd
    rw [List.nodup_cons] at hnd
    rw [processUnique, summaryStats_cellsOfRow, bufAdd_eq]
    have hc : (∀ v ∈ u :: us, v < buf.length) ↔ u < buf.length ∧ ∀ v ∈ us, v < buf.length :=
      List.forall_mem_cons
    by_cases hu : u < buf.length
    · rw [if_pos hu]
      show processUnique ntr cells (buf.modify u (·.add (S ntr u cells))) us = _
      rw [ih _ hnd.2, List.length_modify]
      by_cases h : ∀ v ∈ us, v < buf.length
      · rw [if_pos h, if_pos (hc.mpr ⟨hu, h⟩)]
        refine congrArg Except.ok (List.ext_getElem? fun c => ?_)
        rw [List.getElem?_mapIdx, List.getElem?_mapIdx, List.getElem?_modify]
        cases buf[c]? with
        | none => rfl
        | some row =>
          by_cases hcu : u = c
          · subst hcu; simp [hnd.1]
          · simp [hcu, Ne.symm hcu]
      · rw [if_neg h, if_neg (fun h' => h (hc.mp h').2)]
    · rw [if_neg hu, if_neg (fun h' => hu (hc.mp h').1)]

theorem processChunk_eq (ntr : List (Nat × Nat)) (buf : Buffer) (cells : List CellRec) :
    processChunk ntr buf cells =
      if ∀ u ∈ cells.filterMap (rowOf ntr), u < buf.length then
        .ok (buf.mapIdx fun c row => row.add (S ntr c cells))
      else .error .rowOutOfRange := by
  rw [processChunk, processUnique_eq ntr cells _ buf (uniqueSorted_nodup _)]
  simp only [mem_uniqueSorted]
  congr 2
  -- a row no cell of the block is named for gains the empty sum
  exact List.mapIdx_eq_mapIdx_iff.mpr fun c _ => by
    split
    · rfl
    · next hc => rw [S, cellsOfRow_eq_nil ntr c cells hc]; exact (Row.add_empty _).symm

theorem processChunks_eq (ntr : List (Nat × Nat)) : ∀ (chunks : List Chunk) (buf : Buffer),
    processChunks ntr buf chunks =
      if ∀ ch ∈ chunks, ∀ u ∈ ch.cells.filterMap (rowOf ntr), u < buf.length then
        .ok (buf.mapIdx fun c row => row.add (S ntr c (chunks.flatMap (·.cells))))
      else .error .rowOutOfRange := by
  intro chunks
  induction chunks with
  | nil =>
    intro buf
    rw [processChunks, if_pos (fun _ h => nomatch h)]
    exact congrArg Except.ok (List.ext_getElem? fun c => by simp [S_nil])
  | cons ch chunks ih =>
    intro buf
    rw [processChunks, processChunk_eq]
    by_cases h1 : ∀ u ∈ ch.cells.filterMap (rowOf ntr), u < buf.length
    · rw [if_pos h1]
      dsimp only
      rw [ih, List.length_mapIdx, List.mapIdx_mapIdx]
      simp only [List.forall_mem_cons, List.flatMap_cons, S_append, Function.comp_def, Row.add_assoc]
      exact if_congr (and_iff_right h1).symm rfl rfl
    · simp only [List.forall_mem_cons, h1, false_and, if_false]

theorem cellsOfRow_filter_wanted (ntr : List (Nat × Nat)) (c : Nat)
    (files : List (Nat × List CellRec)) :
    cellsOfRow ntr c ((files.filter (fun f => wanted ntr f.2)).flatMap (·.2))
      = cellsOfRow ntr c (files.flatMap (·.2)) := by
  induction files with
  | nil => rfl
  | cons f files ih =>
    rw [List.filter_cons, List.flatMap_cons, cellsOfRow_append, ← ih]
    split
    · rw [List.flatMap_cons, cellsOfRow_append]
    · next hw =>
      -- a file that is not read holds no named cell
      rw [cellsOfRow_eq_nil ntr c f.2, List.nil_append]
      rw [List.mem_filterMap]
      rintro ⟨cell, hcell, hrow⟩
      exact hw (List.any_eq_true.mpr ⟨cell, hcell, by rw [hrow]; rfl⟩)

/-! ### the directly computed file -/

/-- what direct computation writes for the cells `cells`: row `c` is the `np.zeros` row plus
the contributions of the cells the table names for `c`.  Every route to the file (any split
into chunks and workers, collapsing a finer file) is shown to end here. -/
def directBuf (nC g : Nat) (ntr : List (Nat × Nat)) (cells : List CellRec) : Buffer :=
  (List.range nC).map (fun c => (Row.zero g).add (S ntr c cells))

@[simp] theorem directBuf_length (nC g : Nat) (ntr : List (Nat × Nat)) (cells : List CellRec) :
    (directBuf nC g ntr cells).length = nC := by
  simp [directBuf]

theorem directBuf_getElem? (g : Nat) (ntr : List (Nat × Nat)) (cells : List CellRec) {nC c : Nat}
    (hc : c < nC) : (directBuf nC g ntr cells)[c]? = some ((Row.zero g).add (S ntr c cells)) := by
  simp [directBuf, hc]

theorem directBuf_nil (nC g : Nat) (ntr : List (Nat × Nat)) :
    directBuf nC g ntr [] = zeroBuffer nC g :=
  ListAux.ext_getElem?_lt (directBuf_length ..) (zeroBuffer_length ..) fun c hc => by
    rw [directBuf_getElem? g ntr [] hc, S_nil, Row.add_empty, zeroBuffer_getElem? g hc]

theorem directBuf_congr (nC g : Nat) {ntr ntr' : List (Nat × Nat)} {A B : List CellRec}
    (h : ∀ c, c < nC → S ntr c A = S ntr' c B) : directBuf nC g ntr A = directBuf nC g ntr' B :=
  ListAux.ext_getElem?_lt (directBuf_length ..) (directBuf_length ..) fun c hc => by
    rw [directBuf_getElem? g ntr A hc, directBuf_getElem? g ntr' B hc, h c hc]

theorem directBuf_eq_mapIdx (nC g : Nat) (ntr : List (Nat × Nat)) (cells : List CellRec) :
    directBuf nC g ntr cells = (zeroBuffer nC g).mapIdx fun c row => row.add (S ntr c cells) :=
  ListAux.ext_getElem?_lt (directBuf_length ..) (by simp) fun c hc => by
    rw [directBuf_getElem? g ntr cells hc, List.getElem?_mapIdx, zeroBuffer_getElem? g hc]; rfl

theorem directBuf_filter_wanted (nC g : Nat) (ntr : List (Nat × Nat))
    (files : List (Nat × List CellRec)) :
    directBuf nC g ntr ((files.filter (fun f => wanted ntr f.2)).flatMap (·.2))
      = directBuf nC g ntr (files.flatMap (·.2)) :=
  directBuf_congr nC g fun c _ => by simp only [S, cellsOfRow_filter_wanted]

/-! ### the workers' buffers merged: `precompute` writes `directBuf` -/

theorem mapMExcept_eq_mapM {α β ε : Type} (f : α → Except ε β) (as : List α) :
    mapMExcept f as = as.mapM f :=
  ListAux.loop_eq_mapM (mapMExcept f) rfl
    (fun a as => by rw [mapMExcept]; cases f a <;> cases mapMExcept f as <;> rfl) as

theorem processSpec_eq (nC g : Nat) (ntr : List (Nat × Nat)) (hntr : ∀ p ∈ ntr, p.2 < nC)
    (load : List Chunk) :
    processSpec nC g ntr load = .ok (directBuf nC g ntr (load.flatMap (·.cells))) := by
  rw [processSpec, processChunks_eq, directBuf_eq_mapIdx, zeroBuffer_length, if_pos]
  intro ch _ u hu
  obtain ⟨cell, _, hrow⟩ := List.mem_filterMap.mp hu
  exact hntr _ (ListAux.mem_of_lookup hrow)

/-- needs no hypothesis on the table (`C09.no_wrap` has none to offer) -/
theorem processSpec_length (nC g : Nat) (ntr : List (Nat × Nat)) (load : List Chunk)
    (buf : Buffer) (h : processSpec nC g ntr load = .ok buf) : buf.length = nC := by
  rw [processSpec, processChunks_eq] at h
  split at h
  · cases h; simp
  · cases h

theorem bufZipAdd_getElem? (a b : Buffer) (c : Nat) (x y : Row) (ha : a[c]? = some x)
    (hb : b[c]? = some y) : (bufZipAdd a b)[c]? = some (x.add y) := by
  simp [bufZipAdd, List.getElem?_zipWith, ha, hb]

theorem bufZipAdd_length (a b : Buffer) : (bufZipAdd a b).length = min a.length b.length := by
  simp [bufZipAdd]

theorem bufZipAdd_directBuf (nC g : Nat) (ntr : List (Nat × Nat)) (A B : List CellRec) :
    bufZipAdd (directBuf nC g ntr A) (directBuf nC g ntr B) = directBuf nC g ntr (A ++ B) :=
  ListAux.ext_getElem?_lt (by simp [bufZipAdd]) (directBuf_length ..) fun c hc => by
    rw [bufZipAdd_getElem? _ _ c _ _ (directBuf_getElem? g ntr A hc) (directBuf_getElem? g ntr B hc),
      directBuf_getElem? g ntr _ hc, Row.zero_add_distrib, S_append]

theorem foldl_bufZipAdd_directBuf (nC g : Nat) (ntr : List (Nat × Nat)) (ls : List (List Chunk)) :
    ∀ A : List CellRec,
    (ls.map (fun l => directBuf nC g ntr (l.flatMap (·.cells)))).foldl bufZipAdd (directBuf nC g ntr A)
      = directBuf nC g ntr (A ++ ls.flatten.flatMap (·.cells)) := by
  induction ls with
  | nil => intro A; simp
  | cons l ls ih =>
    intro A
    rw [List.map_cons, List.foldl_cons, bufZipAdd_directBuf, ih, List.flatten_cons,
      List.flatMap_append, List.append_assoc]

theorem precomputeLoads_eq (nC g : Nat) (ntr : List (Nat × Nat)) (loads : List (List Chunk))
    (hntr : ∀ p ∈ ntr, p.2 < nC) (hne : loads ≠ []) :
    precomputeLoads nC g ntr loads
      = .ok (directBuf nC g ntr (loads.flatten.flatMap (·.cells))) := by
  rw [precomputeLoads, mapMExcept_eq_mapM,
    ListAux.mapM_eq_ok_map fun l (_ : l ∈ loads) => processSpec_eq nC g ntr hntr l]
  cases loads with
  | nil => exact absurd rfl hne
  | cons l ls =>
    have := foldl_bufZipAdd_directBuf nC g ntr (l :: ls) []
    rw [directBuf_nil, List.nil_append, List.map_cons] at this
    simp only [mergeBuffers, List.map_cons, this]

theorem precomputeLoads_perm (nC g : Nat) (ntr : List (Nat × Nat))
    (files : List (Nat × List CellRec)) (rows : Nat) (loads : List (List Chunk))
    (hrows : 1 ≤ rows) (hntr : ∀ p ∈ ntr, p.2 < nC) (hne : loads ≠ [])
    (hperm : loads.flatten.Perm (allChunks ntr files rows)) :
    precomputeLoads nC g ntr loads = .ok (directBuf nC g ntr (files.flatMap (·.2))) := by
  rw [precomputeLoads_eq nC g ntr loads hntr hne, ← directBuf_filter_wanted,
    ← flatMap_fileChunks_cells rows (files.filter (fun f => wanted ntr f.2)) hrows]
  exact congrArg _ (directBuf_congr nC g fun c _ => S_perm_of_named ntr c _ _ ((hperm.flatMap_right _).filter _))

theorem precompute_eq_loads (nC g : Nat) (ntr : List (Nat × Nat))
    (files : List (Nat × List CellRec)) (rows nProc : Nat) :
    precompute nC g ntr files rows nProc
      = (match workSplit (files.filter (fun f => wanted ntr f.2)) rows nProc with
          | .error e => .error e
          | .ok loads => precomputeLoads nC g ntr loads) := rfl

theorem precompute_eq_direct (nC g : Nat) (ntr : List (Nat × Nat))
    (files : List (Nat × List CellRec)) (rows nProc : Nat)
    (hrows : 1 ≤ rows) (hproc : 1 ≤ nProc) (hntr : ∀ p ∈ ntr, p.2 < nC)
    (hw : ∃ f ∈ files, wanted ntr f.2 = true) :
    precompute nC g ntr files rows nProc = .ok (directBuf nC g ntr (files.flatMap (·.2))) := by
  obtain ⟨loads, hloads⟩ :=
    workSplit_ok (files.filter (fun f => wanted ntr f.2)) rows nProc hrows hproc
  have hflat : loads.flatten = allChunks ntr files rows := (workSplit_spec _ _ _ _ hloads).1
  -- a wanted file has a cell, so a chunk, so some worker has work
  have hne : loads ≠ [] := by
    rintro rfl
    obtain ⟨f, hf, hwf⟩ := hw
    obtain ⟨cell, hcell, _⟩ := List.any_eq_true.mp hwf
    have : cell ∈ (allChunks ntr files rows).flatMap (·.cells) := by
      rw [allChunks, flatMap_fileChunks_cells _ _ hrows]
      exact List.mem_flatMap.mpr ⟨f, List.mem_filter.mpr ⟨hf, by simpa using hwf⟩, hcell⟩
    rw [← hflat] at this
    simp at this
  rw [precompute_eq_loads, hloads]
  exact precomputeLoads_perm nC g ntr files rows loads hrows hntr hne (hflat ▸ List.Perm.refl _)

theorem precompute_no_wanted (nC g : Nat) (ntr : List (Nat × Nat))
    (files : List (Nat × List CellRec)) (rows nProc : Nat) (hproc : 1 ≤ nProc)
    (hw : ∀ f ∈ files, wanted ntr f.2 = false) :
    precompute nC g ntr files rows nProc = .error .noBuffers := by
  have hf : files.filter (fun f => wanted ntr f.2) = [] := by
    rw [List.filter_eq_nil_iff]
    intro f hf; simp [hw f hf]
  have h1 : ¬ nProc = 0 := by omega
  simp [precompute, hf, workSplit, h1, splitLoop, mapMExcept, mergeBuffers]

/-! ### accumulators of `bits` value bits: `precomputeW` is `precompute` when the result fits, and
the directly computed file fits when there are fewer than `2^bits` cells -/

def FitsRow (bits : Nat) (r : Row) : Prop :=
  r.n < 2 ^ bits ∧ ∀ s ∈ r.genes, s.gt0 < 2 ^ bits ∧ s.gt1 < 2 ^ bits ∧ s.ge1 < 2 ^ bits

theorem fitsBits_iff (bits : Nat) (buf : Buffer) :
    fitsBits bits buf = true ↔ ∀ r ∈ buf, FitsRow bits r := by
  simp only [fitsBits, List.all_eq_true, Bool.and_eq_true, decide_eq_true_eq, FitsRow, and_assoc]

theorem Row.wrap_of_fits (bits : Nat) (r : Row) (h : FitsRow bits r) : r.wrap bits = r := by
  obtain ⟨h1, h2⟩ := h
  apply Row.ext'
  · simp [Row.wrap, wrapNat, Nat.mod_eq_of_lt h1]
  · simp only [Row.wrap]
    conv => rhs; rw [← List.map_id r.genes]
    apply List.map_congr_left
    intro s hs
    obtain ⟨a, b, c⟩ := h2 s hs
    apply GStat.ext' <;> simp [GStat.wrap, wrapNat, Nat.mod_eq_of_lt, a, b, c]

theorem FitsRow.of_add_left (bits : Nat) (a b : Row) (h : FitsRow bits (a.add b)) :
    FitsRow bits a := by
  obtain ⟨h1, h2⟩ := h
  refine ⟨by simp only [Row.add] at h1; omega, fun s hs => ?_⟩
  obtain ⟨t, ht, l1, l2, l3⟩ := vadd_mem_left a.genes b.genes s hs
  obtain ⟨a1, a2, a3⟩ := h2 t ht
  omega

theorem FitsRow.of_bufZipAdd_left (bits : Nat) (a b : Buffer) (hlen : a.length = b.length)
    (h : ∀ r ∈ bufZipAdd a b, FitsRow bits r) : ∀ r ∈ a, FitsRow bits r := by
  intro r hr
  obtain ⟨i, hi, rfl⟩ := List.getElem_of_mem hr
  have hib : i < b.length := by omega
  have : a[i].add b[i] ∈ bufZipAdd a b := by
    have hz : (bufZipAdd a b)[i]? = some (a[i].add b[i]) :=
      bufZipAdd_getElem? a b i _ _ (by simp [hi]) (by simp [hib])
    exact List.mem_of_getElem? hz
  exact FitsRow.of_add_left bits _ _ (h _ this)

theorem foldl_bufZipAdd_wrap_eq (bits nC : Nat) : ∀ (bs : List Buffer) (acc : Buffer),
    acc.length = nC → (∀ b ∈ bs, b.length = nC) →
    (∀ r ∈ bs.foldl bufZipAdd acc, FitsRow bits r) →
    (∀ r ∈ acc, FitsRow bits r) ∧
      bs.foldl (fun acc b => (bufZipAdd acc b).map (Row.wrap bits)) acc = bs.foldl bufZipAdd acc := by
  intro bs
  induction bs with
  | nil => intro _ _ _ h; exact ⟨h, rfl⟩
  | cons b bs ih =>
    intro acc hacc hbs h
    have hb : b.length = nC := hbs b List.mem_cons_self
    obtain ⟨hfit, heq⟩ := ih (bufZipAdd acc b) (by rw [bufZipAdd_length]; omega)
      (fun b' hb' => hbs b' (List.mem_cons_of_mem _ hb')) h
    have hid : (bufZipAdd acc b).map (Row.wrap bits) = bufZipAdd acc b :=
      (List.map_congr_left fun r hr => Row.wrap_of_fits bits r (hfit r hr)).trans (List.map_id _)
    exact ⟨FitsRow.of_bufZipAdd_left bits acc b (by omega) hfit, by rw [List.foldl_cons, hid]; exact heq⟩

/-- accumulators of `bits` value bits give the exact merge whenever the exact merge fits: every
partial sum is entrywise at most the final one (`foldl_bufZipAdd_wrap_eq`), so no step wraps -/
theorem mergeBuffersW_eq (bits nC g : Nat) (bufs : List Buffer) (buf : Buffer)
    (hlen : ∀ b ∈ bufs, b.length = nC) (h : mergeBuffers nC g bufs = .ok buf)
    (hfit : fitsBits bits buf = true) : mergeBuffersW bits nC g bufs = .ok buf := by
  cases bufs with
  | nil => cases h
  | cons b bs =>
    cases h
    exact congrArg Except.ok (foldl_bufZipAdd_wrap_eq bits nC (b :: bs) (zeroBuffer nC g)
      (zeroBuffer_length ..) hlen ((fitsBits_iff bits _).mp hfit)).2

theorem precomputeW_eq (bits nC g : Nat) (ntr : List (Nat × Nat))
    (files : List (Nat × List CellRec)) (rows nProc : Nat) (buf : Buffer)
    (h : precompute nC g ntr files rows nProc = .ok buf) (hfit : fitsBits bits buf = true) :
    precomputeW bits nC g ntr files rows nProc = .ok buf := by
  unfold precompute at h
  unfold precomputeW
  split at h
  · cases h
  · split at h
    · cases h
    · rename_i bufs hbufs
      exact mergeBuffersW_eq bits nC g bufs buf (fun b hb => by
        obtain ⟨l, _, hl⟩ := ListAux.mapM_ok_of_mem_output (mapMExcept_eq_mapM .. ▸ hbufs) hb
        exact processSpec_length nC g ntr l b hl) h hfit

def CountsLe (k : Nat) (s : GStat) : Prop := s.gt0 ≤ k ∧ s.gt1 ≤ k ∧ s.ge1 ≤ k

theorem CountsLe.mono {k k' : Nat} {s : GStat} (h : CountsLe k s) (hk : k ≤ k') : CountsLe k' s :=
  ⟨Nat.le_trans h.1 hk, Nat.le_trans h.2.1 hk, Nat.le_trans h.2.2 hk⟩

theorem CountsLe.add {k1 k2 : Nat} {a b : GStat} (ha : CountsLe k1 a) (hb : CountsLe k2 b) :
    CountsLe (k1 + k2) (a.add b) :=
  ⟨Nat.add_le_add ha.1 hb.1, Nat.add_le_add ha.2.1 hb.2.1, Nat.add_le_add ha.2.2 hb.2.2⟩

theorem vadd_countsLe (k1 k2 : Nat) (x y : List GStat)
    (hx : ∀ a ∈ x, CountsLe k1 a) (hy : ∀ b ∈ y, CountsLe k2 b) :
    ∀ t ∈ vadd x y, CountsLe (k1 + k2) t := by
  intro t ht
  obtain ⟨j, hj⟩ := List.getElem?_of_mem ht
  rw [vadd_getElem?] at hj
  cases hxj : x[j]? with
  | none =>
    rw [hxj, Option.merge_none_left] at hj
    exact (hy t (List.mem_of_getElem? hj)).mono (Nat.le_add_left ..)
  | some a =>
    have ha := hx a (List.mem_of_getElem? hxj)
    cases hyj : y[j]? with
    | none =>
      rw [hxj, hyj, Option.merge_none_right] at hj
      cases hj
      exact ha.mono (Nat.le_add_right ..)
    | some b =>
      rw [hxj, hyj] at hj
      cases hj
      exact ha.add (hy b (List.mem_of_getElem? hyj))

theorem above_le_one (strict : Bool) (cut v : Rat) : above strict cut v ≤ 1 := by
  unfold above
  split <;> split <;> omega

theorem geneStat_countsLe (v : Rat) : CountsLe 1 (geneStat v) :=
  ⟨above_le_one Generated.gt0Strict Generated.gt0Cut v,
    above_le_one Generated.gt1Strict Generated.gt1Cut v,
    above_le_one Generated.ge1Strict Generated.ge1Cut v⟩

theorem rowSum_cellStat_countsLe : ∀ (L : List CellRec),
    ∀ s ∈ (rowSum (L.map (fun cell => cellStat cell.vals))).genes, CountsLe L.length s := by
  intro L
  induction L with
  | nil => intro s hs; simp [Row.empty] at hs
  | cons c L ih =>
    intro s hs
    simp only [List.map_cons, rowSum_cons, Row.add, cellStat] at hs
    have := vadd_countsLe 1 L.length _ _ (by
      intro a ha
      simp only [List.mem_map] at ha
      obtain ⟨v, _, rfl⟩ := ha
      exact geneStat_countsLe v) ih s hs
    simpa [Nat.add_comm] using this

theorem directBuf_fits (bits nC g : Nat) (ntr : List (Nat × Nat)) (cells : List CellRec)
    (hfew : cells.length < 2 ^ bits) : fitsBits bits (directBuf nC g ntr cells) = true := by
  refine (fitsBits_iff bits _).mpr fun row hrow => ?_
  obtain ⟨c, -, rfl⟩ := List.mem_map.mp hrow
  have hmem : (cellsOfRow ntr c cells).length ≤ cells.length := List.length_filter_le _ _
  refine ⟨?_, fun s hs => ?_⟩
  · simp only [Row.add, Row.zero, S, rowSum_cellStat_n]
    omega
  · obtain ⟨a1, a2, a3⟩ := vadd_countsLe 0 _ _ _
      (fun a ha => by
        rw [(List.mem_replicate.mp ha).2]
        exact ⟨Nat.le_refl 0, Nat.le_refl 0, Nat.le_refl 0⟩)
      (rowSum_cellStat_countsLe (cellsOfRow ntr c cells)) s hs
    exact ⟨by omega, by omega, by omega⟩

end CTM.Stats
