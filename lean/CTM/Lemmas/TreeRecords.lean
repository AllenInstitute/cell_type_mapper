import CTM.Lemmas.TreeDefs

/-!
  `get_taxonomy_tree` (`fromRecordsRaw`, the loop over the cells' label columns).  The dict updates `dictAdd`
  and `addRecord`; then the invariant `PathInv` of the accumulator after the records read so far, in which
  the cell in row `k` with labels `r` is the path `r ++ [k]` and every column, inner or leaf, lists one
  step of each path (`addRecord_col`); `Inv` reads the inner columns and the leaf column apart, and the
  statements about the finished tree come from it.  The tree is strict exactly when the label columns are
  nested (`fromRecordsRaw_strict_iff`).
-/

namespace CTM.RawTree

/-! ### `col` -/

/-- `acc[l]` (empty when absent) — `RawTree.level` on the bare accumulator -/
def col (acc : List (Level × LevelMap)) (l : Level) : LevelMap := (acc.lookup l).getD []

theorem level_eq_col (t : RawTree) (l : Level) : t.level l = col t.levels l := rfl

theorem col_setLevel_self {ls : List (Level × LevelMap)} {l : Level} (m : LevelMap)
    (h : l ∈ ls.map (·.1)) : col (setLevel ls l m) l = m := by
  unfold col
  rw [lookup_setLevel]
  cases hl : ls.lookup l with
  | none => exact absurd h (ListAux.lookup_eq_none_iff_keys.1 hl)
  | some v => simp

theorem col_setLevel_ne {ls : List (Level × LevelMap)} {l k : Level} (m : LevelMap)
    (h : k ≠ l) : col (setLevel ls l m) k = col ls k := by
  unfold col
  rw [lookup_setLevel, if_neg h]

theorem col_init (cols : List Level) (l : Level) :
    col (cols.map (fun c => (c, ([] : LevelMap)))) l = [] := by
  unfold col
  cases h : List.lookup l (cols.map (fun c => (c, ([] : LevelMap)))) with
  | none => rfl
  | some m =>
    obtain ⟨c, _, hc⟩ := List.mem_map.1 (ListAux.mem_of_lookup h)
    simp [← (Prod.mk.inj hc).2]

/-! ### `dictAdd` -/

theorem dictAdd_of_none {m : LevelMap} {k : Node} (v : Nat) (s : Bool) (h : m.lookup k = none) :
    dictAdd m k v s = m ++ [(k, [v])] := by
  simp [dictAdd, h]

theorem dictAdd_of_some {m : LevelMap} {k : Node} (v : Nat) (s : Bool) {vs0 : List Nat}
    (h : m.lookup k = some vs0) :
    dictAdd m k v s = m.map (fun (kv : Node × List Nat) =>
      if kv.1 == k then (kv.1, if s && kv.2.contains v then kv.2 else kv.2 ++ [v]) else (kv.1, kv.2)) := by
  simp [dictAdd, h]

theorem dictAdd_keys_of_some {m : LevelMap} {k : Node} (v : Nat) (s : Bool) {vs0 : List Nat}
    (h : m.lookup k = some vs0) : (dictAdd m k v s).map (·.1) = m.map (·.1) := by
  rw [dictAdd_of_some v s h, List.map_map]
  apply List.map_congr_left
  rintro ⟨k', v'⟩ _
  simp only [Function.comp]
  split <;> rfl

theorem dictAdd_keys_nodup {m : LevelMap} (k : Node) (v : Nat) (s : Bool)
    (h : (m.map (·.1)).Nodup) : ((dictAdd m k v s).map (·.1)).Nodup := by
  cases hl : m.lookup k with
  | none =>
    rw [dictAdd_of_none v s hl, List.map_append, List.nodup_append]
    refine ⟨h, by simp, ?_⟩
    intro a ha b hb hab
    simp at hb
    subst hb; subst hab
    exact ListAux.lookup_eq_none_iff_keys.1 hl ha
  | some vs0 => rw [dictAdd_keys_of_some v s hl]; exact h

theorem mem_dictAdd_keys {m : LevelMap} {k : Node} {v : Nat} {s : Bool} {k' : Node} :
    k' ∈ (dictAdd m k v s).map (·.1) ↔ k' ∈ m.map (·.1) ∨ k' = k := by
  cases hl : m.lookup k with
  | none =>
    rw [dictAdd_of_none v s hl, List.map_append, List.mem_append]
    simp
  | some vs0 =>
    rw [dictAdd_keys_of_some v s hl]
    constructor
    · exact Or.inl
    · rintro (h | h)
      · exact h
      · subst h
        exact List.mem_map.2 ⟨_, ListAux.mem_of_lookup hl, rfl⟩

theorem mem_dictAdd {m : LevelMap} {k : Node} {v : Nat} {s : Bool} {k' : Node} {vs' : List Nat} :
    (k', vs') ∈ dictAdd m k v s ↔
      (m.lookup k = none ∧ ((k', vs') ∈ m ∨ (k' = k ∧ vs' = [v]))) ∨
      (m.lookup k ≠ none ∧ ∃ vs, (k', vs) ∈ m ∧
        vs' = if k' = k then (if s && vs.contains v then vs else vs ++ [v]) else vs) := by
  cases hl : m.lookup k with
  | none =>
    rw [dictAdd_of_none v s hl, List.mem_append]
    simp
  | some vs0 =>
    rw [dictAdd_of_some v s hl, List.mem_map]
    simp only [reduceCtorEq, false_and, false_or, ne_eq, not_false_eq_true, true_and]
    constructor
    · rintro ⟨⟨k1, vs1⟩, hm, he⟩
      by_cases hk : k1 = k
      · subst hk
        simp only [beq_self_eq_true, if_true] at he
        obtain ⟨h1, h2⟩ := Prod.mk.inj he
        subst h1
        exact ⟨vs1, hm, by simp [← h2]⟩
      · have hk' : (k1 == k) = false := by simpa using hk
        simp only [hk'] at he
        obtain ⟨h1, h2⟩ := Prod.mk.inj he
        subst h1; subst h2
        exact ⟨vs1, hm, by simp [hk]⟩
    · rintro ⟨vs, hm, he⟩
      refine ⟨(k', vs), hm, ?_⟩
      by_cases hk : k' = k
      · subst hk; simp [he]
      · have hk' : (k' == k) = false := by simpa using hk
        simp [hk', he, hk]

theorem mem_val_dictAdd {m : LevelMap} {k : Node} {v : Nat} {s : Bool} {k' : Node} {v' : Nat} :
    (∃ vs, (k', vs) ∈ dictAdd m k v s ∧ v' ∈ vs) ↔
      (∃ vs, (k', vs) ∈ m ∧ v' ∈ vs) ∨ (k' = k ∧ v' = v) := by
  constructor
  · rintro ⟨vs', hm, hv⟩
    rcases mem_dictAdd.1 hm with ⟨_, h | ⟨h1, h2⟩⟩ | ⟨_, vs, hvs, he⟩
    · exact Or.inl ⟨vs', h, hv⟩
    · subst h1; subst h2
      right; simpa using hv
    · by_cases hk : k' = k
      · subst hk
        simp only [if_true] at he
        split at he
        · subst he; exact Or.inl ⟨_, hvs, hv⟩
        · subst he
          rcases List.mem_append.1 hv with h | h
          · exact Or.inl ⟨_, hvs, h⟩
          · right; simpa using h
      · simp only [hk, if_false] at he
        subst he; exact Or.inl ⟨_, hvs, hv⟩
  · rintro (⟨vs, hm, hv⟩ | ⟨h1, h2⟩)
    · cases hl : m.lookup k with
      | none => exact ⟨vs, mem_dictAdd.2 (Or.inl ⟨hl, Or.inl hm⟩), hv⟩
      | some vs0 =>
        refine ⟨_, mem_dictAdd.2 (Or.inr ⟨by simp [hl], vs, hm, rfl⟩), ?_⟩
        split
        · split
          · exact hv
          · exact List.mem_append_left _ hv
        · exact hv
    · subst h1; subst h2
      cases hl : m.lookup k' with
      | none => exact ⟨[v'], mem_dictAdd.2 (Or.inl ⟨hl, Or.inr ⟨rfl, rfl⟩⟩), by simp⟩
      | some vs0 =>
        refine ⟨_, mem_dictAdd.2 (Or.inr ⟨by simp [hl], vs0, ListAux.mem_of_lookup hl, rfl⟩), ?_⟩
        simp only [if_true]
        split
        · rename_i h
          simp only [Bool.and_eq_true, List.contains_iff_mem] at h
          exact h.2
        · simp

/-- value lists stay duplicate free: `set.add` skips a value already there, `list.append` is given
a fresh one -/
theorem dictAdd_vals_nodup {m : LevelMap} {k : Node} {v : Nat} {s : Bool}
    (h : ∀ k' vs, (k', vs) ∈ m → vs.Nodup) (hv : s = false → ∀ vs, (k, vs) ∈ m → v ∉ vs) :
    ∀ k' vs, (k', vs) ∈ dictAdd m k v s → vs.Nodup := by
  intro k' vs' hm
  rcases mem_dictAdd.1 hm with ⟨_, h1 | ⟨_, h2⟩⟩ | ⟨_, vs, hvs, he⟩
  · exact h _ _ h1
  · subst h2; simp
  · have hn := h _ _ hvs
    subst he
    split
    · rename_i hk
      subst hk
      split
      · exact hn
      · rename_i hc
        have hnot : v ∉ vs := by
          cases s with
          | false => exact hv rfl vs hvs
          | true => simpa using hc
        rw [List.nodup_append]
        refine ⟨hn, List.pairwise_singleton _ v, ?_⟩
        intro a ha b hb hab
        rw [List.mem_singleton] at hb
        subst hb; subst hab; exact hnot ha
    · exact hn

/-! ### `addRecord`: its two kinds of step, the keys -/

/-- leaf column: `tree[leaf_column][this_leaf].append(i_row)` -/
def leafStep (cols : List Level) (acc : List (Level × LevelMap)) (i : Nat) (r : List Node) :
    List (Level × LevelMap) :=
  match (cols.zip r).getLast? with
  | none => acc
  | some (ll, leaf) => setLevel acc ll (dictAdd (col acc ll) leaf i false)

/-- one `(parent_level, child_level)` step: `tree[pl][p].add(c)` -/
def pairStep (acc : List (Level × LevelMap)) (x : (Level × Node) × (Level × Node)) :
    List (Level × LevelMap) :=
  setLevel acc x.1.1 (dictAdd (col acc x.1.1) x.1.2 x.2.2 true)

theorem addRecord_eq (cols : List Level) (acc : List (Level × LevelMap)) (i : Nat) (r : List Node) :
    addRecord cols acc i r =
      ((cols.zip r).zip (cols.zip r).tail).foldl pairStep (leafStep cols acc i r) := rfl

theorem foldl_pairStep_keys (ps : List ((Level × Node) × (Level × Node)))
    (acc : List (Level × LevelMap)) :
    (ps.foldl pairStep acc).map (·.1) = acc.map (·.1) := by
  induction ps generalizing acc with
  | nil => rfl
  | cons x ps ih => rw [List.foldl_cons, ih, pairStep, setLevel_keys]

theorem leafStep_keys (cols : List Level) (acc : List (Level × LevelMap)) (i : Nat) (r : List Node) :
    (leafStep cols acc i r).map (·.1) = acc.map (·.1) := by
  unfold leafStep
  split
  · rfl
  · rw [setLevel_keys]

theorem addRecord_keys (cols : List Level) (acc : List (Level × LevelMap)) (i : Nat) (r : List Node) :
    (addRecord cols acc i r).map (·.1) = acc.map (·.1) := by
  rw [addRecord_eq, foldl_pairStep_keys, leafStep_keys]

/-! ### the loop over the records: induction, hierarchy and keys of the result -/

/-- invariants that do not mention the records -/
theorem fromRecordsRaw_go_induct (cols : List Level) (P : List (Level × LevelMap) → Prop)
    (step : ∀ acc i r, P acc → P (addRecord cols acc i r)) :
    ∀ (rs : List (List Node)) (acc : List (Level × LevelMap)) (i : Nat),
      P acc → P (fromRecordsRaw.go cols acc i rs)
  | [], _, _, h => h
  | r :: rs, acc, i, h => fromRecordsRaw_go_induct cols P step rs _ (i+1) (step acc i r h)

theorem fromRecordsRaw_levels (cols : List Level) (recs : List (List Node)) :
    (fromRecordsRaw cols recs).levels =
      fromRecordsRaw.go cols (cols.map (fun c => (c, []))) 0 recs := rfl

theorem fromRecordsRaw_hierarchy (cols : List Level) (recs : List (List Node)) :
    (fromRecordsRaw cols recs).hierarchy = cols := rfl

theorem fromRecordsRaw_keys (cols : List Level) (recs : List (List Node)) :
    (fromRecordsRaw cols recs).levels.map (·.1) = cols := by
  rw [fromRecordsRaw_levels]
  refine fromRecordsRaw_go_induct cols (fun acc => acc.map (·.1) = cols) ?_ recs _ 0 ?_
  · intro acc i r h; rw [addRecord_keys]; exact h
  · simp [List.map_map, Function.comp_def]

/-! ### distinct node keys -/

/-- every level dict has distinct node keys -/
def NodeKeysOK (acc : List (Level × LevelMap)) : Prop :=
  ∀ l m, (l, m) ∈ acc → (m.map (·.1)).Nodup

theorem col_keys_nodup {acc : List (Level × LevelMap)} (h : NodeKeysOK acc) (l : Level) :
    ((col acc l).map (·.1)).Nodup := by
  unfold col
  cases hl : acc.lookup l with
  | none => exact List.nodup_nil
  | some m => exact h _ _ (ListAux.mem_of_lookup hl)

theorem NodeKeysOK.setLevel_dictAdd {acc : List (Level × LevelMap)} (h : NodeKeysOK acc)
    (l : Level) (k : Node) (v : Nat) (s : Bool) :
    NodeKeysOK (setLevel acc l (dictAdd (col acc l) k v s)) := by
  intro l' m' hm
  rcases mem_setLevel hm with ⟨_, h1⟩ | ⟨_, h1, _⟩
  · exact h _ _ h1
  · rw [h1]; exact dictAdd_keys_nodup k v s (col_keys_nodup h l)

theorem NodeKeysOK.foldl_pairStep (ps : List ((Level × Node) × (Level × Node)))
    {acc : List (Level × LevelMap)} (h : NodeKeysOK acc) : NodeKeysOK (ps.foldl pairStep acc) := by
  induction ps generalizing acc with
  | nil => exact h
  | cons x ps ih => rw [List.foldl_cons]; exact ih (h.setLevel_dictAdd _ _ _ _)

theorem NodeKeysOK.addRecord {acc : List (Level × LevelMap)} (h : NodeKeysOK acc)
    (cols : List Level) (i : Nat) (r : List Node) : NodeKeysOK (addRecord cols acc i r) := by
  rw [addRecord_eq]
  apply NodeKeysOK.foldl_pairStep
  unfold leafStep
  split
  · exact h
  · exact h.setLevel_dictAdd _ _ _ _

theorem fromRecordsRaw_nodeKeysOK (cols : List Level) (recs : List (List Node)) :
    NodeKeysOK (fromRecordsRaw cols recs).levels := by
  rw [fromRecordsRaw_levels]
  refine fromRecordsRaw_go_induct cols NodeKeysOK (fun acc i r h => h.addRecord cols i r) recs _ 0 ?_
  intro l m hm
  obtain ⟨c, _, hc⟩ := List.mem_map.1 hm
  rw [← (Prod.mk.inj hc).2]; exact List.nodup_nil

theorem fromRecordsRaw_dictOK {cols : List Level} (hc : cols.Nodup) (recs : List (List Node)) :
    DictOK (fromRecordsRaw cols recs) :=
  ⟨by rw [fromRecordsRaw_keys]; exact hc, fromRecordsRaw_nodeKeysOK cols recs⟩

/-! ### one record in one column

`pairs` in the names below are the `(parent, child)` steps of one record,
`(cols.zip r).zip (cols.zip r).tail`. -/

/-- the `(parent, child)` steps touch distinct level keys, so each level sees exactly its own
step -/
theorem foldl_pairStep_col (ps : List ((Level × Node) × (Level × Node)))
    (acc : List (Level × LevelMap)) (hn : (ps.map (·.1.1)).Nodup) :
    (∀ l, l ∉ ps.map (·.1.1) → col (ps.foldl pairStep acc) l = col acc l) ∧
    (∀ x, x ∈ ps → x.1.1 ∈ acc.map (·.1) →
      col (ps.foldl pairStep acc) x.1.1 = dictAdd (col acc x.1.1) x.1.2 x.2.2 true) := by
  induction ps generalizing acc with
  | nil => exact ⟨fun _ _ => rfl, fun x hx => by cases hx⟩
  | cons x ps ih =>
    rw [List.map_cons, List.nodup_cons] at hn
    obtain ⟨ih1, ih2⟩ := ih (pairStep acc x) hn.2
    have hkeys : (pairStep acc x).map (·.1) = acc.map (·.1) := setLevel_keys _ _ _
    constructor
    · intro l hl
      rw [List.map_cons, List.mem_cons, not_or] at hl
      rw [List.foldl_cons, ih1 l hl.2]
      exact col_setLevel_ne _ hl.1
    · intro y hy hyk
      rw [List.foldl_cons]
      rcases List.mem_cons.1 hy with h | h
      · subst h
        rw [ih1 _ hn.1]
        exact col_setLevel_self _ hyk
      · have hne : y.1.1 ≠ x.1.1 := by
          intro he
          exact hn.1 (he ▸ List.mem_map.2 ⟨y, h, rfl⟩)
        rw [ih2 y h (by rw [hkeys]; exact hyk)]
        have : col (pairStep acc x) y.1.1 = col acc y.1.1 := col_setLevel_ne _ hne
        rw [this]

theorem pairs_keys_nodup {cols : List Level} (hc : cols.Nodup) (r : List Node) :
    (((cols.zip r).zip (cols.zip r).tail).map (·.1.1)).Nodup := by
  have h1 : ((cols.zip r).zip (cols.zip r).tail).map (·.1.1) =
      (((cols.zip r).zip (cols.zip r).tail).map Prod.fst).map Prod.fst := by
    rw [List.map_map]; rfl
  rw [h1]
  have p1 := (ListAux.map_fst_zip_prefix (cols.zip r) (cols.zip r).tail).map Prod.fst
  have p2 := ListAux.map_fst_zip_prefix cols r
  exact List.Nodup.sublist (p1.trans p2).sublist hc

theorem mem_pairs {cols : List Level} {r : List Node} {x : (Level × Node) × (Level × Node)} :
    x ∈ (cols.zip r).zip (cols.zip r).tail ↔
      ∃ j, cols[j]? = some x.1.1 ∧ r[j]? = some x.1.2 ∧
        cols[j+1]? = some x.2.1 ∧ r[j+1]? = some x.2.2 := by
  obtain ⟨a, b⟩ := x
  rw [ListAux.mem_zip_tail]
  simp only [List.getElem?_zip_eq_some, and_assoc]

theorem zip_getLast? {cols : List Level} {r : List Node} (hr : r.length = cols.length)
    {l : Level} {leaf : Node} (hl : cols.getLast? = some l) (hf : r.getLast? = some leaf) :
    (cols.zip r).getLast? = some (l, leaf) := by
  rw [List.getLast?_eq_getElem?, List.getElem?_zip_eq_some, List.length_zip, hr, Nat.min_self]
  exact ⟨List.getLast?_eq_getElem? ▸ hl, hr ▸ List.getLast?_eq_getElem? ▸ hf⟩

theorem leafStep_eq {cols : List Level} {r : List Node} (hr : r.length = cols.length)
    {l : Level} {leaf : Node} (hl : cols.getLast? = some l) (hf : r.getLast? = some leaf)
    (acc : List (Level × LevelMap)) (i : Nat) :
    leafStep cols acc i r = setLevel acc l (dictAdd (col acc l) leaf i false) := by
  unfold leafStep
  rw [zip_getLast? hr hl hf]

/-- leaf column after one record: `tree[leaf_column][leaf].append(i)` -/
theorem addRecord_col_leaf {cols : List Level} {acc : List (Level × LevelMap)} {r : List Node}
    (hc : cols.Nodup) (hk : acc.map (·.1) = cols) (hr : r.length = cols.length) (i : Nat)
    {l : Level} {leaf : Node} (hl : cols.getLast? = some l) (hf : r.getLast? = some leaf) :
    col (addRecord cols acc i r) l = dictAdd (col acc l) leaf i false := by
  rw [addRecord_eq]
  have hl' := List.getLast?_eq_getElem? ▸ hl
  have hnot : l ∉ ((cols.zip r).zip (cols.zip r).tail).map (·.1.1) := by
    intro hm
    obtain ⟨x, hx, he⟩ := List.mem_map.1 hm
    obtain ⟨j, h1, _, h3, _⟩ := mem_pairs.1 hx
    have := ListAux.lt_of_getElem?_eq_some h3
    have := ListAux.getElem?_inj_of_nodup hc h1 (he ▸ hl')
    omega
  rw [(foldl_pairStep_col _ _ (pairs_keys_nodup hc r)).1 l hnot, leafStep_eq hr hl hf]
  apply col_setLevel_self
  rw [hk]
  exact List.mem_of_getElem? hl'

/-- inner column after one record: `tree[parent_level][p].add(c)` -/
theorem addRecord_col_inner {cols : List Level} {acc : List (Level × LevelMap)} {r : List Node}
    (hc : cols.Nodup) (hk : acc.map (·.1) = cols) (hr : r.length = cols.length) (i : Nat)
    {j : Nat} {l : Level} {p c : Node} (hl : cols[j]? = some l) (hp : r[j]? = some p)
    (hch : r[j+1]? = some c) :
    col (addRecord cols acc i r) l = dictAdd (col acc l) p c true := by
  rw [addRecord_eq]
  have hj1 : j + 1 < cols.length := hr ▸ ListAux.lt_of_getElem?_eq_some hch
  have hx : ((l, p), (cols[j+1], c)) ∈ (cols.zip r).zip (cols.zip r).tail :=
    mem_pairs.2 ⟨j, hl, hp, List.getElem?_eq_getElem hj1, hch⟩
  have hlk : l ∈ (leafStep cols acc i r).map (·.1) := by
    rw [leafStep_keys, hk]; exact List.mem_of_getElem? hl
  have := (foldl_pairStep_col _ (leafStep cols acc i r) (pairs_keys_nodup hc r)).2 _ hx hlk
  rw [this]
  -- the leaf step did not touch column `j`
  have hne : cols ≠ [] := by intro h; rw [h] at hj1; simp at hj1
  have hrne : r ≠ [] := by intro h; rw [h] at hr; simp at hr; omega
  have hl0 := List.getLast?_eq_some_getLast hne
  have hf0 := List.getLast?_eq_some_getLast hrne
  rw [leafStep_eq hr hl0 hf0]
  have : l ≠ cols.getLast hne := by
    intro he
    have := ListAux.getElem?_inj_of_nodup hc hl (he ▸ List.getLast?_eq_getElem? ▸ hl0)
    omega
  show dictAdd (col (setLevel acc _ _) l) p c true = _
  rw [col_setLevel_ne _ this]

/-- The cell in row `k` with labels `r` is the path `r ++ [k]`: its label in each column, then its
row index. -/
theorem path_label {r : List Node} {n : Nat} (hr : r.length = n) (k : Nat) {j : Nat} (hj : j < n) :
    (r ++ [k])[j]? = r[j]? :=
  List.getElem?_append_left (hr ▸ hj)

theorem path_row {r : List Node} {n : Nat} (hr : r.length = n) (k : Nat) :
    (r ++ [k])[n]? = some k :=
  hr ▸ List.getElem?_concat_length

/-- One record in one column, whichever it is: column `j` lists position `j+1` of the cell's path
under position `j`, as a set below an inner column and as a list of rows below the leaf column. -/
theorem addRecord_col {cols : List Level} {acc : List (Level × LevelMap)} {r : List Node}
    (hc : cols.Nodup) (hk : acc.map (·.1) = cols) (hr : r.length = cols.length) (i : Nat)
    {j : Nat} {l : Level} (hl : cols[j]? = some l) :
    ∃ p x, (r ++ [i])[j]? = some p ∧ (r ++ [i])[j+1]? = some x ∧
      col (addRecord cols acc i r) l = dictAdd (col acc l) p x (decide (j + 1 < cols.length)) := by
  have hj := ListAux.lt_of_getElem?_eq_some hl
  have hjr : j < r.length := hr ▸ hj
  have hp : r[j]? = some r[j] := List.getElem?_eq_getElem hjr
  by_cases hj1 : j + 1 < cols.length
  · have hx : r[j+1]? = some (r[j+1]'(hr ▸ hj1)) := List.getElem?_eq_getElem _
    exact ⟨_, _, (path_label hr i hj).trans hp, (path_label hr i hj1).trans hx,
      decide_eq_true hj1 ▸ addRecord_col_inner hc hk hr i hl hp hx⟩
  · have e : j + 1 = cols.length := Nat.le_antisymm hj (Nat.le_of_not_lt hj1)
    have hj2 : cols.length - 1 = j := by rw [← e]; rfl
    refine ⟨_, i, (path_label hr i hj).trans hp, e ▸ path_row hr i,
      decide_eq_false hj1 ▸ addRecord_col_leaf hc hk hr i ?_ ?_⟩
    · rw [List.getLast?_eq_getElem?, hj2]; exact hl
    · rw [List.getLast?_eq_getElem?, hr, hj2]; exact hp

/-! ### the invariant of the accumulator -/

/-- every record has one label per column -/
def RecsOK (cols : List Level) (recs : List (List Node)) : Prop :=
  ∀ r, r ∈ recs → r.length = cols.length

/-- what the accumulator `acc` knows after the records `done` (row index = position), every column read
the same way, on the paths of `path_label` -/
structure PathInv (cols : List Level) (acc : List (Level × LevelMap)) (done : List (List Node)) :
    Prop where
  lens : RecsOK cols done
  keys : acc.map (·.1) = cols
  nodes : ∀ (j : Nat) (l : Level), cols[j]? = some l → ∀ p : Node,
    p ∈ (col acc l).map (·.1) ↔ ∃ r : List Node, r ∈ done ∧ r[j]? = some p
  links : ∀ (j : Nat) (l : Level), cols[j]? = some l → ∀ (p : Node) (x : Nat),
    (∃ vs, (p, vs) ∈ col acc l ∧ x ∈ vs) ↔
      ∃ k r, done[k]? = some r ∧ (r ++ [k])[j]? = some p ∧ (r ++ [k])[j+1]? = some x
  linkNodup : ∀ (j : Nat) (l : Level), cols[j]? = some l → ∀ p vs, (p, vs) ∈ col acc l → vs.Nodup

theorem PathInv.init (cols : List Level) : PathInv cols (cols.map (fun c => (c, []))) [] where
  lens := fun _ h => nomatch h
  keys := by simp [List.map_map, Function.comp_def]
  nodes := by intro j l _ p; rw [col_init]; simp
  links := by intro j l _ p x; rw [col_init]; simp
  linkNodup := by intro j l _ p vs h; rw [col_init] at h; cases h

theorem PathInv.addRecord {cols : List Level} {acc : List (Level × LevelMap)}
    {done : List (List Node)} (h : PathInv cols acc done) (hc : cols.Nodup) {r : List Node}
    (hr : r.length = cols.length) :
    PathInv cols (addRecord cols acc done.length r) (done ++ [r]) where
  lens := by
    intro r' hr'
    rcases List.mem_append.1 hr' with h1 | h1
    · exact h.lens r' h1
    · rw [List.mem_singleton.1 h1]; exact hr
  keys := by rw [addRecord_keys]; exact h.keys
  nodes := by
    intro j l hl p
    obtain ⟨p0, x0, hp0, _, he⟩ := addRecord_col hc h.keys hr done.length hl
    rw [path_label hr _ (ListAux.lt_of_getElem?_eq_some hl)] at hp0
    rw [he, mem_dictAdd_keys, h.nodes j l hl p]
    simp only [List.mem_append, List.mem_singleton, or_and_right, exists_or, exists_eq_left, hp0,
      Option.some.injEq, eq_comm (a := p0)]
  links := by
    intro j l hl p x
    obtain ⟨p0, x0, hp0, hx0, he⟩ := addRecord_col hc h.keys hr done.length hl
    rw [he, mem_val_dictAdd, h.links j l hl p x, ListAux.exists_getElem?_snoc, hp0, hx0,
      Option.some.injEq, Option.some.injEq, eq_comm (a := p0), eq_comm (a := x0)]
  linkNodup := by
    intro j l hl
    obtain ⟨p0, x0, _, hx0, he⟩ := addRecord_col hc h.keys hr done.length hl
    rw [he]
    refine dictAdd_vals_nodup (h.linkNodup j l hl) fun hs vs hvs hin => ?_
    -- the leaf column: row `done.length` is not among the rows of the earlier cells
    have hj1 : j + 1 = cols.length :=
      Nat.le_antisymm (ListAux.lt_of_getElem?_eq_some hl) (Nat.le_of_not_lt (of_decide_eq_false hs))
    obtain ⟨k, r', hk, _, hx⟩ := (h.links j l hl p0 x0).1 ⟨vs, hvs, hin⟩
    have hlt := ListAux.lt_of_getElem?_eq_some hk
    rw [hj1, path_row (h.lens r' (List.mem_of_getElem? hk))] at hx
    rw [hj1, path_row hr] at hx0
    cases hx0
    cases hx
    exact Nat.lt_irrefl _ hlt

theorem PathInv.go {cols : List Level} (hc : cols.Nodup) :
    ∀ (rs : List (List Node)) (acc : List (Level × LevelMap)) (done : List (List Node)),
      PathInv cols acc done → RecsOK cols rs →
      PathInv cols (fromRecordsRaw.go cols acc done.length rs) (done ++ rs)
  | [], acc, done, h, _ => by simpa [fromRecordsRaw.go] using h
  | r :: rs, acc, done, h, hr => by
    have := PathInv.go hc rs _ (done ++ [r]) (h.addRecord hc (hr r (by simp)))
      (fun r' h' => hr r' (by simp [h']))
    simpa [fromRecordsRaw.go, List.length_append] using this

/-- `PathInv` with the inner columns and the leaf column read apart (`PathInv.inv`): the form in which the
statements about the finished tree are made -/
structure Inv (cols : List Level) (acc : List (Level × LevelMap)) (done : List (List Node)) :
    Prop where
  keys : acc.map (·.1) = cols
  nodes : ∀ (j : Nat) (l : Level), cols[j]? = some l → ∀ p : Node,
    p ∈ (col acc l).map (·.1) ↔ ∃ r : List Node, r ∈ done ∧ r[j]? = some p
  children : ∀ (j : Nat) (l : Level), cols[j]? = some l → j + 1 < cols.length → ∀ p c : Node,
    (∃ cs, (p, cs) ∈ col acc l ∧ c ∈ cs) ↔
      ∃ r : List Node, r ∈ done ∧ r[j]? = some p ∧ r[j+1]? = some c
  childNodup : ∀ (j : Nat) (l : Level), cols[j]? = some l → j + 1 < cols.length →
    ∀ p cs, (p, cs) ∈ col acc l → cs.Nodup
  rows : ∀ l, cols.getLast? = some l → ∀ leaf i,
    (∃ rows, (leaf, rows) ∈ col acc l ∧ i ∈ rows) ↔
      ∃ r : List Node, done[i]? = some r ∧ r.getLast? = some leaf
  rowsNodup : ∀ l, cols.getLast? = some l → ∀ leaf rows, (leaf, rows) ∈ col acc l → rows.Nodup

theorem PathInv.inv {cols : List Level} {acc : List (Level × LevelMap)} {done : List (List Node)}
    (h : PathInv cols acc done) : Inv cols acc done where
  keys := h.keys
  nodes := h.nodes
  children := by
    intro j l hl hj p c
    have inner : ∀ {r : List Node} (k : Nat), r ∈ done →
        (r ++ [k])[j]? = r[j]? ∧ (r ++ [k])[j+1]? = r[j+1]? := fun k hm =>
      ⟨path_label (h.lens _ hm) k (Nat.lt_of_succ_lt hj), path_label (h.lens _ hm) k hj⟩
    rw [h.links j l hl p c]
    constructor
    · rintro ⟨k, r, hk, hp, hx⟩
      have hm := List.mem_of_getElem? hk
      exact ⟨r, hm, (inner k hm).1.symm.trans hp, (inner k hm).2.symm.trans hx⟩
    · rintro ⟨r, hm, hp, hx⟩
      obtain ⟨k, hk⟩ := List.getElem?_of_mem hm
      exact ⟨k, r, hk, (inner k hm).1.trans hp, (inner k hm).2.trans hx⟩
  childNodup := fun j l hl _ => h.linkNodup j l hl
  rows := by
    intro l hl leaf i
    rw [List.getLast?_eq_getElem?] at hl
    have hj := ListAux.lt_of_getElem?_eq_some hl
    have last : ∀ {k : Nat} {r : List Node}, done[k]? = some r →
        (r ++ [k])[cols.length - 1]? = r.getLast? ∧ (r ++ [k])[cols.length - 1 + 1]? = some k := by
      intro k r hk
      have hlen := h.lens r (List.mem_of_getElem? hk)
      rw [Nat.sub_add_cancel (Nat.zero_lt_of_lt hj), path_row hlen, path_label hlen k hj,
        List.getLast?_eq_getElem?, hlen]
      exact ⟨rfl, rfl⟩
    rw [h.links _ l hl leaf i]
    constructor
    · rintro ⟨k, r, hk, hp, hx⟩
      obtain rfl : k = i := Option.some.inj ((last hk).2.symm.trans hx)
      exact ⟨r, hk, (last hk).1.symm.trans hp⟩
    · rintro ⟨r, hk, hp⟩
      exact ⟨i, r, hk, (last hk).1.trans hp, (last hk).2⟩
  rowsNodup := fun l hl => h.linkNodup _ l (List.getLast?_eq_getElem? ▸ hl)

theorem fromRecordsRaw_pathInv {cols : List Level} {recs : List (List Node)} (hc : cols.Nodup)
    (hr : RecsOK cols recs) : PathInv cols (fromRecordsRaw cols recs).levels recs := by
  have := PathInv.go hc recs _ [] (PathInv.init cols) hr
  simpa [fromRecordsRaw_levels] using this

theorem fromRecordsRaw_inv {cols : List Level} {recs : List (List Node)} (hc : cols.Nodup)
    (hr : RecsOK cols recs) : Inv cols (fromRecordsRaw cols recs).levels recs :=
  (fromRecordsRaw_pathInv hc hr).inv

/-- label columns functionally nested: same child label ⇒ same parent label -/
def Nested (cols : List Level) (recs : List (List Node)) : Prop :=
  ∀ j, j + 1 < cols.length → ∀ r, r ∈ recs → ∀ r', r' ∈ recs →
    r[j+1]? = r'[j+1]? → r[j]? = r'[j]?

/-! ### the finished tree -/

section final
variable {cols : List Level} {recs : List (List Node)}

theorem fromRecordsRaw_mem_nodesAt (hc : cols.Nodup) (hr : RecsOK cols recs) {j : Nat} {l : Level}
    (hl : cols[j]? = some l) (p : Node) :
    p ∈ (fromRecordsRaw cols recs).nodesAt l ↔ ∃ r, r ∈ recs ∧ r[j]? = some p :=
  (fromRecordsRaw_inv hc hr).nodes j l hl p

/-- One reading of every dict of the built tree, on the paths of `path_label`: `x` is listed under `p` at
column `j` iff some cell's path has `p`, `x` at positions `j`, `j+1`. -/
theorem fromRecordsRaw_mem_entry (hc : cols.Nodup) (hr : RecsOK cols recs) {j : Nat} {l : Level}
    (hl : cols[j]? = some l) (p : Node) (x : Nat) :
    x ∈ (fromRecordsRaw cols recs).entry l p ↔
      ∃ k r, recs[k]? = some r ∧ (r ++ [k])[j]? = some p ∧ (r ++ [k])[j+1]? = some x := by
  rw [mem_entry_iff (fromRecordsRaw_dictOK hc recs)]
  exact (fromRecordsRaw_pathInv hc hr).links j l hl p x

theorem fromRecordsRaw_nodes (hc : cols.Nodup) (hr : RecsOK cols recs) (j : Nat)
    (hj : j < cols.length) (p : Node) :
    p ∈ (fromRecordsRaw cols recs).nodesAt cols[j] ↔ ∃ r, r ∈ recs ∧ r[j]? = some p :=
  fromRecordsRaw_mem_nodesAt hc hr (List.getElem?_eq_getElem hj) p

theorem fromRecordsRaw_children (hc : cols.Nodup) (hr : RecsOK cols recs) (j : Nat)
    (hj : j + 1 < cols.length) (p c : Node) :
    (fromRecordsRaw cols recs).IsChild (cols[j]'(by omega)) p c ↔
      ∃ r, r ∈ recs ∧ r[j]? = some p ∧ r[j+1]? = some c :=
  (fromRecordsRaw_inv hc hr).children j _ (List.getElem?_eq_getElem (by omega)) hj p c

/-- no parent lists a child twice (`set.add`) -/
theorem fromRecordsRaw_childNodup (hc : cols.Nodup) (hr : RecsOK cols recs) (j : Nat)
    (hj : j + 1 < cols.length) (p : Node) (cs : List Nat) :
    (p, cs) ∈ (fromRecordsRaw cols recs).level (cols[j]'(by omega)) → cs.Nodup :=
  (fromRecordsRaw_inv hc hr).childNodup j _ (List.getElem?_eq_getElem (by omega)) hj p cs

theorem fromRecordsRaw_rows (hc : cols.Nodup) (hne : cols ≠ []) (hr : RecsOK cols recs)
    (leaf : Node) (i : Nat) :
    (∃ rows, (leaf, rows) ∈ (fromRecordsRaw cols recs).level (cols.getLast hne) ∧ i ∈ rows) ↔
      ∃ r, recs[i]? = some r ∧ r.getLast? = some leaf :=
  (fromRecordsRaw_inv hc hr).rows _ (List.getLast?_eq_some_getLast hne) leaf i

theorem fromRecordsRaw_rowsNodup (hc : cols.Nodup) (hr : RecsOK cols recs) :
    (fromRecordsRaw cols recs).allRows.Nodup := by
  have inv := fromRecordsRaw_inv hc hr
  have d := fromRecordsRaw_dictOK hc recs
  cases hl : (fromRecordsRaw cols recs).leafLevel with
  | none =>
    unfold allRows
    rw [hl]
    exact List.nodup_nil
  | some l =>
    rw [allRows_of_leaf hl, ← flatMap_entry_nodesAt d]
    refine ListAux.nodup_flatMap_of_eq (d.nodesAt_nodup l)
      (fun n hn => inv.rowsNodup l hl n _ (mem_level_entry hn)) ?_
    -- a row index names one cell, which carries one leaf label
    intro k₁ h₁ k₂ h₂ i hi₁ hi₂
    obtain ⟨r₁, hr₁, hf₁⟩ := (inv.rows l hl k₁ i).1 ⟨_, mem_level_entry h₁, hi₁⟩
    obtain ⟨r₂, hr₂, hf₂⟩ := (inv.rows l hl k₂ i).1 ⟨_, mem_level_entry h₂, hi₂⟩
    rw [hr₁] at hr₂
    cases hr₂
    rw [hf₁] at hf₂
    exact Option.some.inj hf₂

theorem fromRecordsRaw_strict_iff (hc : cols.Nodup) (hr : RecsOK cols recs) :
    Strict (fromRecordsRaw cols recs) ↔ Nested cols recs := by
  have inv := fromRecordsRaw_inv hc hr
  constructor
  · intro hs j hj r hrm r' hrm' he
    have hj0 := Nat.lt_of_succ_lt hj
    have hjr : j + 1 < r.length := hr r hrm ▸ hj
    have hjr0 := Nat.lt_of_succ_lt hjr
    have hjr' : j < r'.length := hr r' hrm' ▸ hj0
    have h1 : r[j]? = some r[j] := List.getElem?_eq_getElem _
    have h2 : r[j+1]? = some r[j+1] := List.getElem?_eq_getElem _
    have h1' : r'[j]? = some r'[j] := List.getElem?_eq_getElem _
    have hl : cols[j]? = some cols[j] := List.getElem?_eq_getElem _
    -- both records list the shared child label under their own parent label
    obtain ⟨cs₁, hm₁, hc₁⟩ := (inv.children j _ hl hj _ _).2 ⟨r, hrm, h1, h2⟩
    obtain ⟨cs₂, hm₂, hc₂⟩ := (inv.children j _ hl hj _ _).2 ⟨r', hrm', h1', he ▸ h2⟩
    rw [h1, h1', hs.oneParent _ _ (mem_levelPairs.2 ⟨j, hj, rfl, rfl⟩) _ _ _ _ hm₁ hm₂ _ hc₁ hc₂]
  · intro hn
    refine strict_of_links rfl rfl (fun k => by rw [fromRecordsRaw_keys]; rfl) (fun pl cl hp => ?_)
      (fromRecordsRaw_rowsNodup hc hr)
    obtain ⟨j, hl₁, hl₂⟩ := ListAux.mem_zip_tail.1 hp
    have hj : j + 1 < cols.length := ListAux.lt_of_getElem?_eq_some hl₂
    have hd := fromRecordsRaw_dictOK hc recs
    refine ⟨?_, ?_, ?_, ?_, inv.childNodup j pl hl₁ hj⟩
    · intro p cs hm c hcs
      obtain ⟨r, hrm, _, hrc⟩ := (inv.children j pl hl₁ hj p c).1 ⟨cs, hm, hcs⟩
      exact (inv.nodes (j+1) cl hl₂ c).2 ⟨r, hrm, hrc⟩
    · intro c hcn
      obtain ⟨r, hrm, hrc⟩ := (inv.nodes (j+1) cl hl₂ c).1 hcn
      have hjr : j < r.length := hr r hrm ▸ Nat.lt_of_succ_lt hj
      have h1 : r[j]? = some r[j] := List.getElem?_eq_getElem _
      obtain ⟨cs, hm, hcs⟩ := (inv.children j pl hl₁ hj _ c).2 ⟨r, hrm, h1, hrc⟩
      exact ⟨_, cs, hm, hcs⟩
    · intro p₁ cs₁ p₂ cs₂ hm₁ hm₂ c hc₁ hc₂
      obtain ⟨r₁, hrm₁, hp₁, hcc₁⟩ := (inv.children j pl hl₁ hj p₁ c).1 ⟨cs₁, hm₁, hc₁⟩
      obtain ⟨r₂, hrm₂, hp₂, hcc₂⟩ := (inv.children j pl hl₁ hj p₂ c).1 ⟨cs₂, hm₂, hc₂⟩
      have := hn j hj r₁ hrm₁ r₂ hrm₂ (hcc₁.trans hcc₂.symm)
      rw [hp₁, hp₂] at this
      exact Option.some.inj this
    · -- every parent key was created together with a child
      intro p cs hm hnil
      have hpn : p ∈ (fromRecordsRaw cols recs).nodesAt pl := mem_nodesAt.2 ⟨cs, hm⟩
      obtain ⟨r, hrm, hrp⟩ := (inv.nodes j pl hl₁ p).1 hpn
      have hjr : j + 1 < r.length := hr r hrm ▸ hj
      have h2 : r[j+1]? = some r[j+1] := List.getElem?_eq_getElem _
      obtain ⟨cs', hm', hc'⟩ := (inv.children j pl hl₁ hj p _).2 ⟨r, hrm, hrp, h2⟩
      have e1 := entry_of_mem hd hm
      have e2 := entry_of_mem hd hm'
      rw [e1] at e2
      subst e2
      rw [hnil] at hc'
      cases hc'

end final

end CTM.RawTree
