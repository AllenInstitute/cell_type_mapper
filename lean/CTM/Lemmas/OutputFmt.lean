/-
  C15, the two facts that need Mathlib (`Lemmas/Output.lean` is core Lean only): `'%.4f'` is
  round-half-even (`Round.rhe`) at scale 10⁴; and the list fact that makes the result of
  `re_order_blob` (`reorder_spec`) a permutation when the cell ids are distinct.
-/
import CTM.Model.Output
import CTM.Lemmas.Round
import Mathlib.Data.List.Nodup

namespace CTM.Output

theorem roundHalfEven_eq_rhe : roundHalfEven = Round.rhe := rfl

theorem fmt4_eq (x : Rat) : fmt4 x = ((Round.rhe (x * 10000) : Int) : Rat) / 10000 := rfl

theorem perm_of_nodup_keys {α κ} (key : α → κ) {rs rs' : List α} {order : List κ}
    (hids : (rs.map key).Nodup) (hord : order.Nodup)
    (hsub : ∀ r ∈ rs, key r ∈ order)
    (hmap : rs'.map key = order)
    (hmem : ∀ r ∈ rs', r ∈ rs) : rs'.Perm rs := by
  have d1 : rs'.Nodup := List.Nodup.of_map key (by rw [hmap]; exact hord)
  have d2 : rs.Nodup := List.Nodup.of_map key hids
  rw [List.perm_ext_iff_of_nodup d1 d2]
  intro r
  constructor
  · exact hmem r
  · intro hr
    have : key r ∈ rs'.map key := by rw [hmap]; exact hsub r hr
    obtain ⟨r', hr', he⟩ := List.mem_map.mp this
    have : r' = r := List.inj_on_of_nodup_map hids (hmem r' hr') hr he
    rw [← this]; exact hr'

end CTM.Output
