import CTM.Lemmas.TreePaths
import CTM.Lemmas.TreeDrop
import CTM.Lemmas.TreeEquivWF

/-!
  Dropping a level of the tree built from per-cell label records equals building the tree on the
  records with that label column erased, up to `TreeEquiv` (`dropLevel_build`; the property theorem is
  `C10.drop_commutes_build`, and `Props/C17/Bridge.lean` reads it for the run on a reduced tree).  Both trees are read through
  `fromRecordsRaw_mem_entry`: `x` is listed under `p` in column `j` iff some cell's path has `p`, `x` at
  positions `j`, `j+1`; erasing a column erases a position of every path.
-/

namespace CTM.RawTree

/-! ### erasing a column keeps `RecsOK` and `Nested` -/

theorem recsOK_eraseIdx {cols : List Level} {recs : List (List Node)} (hr : RecsOK cols recs)
    (i : Nat) : RecsOK (cols.eraseIdx i) (recs.map (·.eraseIdx i)) := by
  intro r' hr'
  obtain ⟨r, hrm, rfl⟩ := List.mem_map.1 hr'
  have := hr r hrm
  simp only [List.length_eraseIdx, this]

theorem nested_eraseIdx {cols : List Level} {recs : List (List Node)} (hn : Nested cols recs)
    (i : Nat) :
    Nested (cols.eraseIdx i) (recs.map (·.eraseIdx i)) := by
  intro j hj a' ha' b' hb' he
  obtain ⟨a, ha, rfl⟩ := List.mem_map.1 ha'
  obtain ⟨b, hb, rfl⟩ := List.mem_map.1 hb'
  simp only [List.getElem?_eraseIdx] at he ⊢
  by_cases h1 : j + 1 < i
  · -- both columns before the erased one
    simp only [if_pos h1] at he
    simp only [if_pos (Nat.lt_of_succ_lt h1)]
    exact hn j (Nat.lt_of_lt_of_le hj (List.length_eraseIdx_le ..)) a ha b hb he
  · have hlt : j + 1 + 1 < cols.length := by
      rw [List.length_eraseIdx] at hj
      split at hj <;> omega
    simp only [if_neg h1] at he
    by_cases h2 : j < i
    · -- across the gap: two steps of nesting
      simp only [if_pos h2]
      exact hn j (Nat.lt_of_succ_lt hlt) a ha b hb (hn (j+1) hlt a ha b hb he)
    · simp only [if_neg h2]
      exact hn (j+1) hlt a ha b hb he

/-! ### the tree built without column `i`, read through the cells' paths -/

section build
variable {cols : List Level} {recs : List (List Node)}

/-- `fromRecordsRaw_mem_entry` for the tree built without column `i`: the paths lose position `i` -/
theorem fromRecordsRaw_eraseIdx_mem_entry (hc : cols.Nodup) (hr : RecsOK cols recs) {i : Nat} (hi : i < cols.length)
    {j : Nat} {l : Level} (hl : (cols.eraseIdx i)[j]? = some l) (p : Node) (x : Nat) :
    x ∈ (fromRecordsRaw (cols.eraseIdx i) (recs.map (·.eraseIdx i))).entry l p ↔
      ∃ k r, recs[k]? = some r ∧ ((r ++ [k]).eraseIdx i)[j]? = some p ∧
        ((r ++ [k]).eraseIdx i)[j+1]? = some x := by
  rw [fromRecordsRaw_mem_entry (hc.sublist (List.eraseIdx_sublist _ _)) (recsOK_eraseIdx hr i) hl]
  have e : ∀ {k : Nat} {r : List Node}, recs[k]? = some r →
      ∀ k' : Nat, (r ++ [k']).eraseIdx i = r.eraseIdx i ++ [k'] :=
    fun hk _ => List.eraseIdx_append_of_lt_length (hr _ (List.mem_of_getElem? hk) ▸ hi) _
  simp only [List.getElem?_map, Option.map_eq_some_iff]
  constructor
  · rintro ⟨k, _, ⟨r, hk, rfl⟩, h⟩
    exact ⟨k, r, hk, e hk k ▸ h⟩
  · rintro ⟨k, r, hk, h⟩
    exact ⟨k, _, ⟨r, hk, rfl⟩, e hk k ▸ h⟩

theorem fromRecordsRaw_eraseIdx_mem_nodesAt (hc : cols.Nodup) (hr : RecsOK cols recs) (i : Nat) {j : Nat} {l : Level}
    (hl : (cols.eraseIdx i)[j]? = some l) (p : Node) :
    p ∈ (fromRecordsRaw (cols.eraseIdx i) (recs.map (·.eraseIdx i))).nodesAt l ↔
      ∃ r, r ∈ recs ∧ (r.eraseIdx i)[j]? = some p := by
  rw [fromRecordsRaw_mem_nodesAt (hc.sublist (List.eraseIdx_sublist _ _)) (recsOK_eraseIdx hr i) hl]
  constructor
  · rintro ⟨r', hr', h⟩
    obtain ⟨r, hrm, rfl⟩ := List.mem_map.1 hr'
    exact ⟨r, hrm, h⟩
  · rintro ⟨r, hrm, h⟩
    exact ⟨_, List.mem_map.2 ⟨r, hrm, rfl⟩, h⟩

end build

/-! ### level `cols[i]` dropped from the built tree against the tree built without column `i`: nodes,
entries -/

section commute
variable {cols : List Level} {recs : List (List Node)} {i : Nat}

theorem drop_build_nodes (hc : cols.Nodup) (hr : RecsOK cols recs) (hi : i < cols.length)
    {j : Nat} (hj : j < cols.length) (hji : j ≠ i) (n : Node) :
    n ∈ ((fromRecordsRaw cols recs).dropAt i hi).nodesAt cols[j] ↔
      n ∈ (fromRecordsRaw (cols.eraseIdx i) (recs.map (·.eraseIdx i))).nodesAt cols[j] := by
  have e : ((fromRecordsRaw cols recs).dropAt i hi).nodesAt cols[j] =
      (fromRecordsRaw cols recs).nodesAt cols[j] :=
    dropAt_nodesAt (t := fromRecordsRaw cols recs) hc hi (ListAux.getElem_ne_of_nodup hc hji)
  rw [e, fromRecordsRaw_mem_nodesAt hc hr (List.getElem?_eq_getElem hj)]
  rcases Nat.lt_or_gt_of_ne hji with hlt | hgt
  · have hl : (cols.eraseIdx i)[j]? = some cols[j] := by
      rw [List.getElem?_eraseIdx, if_pos hlt]; exact List.getElem?_eq_getElem hj
    rw [fromRecordsRaw_eraseIdx_mem_nodesAt hc hr i hl]
    simp only [List.getElem?_eraseIdx, if_pos hlt]
  · obtain ⟨j', rfl⟩ : ∃ j', j = j' + 1 := ⟨j - 1, by omega⟩
    have hn : ¬ j' < i := by omega
    have hl : (cols.eraseIdx i)[j']? = some cols[j'+1] := by
      rw [List.getElem?_eraseIdx, if_neg hn]; exact List.getElem?_eq_getElem hj
    rw [fromRecordsRaw_eraseIdx_mem_nodesAt hc hr i hl]
    simp only [List.getElem?_eraseIdx, if_neg hn]

theorem drop_build_mem_entry (hc : cols.Nodup) (hr : RecsOK cols recs) (hn : Nested cols recs)
    (hi : i < cols.length)
    {j : Nat} (hj : j < cols.length) (hji : j ≠ i) (p : Node) (x : Nat) :
    x ∈ ((fromRecordsRaw cols recs).dropAt i hi).entry cols[j] p ↔
      x ∈ (fromRecordsRaw (cols.eraseIdx i) (recs.map (·.eraseIdx i))).entry cols[j] p := by
  have hcj := List.getElem?_eq_getElem hj
  have other : ∀ {j} (hj : j < cols.length), j ≠ i → j + 1 ≠ i →
      ((fromRecordsRaw cols recs).dropAt i hi).entry cols[j] p =
        (fromRecordsRaw cols recs).entry cols[j] p := fun hj h1 h2 =>
    dropAt_entry_other (t := fromRecordsRaw cols recs) hi (ListAux.getElem_ne_of_nodup hc h1)
      (fun hm => ListAux.getElem_ne_of_nodup hc (by omega) (eq_pred_of_mem_levelPairs hc hi hm).2) p
  rcases Nat.lt_or_gt_of_ne hji with hlt | hgt
  · -- above the dropped level: same position in the shortened paths
    have hl : (cols.eraseIdx i)[j]? = some cols[j] := by
      rw [List.getElem?_eraseIdx, if_pos hlt]; exact hcj
    rw [fromRecordsRaw_eraseIdx_mem_entry hc hr hi hl]
    simp only [List.getElem?_eraseIdx, if_pos hlt]
    by_cases h1 : j + 1 < i
    · rw [other hj hji (Nat.ne_of_lt h1), fromRecordsRaw_mem_entry hc hr hcj]
      simp only [if_pos h1]
    · -- the re-parented level: `x` under a child `m` of `p`; `m` is position `j+1` of a path
      obtain rfl : i = j + 1 := Nat.le_antisymm (Nat.le_of_not_lt h1) hlt
      have e : ((fromRecordsRaw cols recs).dropAt (j + 1) hi).entry cols[j] p =
          ((fromRecordsRaw cols recs).entry cols[j] p).flatMap
            ((fromRecordsRaw cols recs).entry cols[j+1]) :=
        dropAt_entry_parent (t := fromRecordsRaw cols recs) hc hi (mem_levelPairs_of_idx hi) p
      rw [e, List.mem_flatMap]
      simp only [if_neg (Nat.lt_irrefl _)]
      have rd : ∀ {k : Nat} {r : List Node}, recs[k]? = some r → ∀ {a : Nat}, a ≤ j + 1 →
          (r ++ [k])[a]? = r[a]? :=
        fun hk _ ha => List.getElem?_append_left (by rw [hr _ (List.mem_of_getElem? hk)]; omega)
      constructor
      · rintro ⟨m, hm, hx⟩
        obtain ⟨k₁, r₁, hk₁, hp₁, hm₁⟩ := (fromRecordsRaw_mem_entry hc hr hcj p m).1 hm
        obtain ⟨k₂, r₂, hk₂, hm₂, hx₂⟩ :=
          (fromRecordsRaw_mem_entry hc hr (List.getElem?_eq_getElem hi) m x).1 hx
        refine ⟨k₂, r₂, hk₂, ?_, hx₂⟩
        -- both cells carry `m` in column `j+1`: nested columns put `p` above it in both
        rw [rd hk₁ (Nat.le_succ j)] at hp₁
        rw [rd hk₁ (Nat.le_refl _)] at hm₁
        rw [rd hk₂ (Nat.le_refl _)] at hm₂
        rw [rd hk₂ (Nat.le_succ j), ← hp₁]
        exact hn j hi _ (List.mem_of_getElem? hk₂) _ (List.mem_of_getElem? hk₁) (hm₂.trans hm₁.symm)
      · rintro ⟨k, r, hk, hp, hx⟩
        have mid : (r ++ [k])[j+1]? = some ((r ++ [k])[j+1]'(by
            rw [List.length_append, hr _ (List.mem_of_getElem? hk)]; omega)) :=
          List.getElem?_eq_getElem _
        exact ⟨_, (fromRecordsRaw_mem_entry hc hr hcj p _).2 ⟨k, r, hk, hp, mid⟩,
          (fromRecordsRaw_mem_entry hc hr (List.getElem?_eq_getElem hi) _ x).2 ⟨k, r, hk, mid, hx⟩⟩
  · -- below the dropped level: the level dict is untouched, the position moves up by one
    obtain ⟨j', rfl⟩ : ∃ j', j = j' + 1 := ⟨j - 1, by omega⟩
    have hn0 : ¬ j' < i := Nat.not_lt_of_le (Nat.le_of_lt_succ hgt)
    have hn1 : ¬ j' + 1 < i := Nat.not_lt_of_le (Nat.le_of_lt hgt)
    have hl : (cols.eraseIdx i)[j']? = some cols[j'+1] := by
      rw [List.getElem?_eraseIdx, if_neg hn0]; exact hcj
    rw [fromRecordsRaw_eraseIdx_mem_entry hc hr hi hl, other hj hji (by omega), fromRecordsRaw_mem_entry hc hr hcj]
    simp only [List.getElem?_eraseIdx, if_neg hn0, if_neg hn1]

theorem drop_build_equiv (hc : cols.Nodup) (hr : RecsOK cols recs) (hn : Nested cols recs)
    (hi : i < cols.length) (w' : WF ((fromRecordsRaw cols recs).dropAt i hi)) :
    TreeEquiv ((fromRecordsRaw cols recs).dropAt i hi)
      (fromRecordsRaw (cols.eraseIdx i) (recs.map (·.eraseIdx i))) := by
  have hh : ((fromRecordsRaw cols recs).dropAt i hi).hierarchy = cols.eraseIdx i := rfl
  have hcE : (cols.eraseIdx i).Nodup := hc.sublist (List.eraseIdx_sublist _ _)
  have hneE : cols.eraseIdx i ≠ [] := by rw [← hh]; exact w'.hNe
  have s₂ : Strict (fromRecordsRaw (cols.eraseIdx i) (recs.map (·.eraseIdx i))) :=
    (fromRecordsRaw_strict_iff hcE (recsOK_eraseIdx hr i)).2 (nested_eraseIdx hn i)
  refine ⟨hh, ?_, ?_⟩
  · intro l hl n
    rw [hh, List.mem_eraseIdx_iff_getElem] at hl
    obtain ⟨j, hj, hji, rfl⟩ := hl
    exact drop_build_nodes hc hr hi hj hji n
  · intro l hl n hm
    have hl' := hl
    rw [hh, List.mem_eraseIdx_iff_getElem] at hl'
    obtain ⟨j, hj, hji, rfl⟩ := hl'
    refine (List.perm_ext_iff_of_nodup
      ((strict_of_validate w'.valid).entry_nodup_of_mem hl hm)
      (s₂.entry_nodup_of_mem (hh ▸ hl)
        ((drop_build_nodes hc hr hi hj hji n).1 hm))).2
      (drop_build_mem_entry hc hr hn hi hj hji n)

/-! ### `drop_level` commutes with building the tree -/

/-- dropping level `cols[i]` of the tree built from the records gives, up to
the order of dict keys and of the child / row lists, the tree built from the
records with column `i` erased; both are well-formed -/
theorem dropLevel_build {cols : List Level} {recs : List (List Node)} (hc : cols.Nodup)
    (hr : RecsOK cols recs) (hn : Nested cols recs) (hrec : recs ≠ []) {i : Nat}
    (hi : i < cols.length)
    (h2 : 2 ≤ cols.length) (allowLeaf : Bool) (hl : allowLeaf = true ∨ i + 1 < cols.length) :
    ∃ t', (fromRecordsRaw cols recs).dropLevel cols[i] allowLeaf = .ok t' ∧ WF t' ∧
      WF (fromRecordsRaw (cols.eraseIdx i) (recs.map (·.eraseIdx i))) ∧
      TreeEquiv t' (fromRecordsRaw (cols.eraseIdx i) (recs.map (·.eraseIdx i))) := by
  have w : WF (fromRecordsRaw cols recs) :=
    fromRecordsRaw_wf hc (List.ne_nil_of_length_pos (by omega)) hr hn hrec
  obtain ⟨hd, w'⟩ := dropLevel_eq_ok w (i := i) hi h2 (allowLeaf := allowLeaf) hl
  exact ⟨_, hd, w', fromRecordsRaw_wf (hc.sublist (List.eraseIdx_sublist _ _)) w'.hNe
    (recsOK_eraseIdx hr i) (nested_eraseIdx hn i) (fun h => hrec (List.map_eq_nil_iff.1 h)),
    drop_build_equiv hc hr hn hi w'⟩

end commute

end CTM.RawTree
