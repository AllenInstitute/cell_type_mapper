/-
  The tree the level loop runs on (`runTree`: the stored tree, flattened or minus a level).

  `flatten` and `drop_level` keep a tree well-formed (`wfb_flatten`, `wfb_dropLevel`; the latter
  through `wfb_of_strict`: what the validator accepts is well-formed).  `Reduces t0 t` says how the
  tree of a run sits in the stored tree; every `runTree` satisfies it (`runTree_reduces`), and under
  it the finished record of a cell is the path of the stored tree through the voted leaf
  (`cellResult_path`; `cellResult_spec` says it level by level).  With `flatten` the record does not
  depend on the levels dropped before (`cellResult_flatten_congr`).
  Core Lean only.
-/
import CTM.Lemmas.LevelLoopPipeline

namespace CTM
namespace LevelLoop
open RawTree
open Compose (Linked Asked)

/-! ### `runTree`; a run on the stored tree itself -/

theorem runTree_none {t0 : RawTree} {cfg : Config} (h : cfg.dropLevel = none) :
    runTree t0 cfg = .ok (if cfg.flatten then t0.flatten else t0) := by
  simp only [runTree, h]

theorem runTree_drop {t0 t1 : RawTree} {cfg : Config} {l : Level} (h : cfg.dropLevel = some l)
    (hl : l ∈ t0.hierarchy) (hd : t0.dropLevel l = .ok t1) :
    runTree t0 cfg = .ok (if cfg.flatten then t1.flatten else t1) := by
  simp only [runTree, h, List.contains_iff_mem.mpr hl, if_true, hd]

theorem runTree_absent {t0 : RawTree} {cfg : Config} {l : Level} (h : cfg.dropLevel = some l)
    (hl : l ∉ t0.hierarchy) : runTree t0 cfg = .ok (if cfg.flatten then t0.flatten else t0) := by
  simp only [runTree, h, List.contains_iff_mem, hl, if_false]

theorem runTree_ok {t0 t : RawTree} {cfg : Config} (hrun : runTree t0 cfg = .ok t) :
    ∃ t1, t = (if cfg.flatten then t1.flatten else t1) ∧
      ((t1 = t0 ∧ ∀ l, cfg.dropLevel = some l → l ∉ t0.hierarchy) ∨
        ∃ l, cfg.dropLevel = some l ∧ l ∈ t0.hierarchy ∧ t0.dropLevel l = .ok t1) := by
  cases hd : cfg.dropLevel with
  | none =>
    rw [runTree_none hd] at hrun
    exact ⟨t0, (Except.ok.inj hrun).symm, Or.inl ⟨rfl, fun _ h => nomatch h⟩⟩
  | some l =>
    by_cases hc : l ∈ t0.hierarchy
    · cases hdl : t0.dropLevel l with
      | error e =>
        simp only [runTree, hd, List.contains_iff_mem.mpr hc, if_true, hdl] at hrun
        cases hrun
      | ok t1 =>
        rw [runTree_drop hd hc hdl] at hrun
        exact ⟨t1, (Except.ok.inj hrun).symm, Or.inr ⟨l, rfl, hc, hdl⟩⟩
    · rw [runTree_absent hd hc] at hrun
      exact ⟨t0, (Except.ok.inj hrun).symm, Or.inl ⟨rfl, fun _ h => Option.some.inj h ▸ hc⟩⟩

/-- without `drop_level` / `flatten` there is nothing to backfill and the
mapping cannot fail -/
theorem mapPipeline_plain_ok {κ} (t0 : RawTree) (cfg : Config) (vote : Oracle κ)
    (ids : List CellId) (cells : List κ) (order : List Nat)
    (hdrop : cfg.dropLevel = none) (hflat : cfg.flatten = false)
    (hwf : wfb t0 = true) (hv : VoteOK t0 vote)
    (hlen : ids.length = cells.length) (hnd : ids.Nodup)
    (hproc : 1 ≤ cfg.nProc) (hcs : 1 ≤ cfg.chunkSize)
    (horder : order.Perm (List.range
      (chunks cells.length (effChunk cells.length cfg.nProc cfg.chunkSize)).length)) :
    mapPipeline t0 cfg vote ids cells order =
      .ok ((List.zipWith (mkRecord t0 vote) ids cells).map (markDirect t0.hierarchy)) := by
  have hrun : runTree t0 cfg = .ok t0 := by rw [runTree_none hdrop, hflat]; rfl
  rw [mapPipeline_spec t0 t0 cfg vote ids cells order hrun hwf hv hlen hnd hproc hcs horder]
  unfold backfill
  rw [ListAux.mapM_eq_ok_map (g := id)]
  · simp
  · intro r hr
    obtain ⟨r0, hr0, rfl⟩ := List.mem_map.mp hr
    obtain ⟨id, c, rfl⟩ := ListAux.mem_zipWith_exists _ _ _ _ hr0
    exact cellResult_self hwf hv id c

/-! ### `levelOK` from the shape of a tree; what the validator accepts is well-formed

Of two adjacent levels `levelOK` asks what `Strict` asks (`Link`), but for a child listed twice by
one parent, which it does not look at. -/

/-- the pair of the root and the first level: the root's children are the nodes of that level -/
theorem levelOK_root {t : RawTree} {c : Level} (hhead : t.hierarchy.head? = some c)
    (hnd : (t.nodesAt c).Nodup) (hne : t.nodesAt c ≠ []) : levelOK t none c = true := by
  have hch : t.children none = .ok (t.nodesAt c) := children_none_ok_iff.2 ⟨c, hhead, rfl⟩
  refine levelOK_of_facts ⟨hnd, fun p hp => ?_, fun p hp p' hp' hne' => ?_, fun c' hc' => ?_⟩
  · cases List.mem_singleton.mp hp
    exact ⟨_, hch, hne, fun _ h => h⟩
  · exact absurd ((List.mem_singleton.mp hp).trans (List.mem_singleton.mp hp').symm) hne'
  · exact ⟨none, List.mem_singleton_self _, by rw [kidsD_of_ok hch]; exact hc'⟩

theorem levelOK_of_link {t : RawTree} {pl cl : Level} (k : Link (t.level pl) (t.nodesAt cl))
    (hkp : (t.nodesAt pl).Nodup) (hkc : (t.nodesAt cl).Nodup) : levelOK t (some pl) cl = true := by
  refine levelOK_of_facts ⟨hkc, fun q hq => ?_, fun q hq q' hq' hne c hc hc' => ?_, fun c hc => ?_⟩
  · obtain ⟨n, hn, rfl⟩ := (mem_parentNodeList_some t pl q).mp hq
    exact ⟨_, children_of_mem_level hkp (mem_level_entry hn), k.childNe n _ (mem_level_entry hn),
      k.childExists n _ (mem_level_entry hn)⟩
  · obtain ⟨n, hn, rfl⟩ := (mem_parentNodeList_some t pl q).mp hq
    obtain ⟨n', hn', rfl⟩ := (mem_parentNodeList_some t pl q').mp hq'
    rw [kidsD_eq_entry hkp hn] at hc
    rw [kidsD_eq_entry hkp hn'] at hc'
    exact hne (by rw [k.oneParent n _ n' _ (mem_level_entry hn) (mem_level_entry hn') c hc hc'])
  · obtain ⟨n, cs, hnm, hcs⟩ := k.hasParent c hc
    exact ⟨some (pl, n), mem_parentNodeList_of_node (mem_nodesAt.2 ⟨cs, hnm⟩),
      by rw [kidsD_of_mem_level hkp hnm]; exact hcs⟩

theorem LevelFacts.link {t : RawTree} {pl cl : Level} (facts : LevelFacts t (some pl) cl)
    (hkp : (t.nodesAt pl).Nodup) (hcn : ∀ p cs, (p, cs) ∈ t.level pl → cs.Nodup) :
    Link (t.level pl) (t.nodesAt cl) where
  childExists _ cs hp c hc :=
    (facts.kidsD_nodes (mem_nodesAt.2 ⟨cs, hp⟩)).2 c (kidsD_of_mem_level hkp hp ▸ hc)
  hasParent _ hc :=
    let ⟨n, hn, hcn⟩ := facts.surj_nodes hc
    ⟨n, _, mem_level_entry hn, kidsD_eq_entry hkp hn ▸ hcn⟩
  oneParent _ _ _ _ h₁ h₂ _ := facts.oneParent hkp h₁ h₂
  childNe _ cs hp := kidsD_of_mem_level hkp hp ▸ (facts.kidsD_nodes (mem_nodesAt.2 ⟨cs, hp⟩)).1
  childNodup := hcn

/-- what the validator accepts is well-formed for the level loop, once no level lists a node twice
(the validator reads Python dicts, whose keys are distinct; the model's association lists need it
said) -/
theorem wfb_of_strict {t : RawTree} (s : Strict t) (hnd : t.hierarchy.Nodup)
    (hk : ∀ l ∈ t.hierarchy, (t.nodesAt l).Nodup)
    (hnode : ∀ l0, t.hierarchy.head? = some l0 → t.nodesAt l0 ≠ []) : wfb t = true := by
  refine wfb_iff.mpr ⟨hnd, ?_⟩
  rintro ⟨plo, cl⟩ hm
  have hkc := hk cl (List.of_mem_zip hm).2
  rcases (mem_levelPairs_iff t plo cl).mp hm with ⟨rfl, h0⟩ | ⟨pl, a, b, rfl, hs⟩
  · exact levelOK_root h0 hkc (hnode cl h0)
  · exact levelOK_of_link (s.link (mem_levelPairs_iff_split.2 ⟨a, b, hs⟩))
      (hk pl (by rw [hs]; simp)) hkc

/-! ### every level of a well-formed tree has a node -/

/-- the one the walk of `exVote` passes through -/
theorem wfb_nodesAt_nonempty {t : RawTree} (hwf : wfb t = true) {l : Level} (hl : l ∈ t.hierarchy) :
    t.nodesAt l ≠ [] := by
  obtain ⟨es, _, hfst, hsteps⟩ := walk_steps hwf (exVote_ok t) 0
  obtain ⟨le, hle, rfl⟩ := List.mem_map.mp (hfst ▸ hl)
  exact List.ne_nil_of_mem (steps_nodes (exVote_ok t) hsteps le hle)

/-! ### flattening a well-formed tree gives a well-formed tree -/

theorem wfb_flatten {t : RawTree} (hwf : wfb t = true) {ll : Level} (hleaf : t.leafLevel = some ll) :
    wfb t.flatten = true := by
  have hll : ll ∈ t.hierarchy := List.mem_of_getLast? hleaf
  have hfh := flatten_hierarchy hleaf
  have hnodes := flatten_nodesAt_leaf (wfb_nodup_hierarchy hwf) hleaf
  -- one level: the only pair is the root's
  have hroot : levelOK t.flatten none ll = true :=
    levelOK_root (by rw [hfh]; rfl) (by rw [hnodes]; exact wfb_nodup_nodesAt hwf hll)
      (by rw [hnodes]; exact wfb_nodesAt_nonempty hwf hll)
  refine wfb_iff.mpr ⟨hfh ▸ List.pairwise_singleton _ ll, ?_⟩
  simp only [levelPairs, hfh, List.map_cons, List.map_nil, List.zip_cons_cons, List.zip_nil_right,
    List.mem_singleton, forall_eq, hroot]

/-! ### the structure of `drop_level`'s result

`Lemmas/TreeDrop.lean` describes it by the index of the dropped level; here a level is given by a split
of the hierarchy. -/

theorem dropLevel_hierarchy {t t' : RawTree} {l : Level} (h : t.dropLevel l = .ok t') :
    l ∈ t.hierarchy ∧ t'.hierarchy = t.hierarchy.erase l := by
  have hr := dropLevelRaw_of_dropLevel h
  unfold RawTree.dropLevelRaw RawTree.levelIdx at hr
  rw [List.erase_eq_eraseIdx]
  split at hr
  · cases hr
  split at hr
  · cases hr
  rename_i idx hidx
  refine ⟨List.isSome_idxOf?.mp (by rw [hidx]; rfl), ?_⟩
  rw [hidx]
  split at hr
  · cases hr
  split at hr
  · rename_i h0
    cases hr
    simp [eq_of_beq h0]
  · split at hr
    · cases hr
    · cases hr; rfl

/-- `drop_level` refuses the leaf level -/
theorem dropLevel_split {t t' : RawTree} {l : Level} (h : t.dropLevel l = .ok t') :
    ∃ pre cl post, t.hierarchy = pre ++ l :: cl :: post := by
  have hr := dropLevelRaw_of_dropLevel h
  obtain ⟨hmem, _⟩ := dropLevel_hierarchy h
  obtain ⟨pre, rest, hs⟩ := List.append_of_mem hmem
  cases rest with
  | nil =>
    have h1 : t.hierarchy.length ≠ 1 := fun h1 => by rw [dropLevelRaw_flat h1] at hr; cases hr
    rw [dropLevelRaw_leaf h1 hmem (leafLevel_eq_some_iff.2 ⟨pre, hs⟩)] at hr
    cases hr
  | cons cl post => exact ⟨pre, cl, post, hs⟩

theorem dropLevel_hierarchy_split {t t' : RawTree} {l : Level} {pre post : List Level}
    (hnd : t.hierarchy.Nodup) (h : t.dropLevel l = .ok t') (hs : t.hierarchy = pre ++ l :: post) :
    t'.hierarchy = pre ++ post := by
  rw [(dropLevel_hierarchy h).2, hs,
    List.erase_append_right _ (ListAux.not_mem_of_nodup_append_cons (hs ▸ hnd)), List.erase_cons_head]

theorem dropLevel_leafLevel {t t' : RawTree} {l cl : Level} {pre post : List Level}
    (hnd : t.hierarchy.Nodup) (h : t.dropLevel l = .ok t')
    (hs : t.hierarchy = pre ++ l :: cl :: post) :
    ∃ ll, t.leafLevel = some ll ∧ t'.leafLevel = some ll := by
  obtain ⟨ll, hll⟩ :=
    Option.isSome_iff_exists.mp (List.getLast?_isSome.mpr (List.cons_ne_nil cl post))
  refine ⟨ll, ?_, ?_⟩
  · rw [RawTree.leafLevel, hs, List.getLast?_append, List.getLast?_cons_cons, hll, Option.some_or]
  · rw [RawTree.leafLevel, dropLevel_hierarchy_split hnd h hs, List.getLast?_append, hll,
      Option.some_or]

theorem getElem_of_split {h pre post : List Level} {l : Level} (hs : h = pre ++ l :: post) :
    ∃ hi : pre.length < h.length, h[pre.length] = l := by
  subst hs; exact ⟨by simp, by simp⟩

theorem dropLevel_eq_dropAt {t t' : RawTree} {l : Level} {pre post : List Level}
    (hnd : t.hierarchy.Nodup) (h : t.dropLevel l = .ok t') (hs : t.hierarchy = pre ++ l :: post) :
    ∃ hi : pre.length < t.hierarchy.length, t.hierarchy[pre.length] = l ∧
      t' = t.dropAt pre.length hi := by
  obtain ⟨hi, rfl⟩ := getElem_of_split hs
  exact ⟨hi, rfl, (dropLevelRaw_ok_inv hnd hi (dropLevel_eq_ok_iff.1 h).1).2.2⟩

theorem dropLevel_nodesAt {t t' : RawTree} {l : Level} (h : t.dropLevel l = .ok t')
    {pre post : List Level} (hs : t.hierarchy = pre ++ l :: post) (hnd : t.hierarchy.Nodup)
    {l' : Level} (hne : l' ≠ l) : t'.nodesAt l' = t.nodesAt l' := by
  obtain ⟨hi, rfl, rfl⟩ := dropLevel_eq_dropAt hnd h hs
  exact dropAt_nodesAt hnd hi hne

/-- a node of a level other than the dropped one and the one just above it keeps its children -/
theorem dropLevel_kids_same {t t' : RawTree} {l : Level} (hwf : wfb t = true)
    (h : t.dropLevel l = .ok t')
    {pre post : List Level} (hs : t.hierarchy = pre ++ l :: post)
    {l' : Level} (hne : l' ≠ l) (hnl : pre.getLast? ≠ some l') (hl' : l' ∈ t.hierarchy)
    {p : Node} (hp : p ∈ t.nodesAt l') :
    t'.children (some (l', p)) = .ok (kidsD t (some (l', p))) := by
  have hnd := wfb_nodup_hierarchy hwf
  have hk := wfb_nodup_nodesAt hwf hl'
  have hn' := dropLevel_nodesAt h hs hnd hne
  have hnp : (l', l) ∉ RawTree.levelPairs t.hierarchy := fun hm => by
    obtain ⟨a, b, hab⟩ := mem_levelPairs_iff_split.1 hm
    obtain ⟨rfl, -⟩ := ListAux.split_unique pre (a ++ [l']) l post b (hs ▸ hnd)
      (by rw [← hs, hab]; simp)
    exact hnl (by simp)
  obtain ⟨hi, rfl, rfl⟩ := dropLevel_eq_dropAt hnd h hs
  rw [kidsD_eq_entry hk hp, ← dropAt_entry_other hi hne hnp p]
  exact children_of_mem_level (hn' ▸ hk) (mem_level_entry (hn' ▸ hp))

/-- a node of the level just above the dropped one gets its grand-children -/
theorem dropLevel_kids_parent {t t' : RawTree} {l pl : Level} (hwf : wfb t = true)
    (h : t.dropLevel l = .ok t')
    {pre post : List Level} (hs : t.hierarchy = pre ++ pl :: l :: post)
    {p : Node} (hp : p ∈ t.nodesAt pl) :
    t'.children (some (pl, p)) =
      .ok ((kidsD t (some (pl, p))).flatMap (fun m => kidsD t (some (l, m)))) := by
  have hnd := wfb_nodup_hierarchy hwf
  have hs' : t.hierarchy = (pre ++ [pl]) ++ l :: post := by rw [hs]; simp
  have hne : pl ≠ l := fun he =>
    ListAux.not_mem_of_nodup_append_cons (hs' ▸ hnd) (he ▸ by simp)
  have hk := wfb_nodup_nodesAt hwf (l := pl) (by rw [hs]; simp)
  have hkl := wfb_nodup_nodesAt hwf (l := l) (by rw [hs]; simp)
  have hn' := dropLevel_nodesAt h hs' hnd hne
  -- the children of `p` are nodes of `l`, whose entries are their children
  have hentry : (kidsD t (some (pl, p))).flatMap (fun m => kidsD t (some (l, m))) =
      (t.entry pl p).flatMap (t.entry l) := by
    rw [kidsD_eq_entry hk hp, List.flatMap_def, List.flatMap_def]
    exact congrArg List.flatten (List.map_congr_left fun m hm => kidsD_eq_entry hkl
      (((wfb_levelFacts_of_split hwf hs).kidsD_nodes hp).2 m (kidsD_eq_entry hk hp ▸ hm)))
  have hP : (pl, l) ∈ RawTree.levelPairs t.hierarchy := mem_levelPairs_iff_split.2 ⟨pre, post, hs⟩
  obtain ⟨hi, rfl, rfl⟩ := dropLevel_eq_dropAt hnd h hs'
  rw [hentry, ← dropAt_entry_parent hnd hi hP p]
  exact children_of_mem_level (hn' ▸ hk) (mem_level_entry (hn' ▸ hp))

/-! ### `drop_level` of a well-formed tree gives a well-formed tree -/

theorem validate_of_dropLevel {t t' : RawTree} {l : Level} (h : t.dropLevel l = .ok t') :
    t'.validate = .ok () :=
  (dropLevel_eq_ok_iff.1 h).2

/-- the constructor of the reduced tree validates it, and its levels are levels of the stored tree
with the same node names; its child lists need not be looked at -/
theorem wfb_dropLevel {t t' : RawTree} {l : Level} (hwf : wfb t = true)
    (h : t.dropLevel l = .ok t') : wfb t' = true := by
  have hnd := wfb_nodup_hierarchy hwf
  have hv := validate_of_dropLevel h
  obtain ⟨hl, hh'⟩ := dropLevel_hierarchy h
  obtain ⟨pre, post, hs⟩ := List.append_of_mem hl
  refine wfb_of_strict (strict_of_validate hv) (hierarchy_nodup_of_validate hv) (fun x hx => ?_)
    (hasNode_of_validate hv)
  obtain ⟨hne, hx⟩ := hnd.mem_erase_iff.mp (hh' ▸ hx)
  rw [dropLevel_nodesAt h hs hnd hne]
  exact wfb_nodup_nodesAt hwf hx

/-! ### consecutive pairs -/

theorem mem_pairsOf_iff (x y : Level) (zs : List Level) :
    (x, y) ∈ pairsOf zs ↔ ∃ a b, zs = a ++ x :: y :: b :=
  RawTree.mem_levelPairs_iff_split

theorem mem_pairsOf_reverse_iff (c p : Level) (xs : List Level) :
    (c, p) ∈ pairsOf xs.reverse ↔ ∃ a b, xs = a ++ p :: c :: b := by
  rw [mem_pairsOf_iff]
  constructor
  · rintro ⟨a, b, h⟩
    refine ⟨b.reverse, a.reverse, ?_⟩
    have := congrArg List.reverse h
    simpa using this
  · rintro ⟨a, b, h⟩
    refine ⟨b.reverse, a.reverse, ?_⟩
    rw [h]; simp

theorem snd_ne_leaf_of_mem_pairsOf {t : RawTree} (hnd : t.hierarchy.Nodup) {ll : Level}
    (hleaf : t.leafLevel = some ll) {cp : Level × Level}
    (hm : cp ∈ pairsOf t.hierarchy.reverse) : cp.2 ≠ ll := by
  obtain ⟨ys, hys⟩ := leafLevel_eq_some_iff.1 hleaf
  have hrev : t.hierarchy.reverse = ll :: ys.reverse := by rw [hys]; simp
  rw [hrev] at hm
  have hndr := ListAux.nodup_reverse hnd
  rw [hrev] at hndr
  exact fun he => (List.nodup_cons.mp hndr).1 (he ▸ snd_mem_of_mem_pairsOf hm)

/-- a pair consecutive after `l` has been taken out, whose first member is not
the level just above `l`, was consecutive before -/
theorem consecutive_of_erased {pre post a b : List Level} {l cl p c : Level}
    (e : a ++ p :: c :: b = pre ++ cl :: post) (hlast : pre.getLast? ≠ some p) :
    ∃ a0 b0, pre ++ l :: cl :: post = a0 ++ p :: c :: b0 := by
  rcases List.append_eq_append_iff.mp e with ⟨a', hpre, hrest⟩ | ⟨c', ha, hrest⟩
  · cases a' with
    | nil =>
      simp only [List.nil_append, List.cons.injEq] at hrest
      obtain ⟨rfl, rfl⟩ := hrest
      exact ⟨pre ++ [l], b, by simp⟩
    | cons x a'' =>
      simp only [List.cons_append, List.cons.injEq] at hrest
      obtain ⟨rfl, hrest⟩ := hrest
      cases a'' with
      | nil => exact absurd (by rw [hpre]; simp) hlast
      | cons y a3 =>
        simp only [List.cons_append, List.cons.injEq] at hrest
        obtain ⟨rfl, _⟩ := hrest
        exact ⟨a, a3 ++ l :: cl :: post, by rw [hpre]; simp⟩
  · cases c' with
    | nil =>
      simp only [List.nil_append, List.cons.injEq] at hrest
      obtain ⟨rfl, rfl⟩ := hrest
      exact ⟨pre ++ [l], b, by simp⟩
    | cons x c'' =>
      simp only [List.cons_append, List.cons.injEq] at hrest
      obtain ⟨rfl, hpost⟩ := hrest
      exact ⟨pre ++ l :: cl :: c'', b, by rw [hpost]; simp⟩

/-! ### paths of the stored tree -/

theorem exists_childToParent {t : RawTree} (hwf : wfb t = true) {pre post : List Level} {pl cl : Level}
    (hs : t.hierarchy = pre ++ pl :: cl :: post) {c : Node} (hc : c ∈ t.nodesAt cl) :
    ∃ p, p ∈ t.nodesAt pl ∧ t.childToParent cl c = some p := by
  obtain ⟨k, hkm, hk⟩ := (wfb_levelFacts_of_split hwf hs).surj_nodes hc
  exact ⟨k, hkm, childToParent_of_kid hwf hs hkm hk⟩

/-- through every node goes a path to the top, linked by `child_to_parent`
(`ups`: the levels above `c`, nearest first) -/
theorem exists_path_above {t : RawTree} (hwf : wfb t = true) :
    ∀ (ups : List Level) (c : Level) (n : Node) (below : List Level),
      t.hierarchy = (c :: ups).reverse ++ below → n ∈ t.nodesAt c →
      ∃ path : Level → Node, path c = n ∧
        (∀ cp ∈ pairsOf (c :: ups), t.childToParent cp.1 (path cp.1) = some (path cp.2)) ∧
        ∀ x ∈ c :: ups, path x ∈ t.nodesAt x
  | [], c, n, _, _, hn => ⟨fun _ => n, rfl, fun _ h => absurd h List.not_mem_nil,
      fun x hx => by rw [List.mem_singleton.mp hx]; exact hn⟩
  | p :: rest, c, n, below, hs, hn => by
    have hs' : t.hierarchy = (p :: rest).reverse ++ c :: below := by rw [hs]; simp
    obtain ⟨pn, hpn, hq⟩ := exists_childToParent hwf (pre := rest.reverse) (pl := p) (cl := c) (post := below)
      (by rw [hs']; simp) hn
    obtain ⟨path, hp, hlink, hnodes⟩ := exists_path_above hwf rest p pn (c :: below) hs' hpn
    have hcne : ∀ x ∈ p :: rest, x ≠ c := fun x hx he =>
      ListAux.not_mem_of_nodup_append_cons (hs' ▸ wfb_nodup_hierarchy hwf)
        (List.mem_reverse.mpr (he ▸ hx))
    -- the path above the parent, with `n` put at level `c`
    refine ⟨fun x => if x = c then n else path x, if_pos rfl, fun cp hm => ?_, fun x hx => ?_⟩
    · rw [pairsOf_cons_cons] at hm
      rcases List.mem_cons.mp hm with rfl | h
      · simp only [if_true, if_neg (hcne p List.mem_cons_self), hp]
        exact hq
      · have hz := List.of_mem_zip (show (cp.1, cp.2) ∈ (p :: rest).zip rest from h)
        simp only [if_neg (hcne _ hz.1), if_neg (hcne _ (List.mem_cons_of_mem _ hz.2))]
        exact hlink cp h
    · rcases List.mem_cons.mp hx with rfl | h
      · simp only [if_true]; exact hn
      · simp only [if_neg (hcne x h)]; exact hnodes x h

theorem exists_path_of_leaf {t : RawTree} (hwf : wfb t = true) {ll : Level}
    (hleaf : t.leafLevel = some ll) {n : Node} (hn : n ∈ t.nodesAt ll) :
    ∃ path : Level → Node, path ll = n ∧
      (∀ cp ∈ pairsOf t.hierarchy.reverse, t.childToParent cp.1 (path cp.1) = some (path cp.2)) ∧
      ∀ x ∈ t.hierarchy, path x ∈ t.nodesAt x := by
  obtain ⟨ys, hys⟩ := leafLevel_eq_some_iff.1 hleaf
  have hrev : t.hierarchy.reverse = ll :: ys.reverse := by rw [hys]; simp
  obtain ⟨path, h1, h2, h3⟩ := exists_path_above hwf ys.reverse ll n []
    (by rw [← hrev]; simp) hn
  exact ⟨path, h1, hrev ▸ h2, fun x hx => h3 x (hrev ▸ List.mem_reverse.mpr hx)⟩

/-- if each vote is a child (in the run's tree) of the vote above, the last vote lies on `q`, and
`q` passes through `n` whenever it passes through a child of `n` (the clause `desc` of `Reduces`,
defined below), then every vote lies on `q` -/
theorem kidsLinked_agree (t : RawTree) (q : Level → Node) :
    ∀ (es : List (Level × Entry)) (par : Parent),
      Linked (fun p _ e => e.assignment ∈ kidsD t p) par es →
      (∀ le ∈ es, le.2.assignment ∈ t.nodesAt le.1) →
      (∀ pc ∈ pairsOf (es.map (·.1)), ∀ n ∈ t.nodesAt pc.1,
        q pc.2 ∈ kidsD t (some (pc.1, n)) → q pc.1 = n) →
      (∀ le, es.getLast? = some le → q le.1 = le.2.assignment) →
      ∀ le ∈ es, q le.1 = le.2.assignment
  | [], _, _, _, _, _ => fun _ h => absurd h List.not_mem_nil
  | [le], _, _, _, _, hlast => fun le' h => by rw [List.mem_singleton.mp h]; exact hlast le rfl
  | (l, e) :: (l2, e2) :: rest, _, hk, hnodes, hdesc, hlast => by
    have ih := kidsLinked_agree t q ((l2, e2) :: rest) (some (l, e.assignment)) hk.2
      (fun le h => hnodes le (List.mem_cons_of_mem _ h))
      (fun pc h => hdesc pc (List.mem_cons_of_mem _ h))
      (fun le h => hlast le (by rw [List.getLast?_cons_cons]; exact h))
    intro le h
    rcases List.mem_cons.mp h with rfl | h
    · exact hdesc (l, l2) List.mem_cons_self e.assignment (hnodes (l, e) List.mem_cons_self)
        (by rw [ih (l2, e2) List.mem_cons_self]; exact hk.2.1)
    · exact ih le h

/-! ### the tree of the run versus the stored tree: `Reduces` -/

/-- how the tree `t` a run votes on (after `drop_level` / `flatten`) sits in the stored tree `t0`:
both well-formed; the run's levels are stored levels with the same nodes, the leaf level among
them; a child in `t` is a descendant in `t0`, said of paths (`desc`: a path of `t0` through a child
of `n` passes through `n`): the form `cellResult_path` consumes and `refl`, `flatten`,
`dropLevel` produce, with no notion of descendant -/
structure Reduces (t0 t : RawTree) : Prop where
  wf0 : wfb t0 = true
  wf : wfb t = true
  sub : ∀ l ∈ t.hierarchy, l ∈ t0.hierarchy
  nodes : ∀ l ∈ t.hierarchy, t.nodesAt l = t0.nodesAt l
  leaf : t.leafLevel = t0.leafLevel
  desc : ∀ q : Level → Node,
    (∀ cp ∈ pairsOf t0.hierarchy.reverse, t0.childToParent cp.1 (q cp.1) = some (q cp.2)) →
    ∀ pc ∈ pairsOf t.hierarchy, ∀ n ∈ t.nodesAt pc.1,
      q pc.2 ∈ kidsD t (some (pc.1, n)) → q pc.1 = n

theorem Reduces.leaf_mem {t0 t : RawTree} (r : Reduces t0 t) {ll : Level}
    (h : t0.leafLevel = some ll) : ll ∈ t.hierarchy :=
  List.mem_of_getLast? (r.leaf.trans h)

theorem Reduces.refl {t0 : RawTree} (hwf : wfb t0 = true) : Reduces t0 t0 :=
  ⟨hwf, hwf, fun _ h => h, fun _ _ => rfl, rfl, fun q hq ⟨p, c⟩ hpc n hn hk => by
    obtain ⟨a, b, hs⟩ := (mem_pairsOf_iff p c _).mp hpc
    have h1 := childToParent_of_kid hwf hs hn hk
    rw [hq (c, p) ((mem_pairsOf_reverse_iff c p _).mpr ⟨a, b, hs⟩)] at h1
    exact Option.some.inj h1⟩

theorem Reduces.flatten {t0 t : RawTree} (r : Reduces t0 t) : Reduces t0 t.flatten := by
  cases hl : t.leafLevel with
  | none => rw [show t.flatten = t by simp only [RawTree.flatten, hl]]; exact r
  | some ll =>
    have hh := flatten_hierarchy hl
    have hm := List.mem_of_getLast? hl
    refine ⟨r.wf0, wfb_flatten r.wf hl, ?_, ?_, ?_, fun _ _ pc hpc => by rw [hh] at hpc; cases hpc⟩
    · intro l h
      rw [hh, List.mem_singleton] at h
      exact h ▸ r.sub _ hm
    · intro l h
      rw [hh, List.mem_singleton] at h
      subst h
      exact (flatten_nodesAt_leaf (wfb_nodup_hierarchy r.wf) hl).trans (r.nodes _ hm)
    · rw [← r.leaf, hl, RawTree.leafLevel, hh]; rfl

/-- `Reduces.desc` for `drop_level`: a child in `t'` is a child or a grand-child in `t`, so a path
of `t` through it passes through its parent in `t'` -/
theorem dropLevel_desc {t t' : RawTree} {l cl : Level} {pre post : List Level}
    (hwf : wfb t = true) (h : t.dropLevel l = .ok t') (hs : t.hierarchy = pre ++ l :: cl :: post)
    (q : Level → Node)
    (hq : ∀ cp ∈ pairsOf t.hierarchy.reverse, t.childToParent cp.1 (q cp.1) = some (q cp.2))
    (pc : Level × Level) (hpc : pc ∈ pairsOf t'.hierarchy) (n : Node) (hn : n ∈ t'.nodesAt pc.1)
    (hk : q pc.2 ∈ kidsD t' (some (pc.1, n))) : q pc.1 = n := by
  have hnd := wfb_nodup_hierarchy hwf
  have hnd' := wfb_nodup_hierarchy (wfb_dropLevel hwf h)
  have hh'' : t'.hierarchy = pre ++ cl :: post := dropLevel_hierarchy_split hnd h hs
  obtain ⟨p, c⟩ := pc
  obtain ⟨a, b, hsplit'⟩ := (mem_pairsOf_iff p c _).mp hpc
  have hp_ne : p ≠ l := fun he => hnd.not_mem_erase
    ((dropLevel_hierarchy h).2 ▸ (show l ∈ t'.hierarchy by rw [hsplit', he]; simp))
  have hlink : ∀ {a b : List Level} {x y : Level}, t.hierarchy = a ++ y :: x :: b →
      t.childToParent x (q x) = some (q y) :=
    fun hab => hq (_, _) ((mem_pairsOf_reverse_iff _ _ _).mpr ⟨_, _, hab⟩)
  rw [dropLevel_nodesAt h hs hnd hp_ne] at hn
  by_cases hlast : pre.getLast? = some p
  · -- the level above the dropped one: `c = cl`, a grand-child through some `m` of level `l`
    obtain ⟨pre', hpre'⟩ := List.getLast?_eq_some_iff.mp hlast
    have hs1 : t.hierarchy = pre' ++ p :: l :: (cl :: post) := by rw [hs, hpre']; simp
    obtain ⟨_, hb⟩ := ListAux.split_unique a pre' p (c :: b) (cl :: post)
      (by rw [← hsplit']; exact hnd') (by rw [← hsplit', hh'', hpre']; simp)
    cases hb
    rw [kidsD_of_ok (dropLevel_kids_parent hwf h hs1 hn)] at hk
    obtain ⟨m, hm, hkm⟩ := List.mem_flatMap.mp hk
    have h1 := childToParent_of_kid hwf hs
      (((wfb_levelFacts_of_split hwf hs1).kidsD_nodes hn).2 m hm) hkm
    rw [hlink hs] at h1
    cases h1
    have h2 := childToParent_of_kid hwf hs1 hn hm
    rw [hlink hs1] at h2
    exact Option.some.inj h2
  · -- a pair that is also consecutive in the stored tree
    obtain ⟨a0, b0, hs0⟩ := consecutive_of_erased (l := l) (hsplit'.symm.trans hh'') hlast
    have hs2 := hs.trans hs0
    rw [kidsD_of_ok (dropLevel_kids_same hwf h hs hp_ne hlast (by rw [hs2]; simp) hn)] at hk
    have h1 := childToParent_of_kid hwf hs2 hn hk
    rw [hlink hs2] at h1
    exact Option.some.inj h1

theorem Reduces.dropLevel {t0 t' : RawTree} {l : Level} (hwf : wfb t0 = true)
    (h : t0.dropLevel l = .ok t') : Reduces t0 t' := by
  have hnd := wfb_nodup_hierarchy hwf
  obtain ⟨pre, cl, post, hs⟩ := dropLevel_split h
  have hmem0 : ∀ x ∈ t'.hierarchy, x ≠ l ∧ x ∈ t0.hierarchy := fun x hx =>
    hnd.mem_erase_iff.mp ((dropLevel_hierarchy h).2 ▸ hx)
  obtain ⟨ll, hleaf, hleaf'⟩ := dropLevel_leafLevel hnd h hs
  exact ⟨hwf, wfb_dropLevel hwf h, fun x hx => (hmem0 x hx).2,
    fun x hx => dropLevel_nodesAt h hs hnd (hmem0 x hx).1, hleaf'.trans hleaf.symm,
    dropLevel_desc hwf h hs⟩

/-- every tree `_run_mapping` can hand to the election (`drop_level` of an absent level is a
no-op, of a present non-leaf level `_drop_level`; then `flatten` if asked) -/
theorem runTree_reduces {t0 t : RawTree} {cfg : Config} (hwf : wfb t0 = true)
    (h : runTree t0 cfg = .ok t) : Reduces t0 t := by
  obtain ⟨t1, rfl, h1⟩ := runTree_ok h
  have r1 : Reduces t0 t1 := by
    rcases h1 with ⟨rfl, _⟩ | ⟨l, _, _, hdl⟩
    · exact Reduces.refl hwf
    · exact Reduces.dropLevel hwf hdl
  split
  · exact r1.flatten
  · exact r1

/-! ### every record is a path of the stored tree -/

/-- the finished record of a cell is the path of the stored tree through the voted leaf; voted
levels flagged `True`, the others inferred -/
theorem cellResult_path {κ} {t0 t : RawTree} {vote : Oracle κ} (r : Reduces t0 t)
    (hv : VoteOK t vote) (id : CellId) (c : κ) :
    ∃ a : Record, cellResult t0 t vote id c = .ok a ∧ ∃ path : Level → Node,
      (∀ cp ∈ pairsOf t0.hierarchy.reverse,
        t0.childToParent cp.1 (path cp.1) = some (path cp.2)) ∧
      ∀ x ∈ t0.hierarchy, path x ∈ t0.nodesAt x ∧
        ∃ e', a.levels.lookup x = some e' ∧ e'.assignment = path x ∧
          (x ∈ t.hierarchy → e'.direct = some true) ∧
          (x ∉ t.hierarchy → e'.direct = some false ∧ e'.ru = none) := by
  rcases hleaf0 : t0.leafLevel with _ | ll
  · -- no level at all: nothing to vote on, nothing to backfill
    have h0 : t0.hierarchy = [] := List.getLast?_eq_none_iff.mp hleaf0
    exact ⟨_, by unfold cellResult; rw [dropCells_hierarchy, h0]; rfl, fun _ => 0,
      by simp [h0, pairsOf], by simp [h0]⟩
  have hwf0 := r.wf0
  have hwf := r.wf
  have hleaf := r.leaf.trans hleaf0
  have hnodes := r.nodes ll (r.leaf_mem hleaf0)
  have hdesc := r.desc
  have hnd0 := wfb_nodup_hierarchy hwf0
  have hkeys := markDirect_mkRecord_keys hwf hv id c
  obtain ⟨es, hes, hfst, hl⟩ := walk_steps hwf hv c
  have hesn := steps_nodes hv hl
  have hwalk := walkD_of_walkFrom hes
  generalize hR : markDirect t.hierarchy (mkRecord t vote id c) = R at hkeys
  have hA : assignments R.levels = assignments es := by
    rw [← hR, assignments_markDirect]
    simp only [mkRecord, hwalk, assignments_finishCell]
  -- the voted leaf and the path of the stored tree through it
  obtain ⟨⟨_, e⟩, hlast, rfl⟩ := Option.map_eq_some_iff.mp
    (show es.getLast?.map (·.1) = some ll by rw [← List.getLast?_map, hfst]; exact hleaf)
  obtain ⟨path, hpl, hlink, hpn⟩ := exists_path_of_leaf hwf0 hleaf0
    (hnodes ▸ hesn _ (List.mem_of_getLast? hlast))
  have hon : ∀ xn ∈ assignments es, path xn.1 = xn.2 := List.forall_mem_map.2
    (kidsLinked_agree t path es none
      (Linked.imp (fun p l e ⟨kids, ⟨_, _, _, hk, hne, _⟩, he⟩ => by
        rw [he, assignment_entryOf, kidsD_of_ok hk]; exact voteFn_mem hv p l kids c hne) none es hl)
      hesn (by rw [hfst]; exact hdesc path hlink)
      (fun le h => by rw [hlast] at h; cases h; exact hpl))
  obtain ⟨r', h1, _, h3, h4, h6⟩ := backfillPairs_path_spec t0.dropCells path t0.hierarchy.reverse R
    (ListAux.nodup_reverse hnd0)
    (fun cp hm => by rw [dropCells_childToParent_of_nodup hnd0]; exact hlink cp hm)
    (fun x e hx => (hon (x, e.assignment)
      (hA ▸ List.mem_map.mpr ⟨(x, e), ListAux.mem_of_lookup hx, rfl⟩)).symm)
    (fun x hx => by
      rw [List.head?_reverse, ← RawTree.leafLevel, hleaf0] at hx
      cases hx
      exact ListAux.lookup_isSome_iff_keys.mpr (hkeys ▸ List.mem_of_getLast? hleaf))
  refine ⟨r', by unfold cellResult; rw [dropCells_hierarchy, hR]; exact h1, path, hlink,
    fun x hx => ?_⟩
  obtain ⟨e', he', ha'⟩ := h3 x (List.mem_reverse.mpr hx)
  refine ⟨hpn x hx, e', he', ha', fun hxt => ?_, fun hxt => ?_⟩
  · -- a voted level: as flagged by `markDirect`
    obtain ⟨e, hRx⟩ := Option.isSome_iff_exists.mp
      (ListAux.lookup_isSome_iff_keys.mpr (hkeys ▸ hxt))
    have he := h4 x e hRx
    rw [he'] at he
    cases he
    have hmd := markDirect_lookup t.hierarchy (mkRecord t vote id c) x
    rw [hR, hRx] at hmd
    obtain ⟨e0, _, rfl⟩ := Option.map_eq_some_iff.mp hmd.symm
    simp [flagDirect, hxt]
  · -- a level the run did not have: not the leaf level, so it has a level below
    obtain ⟨a, rest, hs⟩ := List.append_of_mem hx
    cases rest with
    | nil =>
      cases hleaf0.symm.trans (leafLevel_eq_some_iff.2 ⟨a, hs⟩)
      exact absurd (List.mem_of_getLast? hleaf) hxt
    | cons cl b =>
      obtain ⟨ec, _, hpe⟩ := h6 (cl, x) ((mem_pairsOf_reverse_iff cl x _).mpr ⟨a, b, hs⟩)
        (ListAux.lookup_eq_none_iff_keys.mpr (hkeys ▸ hxt))
      rw [he'] at hpe
      cases hpe
      exact ⟨rfl, rfl⟩

/-- the finished record level by level: the levels of the run's tree are as in the flagged walk,
every other stored level is the `inferred` copy of the level right below it (parent looked up in
the stored tree) -/
theorem cellResult_spec {κ} {t0 t : RawTree} {vote : Oracle κ} (r : Reduces t0 t)
    (hv : VoteOK t vote) (id : CellId) (c : κ) (a : Record)
    (h : cellResult t0 t vote id c = .ok a) :
    a.cellId = id ∧
    (∀ l, (a.levels.lookup l).isSome = true ↔ l ∈ t0.hierarchy) ∧
    (∀ l, l ∈ t.hierarchy ∨ l ∉ t0.hierarchy → a.levels.lookup l =
      (markDirect t.hierarchy (mkRecord t vote id c)).levels.lookup l) ∧
    (∀ cp ∈ pairsOf t0.hierarchy.reverse, cp.2 ∉ t.hierarchy →
      ∃ ec pn, a.levels.lookup cp.1 = some ec ∧
        t0.childToParent cp.1 ec.assignment = some pn ∧
        a.levels.lookup cp.2 = some (inferred ec pn)) := by
  have hnd0 := wfb_nodup_hierarchy r.wf0
  have hkeys := markDirect_mkRecord_keys r.wf hv id c
  unfold cellResult at h
  rw [dropCells_hierarchy] at h
  obtain ⟨hid, hkeep, hother, hall, hinf⟩ := backfillPairs_ok_spec t0.dropCells
    t0.hierarchy.reverse _ a (ListAux.nodup_reverse hnd0)
    (fun x hx => ListAux.lookup_isSome_iff_keys.mpr (by
      rw [List.head?_reverse] at hx
      rw [hkeys]; exact r.leaf_mem hx)) h
  have hsame : ∀ l, l ∈ t.hierarchy ∨ l ∉ t0.hierarchy → a.levels.lookup l =
      (markDirect t.hierarchy (mkRecord t vote id c)).levels.lookup l := by
    rintro l (hl | hl)
    · obtain ⟨e, he⟩ := Option.isSome_iff_exists.mp
        ((ListAux.lookup_isSome_iff_keys (k := l)).mpr (by rw [hkeys]; exact hl))
      rw [he]; exact hkeep l e he
    · exact hother l (fun hm => hl (List.mem_reverse.mp hm))
  refine ⟨hid, fun l => ⟨fun hs => ?_, fun hl => hall l (List.mem_reverse.mpr hl)⟩, hsame,
    fun cp hm hn => ?_⟩
  · refine Classical.byContradiction fun hl => ?_
    rw [hsame l (Or.inr hl), ListAux.lookup_eq_none_iff_keys.mpr
      (by rw [hkeys]; exact fun hm => hl (r.sub l hm))] at hs
    cases hs
  · obtain ⟨ec, pn, h1, h2, h3⟩ :=
      hinf cp hm (ListAux.lookup_eq_none_iff_keys.mpr (by rw [hkeys]; exact hn))
    exact ⟨ec, pn, h1, by rw [← dropCells_childToParent_of_nodup hnd0]; exact h2, h3⟩

/-! ### one-level trees: flatten together with drop_level -/

theorem asLeaves_onelevel {t : RawTree} {ll : Level} (h : t.hierarchy = [ll]) (cl : Level) (k : Node) :
    t.asLeaves cl k = [k] := by
  simp only [RawTree.asLeaves, RawTree.levelsBelow, RawTree.levelIdx, h, List.idxOf?_cons,
    List.idxOf?_nil]
  by_cases hc : (ll == cl) = true
  · simp [hc, RawTree.leavesFrom]
  · simp [hc, RawTree.leavesFrom]

theorem map_fst_kidsOf (t : RawTree) (cl : Level) (kids : List Node) :
    (kidsOf t cl kids).map (·.1) = kids := by
  simp [kidsOf, Function.comp_def]

theorem kidsOf_onelevel {t : RawTree} {ll : Level} (h : t.hierarchy = [ll]) (cl : Level)
    (kids : List Node) : kidsOf t cl kids = kids.map (fun k => (k, [k])) := by
  simp only [kidsOf, asLeaves_onelevel h]

theorem voteOK_onelevel {κ} {t1 t2 : RawTree} {ll : Level} {vote : Oracle κ}
    (h1 : t1.hierarchy = [ll]) (h2 : t2.hierarchy = [ll]) (hv : VoteOK t1 vote) : VoteOK t2 vote := by
  intro p cl kids c hk
  have := hv p cl kids c hk
  rw [kidsOf_onelevel h1] at this
  rw [kidsOf_onelevel h2]
  exact this

theorem walk_onelevel_congr {κ} {t1 t2 : RawTree} {ll : Level} (vote : Oracle κ) (c : κ)
    (h1 : t1.hierarchy = [ll]) (h2 : t2.hierarchy = [ll]) (hn : t1.nodesAt ll = t2.nodesAt ll) :
    walk t1 vote c = walk t2 vote c := by
  have hw : walkFrom t1 vote c [ll] none = walkFrom t2 vote c [ll] none := by
    simp only [walkFrom, RawTree.children, h1, h2, List.head?_cons, hn, voteFn,
      kidsOf_onelevel h1, kidsOf_onelevel h2]
  simp only [walk, h1, h2, hw]

/-- with `flatten`, which levels were dropped before is irrelevant: the run tree is the
one-level tree of the same leaves either way, so every cell's record is the same -/
theorem cellResult_flatten_congr {κ} {t0 t1 t2 : RawTree} {ll : Level} (vote : Oracle κ)
    (r1 : Reduces t0 t1) (r2 : Reduces t0 t2) (hleaf : t0.leafLevel = some ll) :
    cellResult t0 t1.flatten vote = cellResult t0 t2.flatten vote := by
  have h1 := flatten_hierarchy (r1.leaf.trans hleaf)
  have h2 := flatten_hierarchy (r2.leaf.trans hleaf)
  have hn : t1.flatten.nodesAt ll = t2.flatten.nodesAt ll :=
    (r1.flatten.nodes ll (h1 ▸ List.mem_singleton_self ll)).trans
      (r2.flatten.nodes ll (h2 ▸ List.mem_singleton_self ll)).symm
  funext id c
  simp only [cellResult, mkRecord, walkD, walk_onelevel_congr vote c h1 h2 hn, h1, h2]

end LevelLoop
end CTM
