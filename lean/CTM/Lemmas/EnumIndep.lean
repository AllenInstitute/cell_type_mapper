/-
  C04 — enumeration order of Python sets (PYTHONHASHSEED).

  `run_type_assignment` builds `previously_assigned[child_level]` by walking
  `set(assignment)`:
      for idx, celltype in enumerate(set(assignment)):
          type_to_idx[celltype] = idx; idx_to_type.append(celltype)
      ...
      for idx in range(len(idx_to_type)):
          previously_assigned[child_level][idx_to_type[idx]] = chosen_idx[assignment_idx == idx]
  The level-loop model (`CTM/Model/LevelLoop.lean`) fixes that enumeration to
  first-occurrence order (`distinct`).  Here the loop is re-stated with the
  enumeration as a parameter `enum` (any function that lists exactly the
  assigned types, in any order, with or without repeats) and shown to give the
  same result as the model's loop - so the result does not depend on the enumeration.
  `processParentE` … `mapPipelineE` are copies of the bodies in `Model/LevelLoop.lean` with
  `distinct` replaced by `enum`; `processParent_rel` unfolds the two side by side and is the
  one proof that has to follow a change of the model's loop.
  Also: `aggregate_votes` with the enumeration of `set(reference_types)` as a
  parameter.
-/
import CTM.Lemmas.ListAux
import CTM.Lemmas.LevelLoop
import CTM.Lemmas.Election
import CTM.Lemmas.BridgeWF

namespace CTM.EnumIndep
open CTM CTM.LevelLoop

/-- `enum l` lists exactly the elements of `set(l)` (some order) -/
def IsEnum (enum : List Node → List Node) : Prop := ∀ l x, x ∈ enum l ↔ x ∈ l

theorem isEnum_distinct : IsEnum distinct := fun l x => mem_distinct x l

/-- `processParent` with `set(assignment)` enumerated by `enum` -/
def processParentE {κ} (enum : List Node → List Node) (t : RawTree) (vote : Oracle κ)
    (cells : List κ) (cl : Level) (prevParent : AssignMap) (acc : AssignMap × List CellDict)
    (parent : Parent) : Except Err (AssignMap × List CellDict) :=
  let chosenIdx := chosenIdxOf cells.length prevParent parent
  if chosenIdx.isEmpty then .ok acc
  else match t.children parent with
    | .error e => .error (.tree e)
    | .ok kids =>
      match selectCells cells chosenIdx with
      | .error e => .error e
      | .ok chosen =>
        match votesFor t vote parent cl kids chosen with
        | .error e => .error e
        | .ok votes =>
          let types := enum (votes.map (·.assignment))
          let prevChild := types.foldl
            (fun m ct => (ct, rowsOf ct chosenIdx votes) :: m) acc.1
          .ok (prevChild, writeBack cl chosenIdx votes acc.2)

def processParentsE {κ} (enum : List Node → List Node) (t : RawTree) (vote : Oracle κ)
    (cells : List κ) (cl : Level) (prevParent : AssignMap) :
    List Parent → AssignMap × List CellDict → Except Err (AssignMap × List CellDict)
  | [], acc => .ok acc
  | p :: ps, acc =>
    match processParentE enum t vote cells cl prevParent acc p with
    | .error e => .error e
    | .ok acc' => processParentsE enum t vote cells cl prevParent ps acc'

def levelStepsE {κ} (enum : List Node → List Node) (t : RawTree) (vote : Oracle κ)
    (cells : List κ) :
    Option Level → List Level → AssignMap → List CellDict → Except Err (List CellDict)
  | _, [], _, res => .ok res
  | pl, cl :: rest, prev, res =>
    match processParentsE enum t vote cells cl prev (parentNodeList t pl) ([], res) with
    | .error e => .error e
    | .ok (prevChild, res') => levelStepsE enum t vote cells (some cl) rest prevChild res'

/-- `run_type_assignment` with `set(assignment)` enumerated by `enum` -/
def runLevelLoopE {κ} (enum : List Node → List Node) (t : RawTree) (vote : Oracle κ)
    (cells : List κ) : Except Err (List (List (Level × Entry))) :=
  match levelStepsE enum t vote cells none t.hierarchy [] (cells.map (fun _ => [])) with
  | .error e => .error e
  | .ok res => finishAll t.hierarchy res

def runChunkE {κ} (enum : List Node → List Node) (t : RawTree) (vote : Oracle κ)
    (ids : List CellId) (cells : List κ) (r : Nat × Nat) : Except Err (List Record) :=
  match runLevelLoopE enum t vote (slice cells r.1 r.2) with
  | .error e => .error e
  | .ok a => attachIds (slice ids r.1 r.2) a

def runChunksE {κ} (enum : List Node → List Node) (t : RawTree) (vote : Oracle κ)
    (ids : List CellId) (cells : List κ) : List (Nat × Nat) → Except Err (List (List Record))
  | [] => .ok []
  | r :: rs =>
    match runChunkE enum t vote ids cells r with
    | .error e => .error e
    | .ok x =>
      match runChunksE enum t vote ids cells rs with
      | .error e => .error e
      | .ok xs => .ok (x :: xs)

/-- `_run_mapping`'s data flow (`LevelLoop.mapPipeline`) with `set(assignment)`
enumerated by `enum` in every worker -/
def mapPipelineE {κ} (enum : List Node → List Node) (t0 : RawTree) (cfg : Config)
    (vote : Oracle κ) (ids : List CellId) (cells : List κ) (order : List Nat) :
    Except Err (List Record) :=
  let tMeta := t0.dropCells
  match runTree t0 cfg with
  | .error e => .error e
  | .ok t =>
    if cfg.nProc == 0 then .error .zeroProcessors
    else
      let cs := effChunk cells.length cfg.nProc cfg.chunkSize
      if cs == 0 then .error .zeroChunk
      else match runChunksE enum t vote ids cells (chunks cells.length cs) with
        | .error e => .error e
        | .ok parts =>
          let blob := (gather parts order).map (markDirect t.hierarchy)
          match reorderBlob ids blob with
          | .error e => .error e
          | .ok ordered => backfill tMeta ordered

/-! ### `previously_assigned` is only ever looked up -/

/-- two `previously_assigned[level]` dicts with the same content -/
def MapEq (m₁ m₂ : AssignMap) : Prop := ∀ k, m₁.lookup k = m₂.lookup k

theorem foldl_mapEq (f : Node → List Nat) {ty₁ ty₂ : List Node} (hm : ∀ x, x ∈ ty₁ ↔ x ∈ ty₂)
    {a₁ a₂ : AssignMap} (ha : MapEq a₁ a₂) :
    MapEq (ty₁.foldl (fun m ct => (ct, f ct) :: m) a₁)
      (ty₂.foldl (fun m ct => (ct, f ct) :: m) a₂) := by
  intro k
  rw [ListAux.lookup_foldl_prepend, ListAux.lookup_foldl_prepend, ha k]
  by_cases h : k ∈ ty₁
  · simp [h, (hm k).1 h]
  · have : k ∉ ty₂ := fun h2 => h ((hm k).2 h2)
    simp [h, this]

theorem chosenIdxOf_congr {m₁ m₂ : AssignMap} (h : MapEq m₁ m₂) (n : Nat) (p : Parent) :
    chosenIdxOf n m₁ p = chosenIdxOf n m₂ p := by
  cases p with
  | none => rfl
  | some q => simp [chosenIdxOf, h q.2]

/-- same outcome up to the internal order of `previously_assigned[child_level]` -/
def AccRel : Except Err (AssignMap × List CellDict) → Except Err (AssignMap × List CellDict) → Prop
  | .ok a, .ok b => MapEq a.1 b.1 ∧ a.2 = b.2
  | .error e, .error e' => e = e'
  | _, _ => False

theorem AccRel.cases {x y : Except Err (AssignMap × List CellDict)} (h : AccRel x y) :
    (∃ e, x = .error e ∧ y = .error e) ∨
      ∃ a b, x = .ok a ∧ y = .ok b ∧ MapEq a.1 b.1 ∧ a.2 = b.2 := by
  cases x with
  | error e =>
    cases y with
    | error e' => exact Or.inl ⟨e, rfl, congrArg _ (Eq.symm h)⟩
    | ok b => exact h.elim
  | ok a =>
    cases y with
    | error e => exact h.elim
    | ok b => exact Or.inr ⟨a, b, rfl, rfl, h⟩

theorem processParent_rel {κ} {enum : List Node → List Node} (he : IsEnum enum) (t : RawTree)
    (vote : Oracle κ) (cells : List κ) (cl : Level) {prev₁ prev₂ : AssignMap}
    (hprev : MapEq prev₁ prev₂) {acc₁ acc₂ : AssignMap × List CellDict}
    (h1 : MapEq acc₁.1 acc₂.1) (h2 : acc₁.2 = acc₂.2) (p : Parent) :
    AccRel (processParentE enum t vote cells cl prev₁ acc₁ p)
      (processParent t vote cells cl prev₂ acc₂ p) := by
  unfold processParentE processParent
  rw [chosenIdxOf_congr hprev]
  by_cases hE : (chosenIdxOf cells.length prev₂ p).isEmpty = true
  · simp only [hE, if_true]
    exact ⟨h1, h2⟩
  · simp only [hE, Bool.false_eq_true, if_false]
    cases t.children p with
    | error e => exact rfl
    | ok kids =>
      simp only
      cases selectCells cells (chosenIdxOf cells.length prev₂ p) with
      | error e => exact rfl
      | ok chosen =>
        simp only
        cases votesFor t vote p cl kids chosen with
        | error e => exact rfl
        | ok votes =>
          simp only
          refine ⟨?_, by rw [h2]⟩
          apply foldl_mapEq _ _ h1
          intro x
          rw [he _ x, mem_distinct]

theorem processParents_rel {κ} {enum : List Node → List Node} (he : IsEnum enum) (t : RawTree)
    (vote : Oracle κ) (cells : List κ) (cl : Level) {prev₁ prev₂ : AssignMap}
    (hprev : MapEq prev₁ prev₂) (ps : List Parent) {acc₁ acc₂ : AssignMap × List CellDict}
    (h1 : MapEq acc₁.1 acc₂.1) (h2 : acc₁.2 = acc₂.2) :
    AccRel (processParentsE enum t vote cells cl prev₁ ps acc₁)
      (processParents t vote cells cl prev₂ ps acc₂) := by
  induction ps generalizing acc₁ acc₂ with
  | nil => exact ⟨h1, h2⟩
  | cons p ps ih =>
    rcases (processParent_rel he t vote cells cl hprev h1 h2 p).cases with
      ⟨e, ha, hb⟩ | ⟨a, b, ha, hb, hm, hr⟩
    · simp only [processParentsE, processParents, ha, hb, AccRel]
    · simp only [processParentsE, processParents, ha, hb]
      exact ih hm hr

theorem levelSteps_eq {κ} {enum : List Node → List Node} (he : IsEnum enum) (t : RawTree)
    (vote : Oracle κ) (cells : List κ) (ls : List Level) (pl : Option Level)
    {prev₁ prev₂ : AssignMap} (hprev : MapEq prev₁ prev₂) (res : List CellDict) :
    levelStepsE enum t vote cells pl ls prev₁ res = levelSteps t vote cells pl ls prev₂ res := by
  induction ls generalizing pl prev₁ prev₂ res with
  | nil => rfl
  | cons cl rest ih =>
    rcases (processParents_rel he t vote cells cl hprev (parentNodeList t pl)
      (acc₁ := ([], res)) (acc₂ := ([], res)) (fun _ => rfl) rfl).cases with
      ⟨e, ha, hb⟩ | ⟨⟨a1, a2⟩, ⟨b1, b2⟩, ha, hb, hm, hr⟩
    · simp only [levelStepsE, levelSteps, ha, hb]
    · obtain rfl : a2 = b2 := hr
      simp only [levelStepsE, levelSteps, ha, hb]
      exact ih (some cl) hm a2

/-- `run_type_assignment` does not depend on the order in which
`set(assignment)` is enumerated -/
theorem runLevelLoopE_eq {κ} {enum : List Node → List Node} (he : IsEnum enum) (t : RawTree)
    (vote : Oracle κ) (cells : List κ) :
    runLevelLoopE enum t vote cells = runLevelLoop t vote cells := by
  unfold runLevelLoopE runLevelLoop
  rw [levelSteps_eq he t vote cells t.hierarchy none (fun _ => rfl)]
  rfl

theorem runChunksE_eq {κ} {enum : List Node → List Node} (he : IsEnum enum) (t : RawTree)
    (vote : Oracle κ) (ids : List CellId) (cells : List κ) (rs : List (Nat × Nat)) :
    runChunksE enum t vote ids cells rs = runChunks t vote ids cells rs := by
  induction rs with
  | nil => rfl
  | cons r rs ih =>
    simp only [runChunksE, runChunks, runChunkE, runChunk, runLevelLoopE_eq he, ih]
    rfl

theorem mapPipelineE_eq {κ} {enum : List Node → List Node} (he : IsEnum enum) (t0 : RawTree)
    (cfg : Config) (vote : Oracle κ) (ids : List CellId) (cells : List κ) (order : List Nat) :
    mapPipelineE enum t0 cfg vote ids cells order = mapPipeline t0 cfg vote ids cells order := by
  unfold mapPipelineE mapPipeline
  simp only [runChunksE_eq he]
  rfl

/-! ### `aggregate_votes` sorts what it enumerates -/

/-- `aggregate_votes`: `unq_types = list(set(reference_types)); unq_types.sort()`
with `enum` the list `list(set(reference_types))` came out as -/
def aggregateVotesE (enum types votes : List Nat) (corr : List Rat) :
    List Nat × List Rat × List Nat :=
  let unq := Election.uniqSorted enum
  (unq.map (fun t => ((Election.colsOf types t).map (fun i => votes.getD i 0)).sum),
   unq.map (fun t => ((Election.colsOf types t).map (fun i => corr.getD i 0)).sum),
   unq)

theorem uniqSorted_congr {e₁ e₂ : List Nat} (h : ∀ t, t ∈ e₁ ↔ t ∈ e₂) :
    Election.uniqSorted e₁ = Election.uniqSorted e₂ :=
  ListAux.eq_of_sorted_of_mem_iff (Election.sorted_uniqSorted e₁) (Election.sorted_uniqSorted e₂)
    fun a => by rw [Election.mem_uniqSorted, Election.mem_uniqSorted, h]

theorem aggregateVotesE_eq {enum types : List Nat} (h : ∀ t, t ∈ enum ↔ t ∈ types)
    (votes : List Nat) (corr : List Rat) :
    aggregateVotesE enum types votes corr = Election.aggregateVotes types votes corr := by
  unfold aggregateVotesE Election.aggregateVotes
  rw [uniqSorted_congr h]

end CTM.EnumIndep
