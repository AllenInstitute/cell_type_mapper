/-
  Composition of the reference-marker model with the sparse model
  (`CTM/Model/Sparse.lean`, theorems `C13.*`) and the process model
  (`CTM/Model/Procs.lean`, theorems `C04.*`).

  * adapters between the marker tables `(indptr, indices)` of
    `CTM/Model/RefMarkers.lean` and the sparse model's compressed matrices `Mat Unit`
    (`data_tag = None`: no value array);
  * `byGeneTable` (`markers.add_sparse_by_gene_markers_to_file` for one direction:
    `n_processors == 1` → `transpose_sparse_matrix_on_disk`, else
    `transpose_sparse_matrix_on_disk_v2`) is the transpose of the pair-major table for any worker
    count and budget: `byGeneTable_lookupToSparse`;
  * the keyed merges: per-chunk files keyed by their first pair index
    (`tmp_path_dict[col0]`, `idx_to_path[min_row]`), visited in *numeric* sorted key order
    (`_merge_sparse_by_pair_files`, `_merge_masks`), give the table of all pairs for any order in
    which the workers finish: `mergeTables_exact`, `mergeMasks_exact`;
  * the string order of the keys, for the counter-example of `Props/C11/Compose.lean`.

  `tableJobs`, `mergeTablesBy`, `mergeTables` are in `Model/RefMarkersCompose.lean`, which the driver
  links; the mask merge (`maskSeg` … `mergeMasks`) and the string order (`decimal`, `lexLe`,
  `lexSortKeys`) are defined here: no operation of the driver runs them, and `ofSegs`, with which
  `maskChunkFile` is written, is defined in `Lemmas/SparseConcat.lean`.
-/
import CTM.Lemmas.RefMarkers
import CTM.Model.RefMarkersCompose
import CTM.Props.C13
import CTM.Props.C04

namespace CTM.RefMarkers
open CTM.Sparse CTM.Chunking CTM.Procs

/-! ### adapters: a marker table as a matrix of the sparse model -/

/-- the rows of a table as segments of the sparse model -/
def unitSegs (rows : List (List Nat)) : List (Seg Unit) :=
  rows.map (fun r => (r, List.replicate r.length ()))

theorem unitSegs_fst (rows : List (List Nat)) : (unitSegs rows).map (·.1) = rows := by
  rw [unitSegs, List.map_map]
  exact List.map_id _

theorem unitSegs_flatMap_snd (rows : List (List Nat)) :
    (unitSegs rows).flatMap (·.2) = List.replicate rows.flatten.length () := by
  induction rows with
  | nil => rfl
  | cons r rs ih =>
    simp only [unitSegs, List.map_cons, List.flatMap_cons, List.flatten_cons,
      List.length_append] at ih ⊢
    rw [ih, List.replicate_append_replicate]

theorem unitSegs_prefix (rows : List (List Nat)) (k : Nat) :
    segPrefix (unitSegs rows) k = ((rows.take k).map List.length).sum := by
  unfold segPrefix unitSegs
  rw [← List.map_take, List.map_map]
  rfl

theorem unitSegs_ok (rows : List (List Nat)) : SegsOK (unitSegs rows) := by
  intro s hs
  obtain ⟨r, _, rfl⟩ := List.mem_map.mp hs
  exact (List.length_replicate ..).symm

theorem unitSegs_length (rows : List (List Nat)) : (unitSegs rows).length = rows.length :=
  List.length_map _

theorem unitSegs_indices (rows : List (List Nat)) :
    (ofSegs (unitSegs rows)).indices = rows.flatten := by
  rw [ofSegs, List.flatMap_def, unitSegs_fst]

/-- the table `_lookup_to_sparse` builds is the canonical matrix `ofSegs` of its rows -/
theorem toMat_lookupToSparse (rows : List (List Nat)) :
    toMat (lookupToSparse rows) = ofSegs (unitSegs rows) := by
  have hi := unitSegs_indices rows
  unfold toMat lookupToSparse ofSegs at *
  simp only at hi ⊢
  congr 1
  · rw [unitSegs_length, List.range_succ, List.map_append, List.map_cons, List.map_nil,
      indptrFrom_eq]
    congr 1
    · apply List.map_congr_left
      intro k _
      rw [unitSegs_prefix]; omega
    · rw [unitSegs_prefix, List.take_length, List.length_flatten]
  · exact hi.symm
  · exact (unitSegs_flatMap_snd rows).symm

theorem unitSegs_slice (rows : List (List Nat)) (i : Nat) (hi : i < rows.length) :
    slice (ofSegs (unitSegs rows)).indices (ptr (ofSegs (unitSegs rows)).indptr i)
      (ptr (ofSegs (unitSegs rows)).indptr (i + 1)) = rows[i] := by
  have h := segOf_ofSegs (unitSegs rows) (unitSegs_ok rows) i (by rw [unitSegs_length]; exact hi)
  have := congrArg Prod.fst h
  simp only [segOf] at this
  rw [this]
  simp [unitSegs]

/-! ### the gene-major table is the transpose -/

theorem pairsOfGene_sorted (rows : List (List Nat)) (g : Nat) :
    (pairsOfGene rows g).Pairwise (· < ·) :=
  List.Pairwise.filter _ List.pairwise_lt_range

theorem mem_pairsOfGene {rows : List (List Nat)} {g i : Nat} :
    i ∈ pairsOfGene rows g ↔ ∃ h : i < rows.length, g ∈ rows[i] := by
  unfold pairsOfGene
  simp only [List.mem_filter, List.mem_range, List.contains_iff_mem]
  constructor
  · rintro ⟨hi, hg⟩
    refine ⟨hi, ?_⟩
    rwa [List.getD_eq_getElem?_getD, List.getElem?_eq_getElem hi] at hg
  · rintro ⟨hi, hg⟩
    refine ⟨hi, ?_⟩
    rwa [List.getD_eq_getElem?_getD, List.getElem?_eq_getElem hi]

theorem transposeOnDisk_lookupToSparse (rows : List (List Nat)) (nGenes : Nat) (B : Budget)
    (hlo : 1 ≤ B.lo) (hc : 1 ≤ B.loCount)
    (hr : ∀ r ∈ rows, ∀ g ∈ r, g < nGenes) (hn : ∀ r ∈ rows, r.Pairwise (· < ·)) :
    ∃ out, transposeOnDisk (toMat (lookupToSparse rows)) nGenes none B = .ok out ∧
      WFptr out.indptr nGenes rows.flatten.length ∧
      out.indices.length = rows.flatten.length ∧
      (∀ g, g < nGenes → geneRow out g = pairsOfGene rows g) := by
  rw [toMat_lookupToSparse]
  have hM : (ofSegs (unitSegs rows)).indices = rows.flatten := unitSegs_indices rows
  have w := ofSegs_wf (unitSegs rows)
  rw [unitSegs_length] at w
  have hlen := ofSegs_data_length (unitSegs rows) (unitSegs_ok rows)
  have hrange : ∀ x ∈ (ofSegs (unitSegs rows)).indices, x < nGenes := by
    intro x hx
    rw [hM] at hx
    obtain ⟨r, hr1, hr2⟩ := List.mem_flatten.mp hx
    exact hr r hr1 x hr2
  have hnd : SlicesNodup (ofSegs (unitSegs rows)) rows.length := by
    intro i hi
    rw [unitSegs_slice rows i hi]
    exact (hn _ (List.getElem_mem hi)).imp (fun h => Nat.ne_of_lt h)
  obtain ⟨out, e, wout, l1, _, _, hsl, hsorted, _⟩ :=
    CTM.C13.transpose_correct () (ofSegs (unitSegs rows)) rows.length nGenes B hlo hc w hlen hrange
  rw [hM] at wout l1
  refine ⟨out, e, wout, l1, ?_⟩
  intro g hg
  unfold geneRow
  apply ListAux.eq_of_sorted_of_mem_iff (hsorted hnd g hg) (pairsOfGene_sorted rows g)
  intro i
  have hrow : ∀ i (hi : i < rows.length),
      ((entriesOf (ofSegs (unitSegs rows))).filter (·.major == i)).map (·.minor) = rows[i] :=
    fun i hi => (entriesOf_filter_major_minors _ rows.length w hlen i hi).trans (unitSegs_slice rows i hi)
  show i ∈ slice out.indices (ptr out.indptr g) (ptr out.indptr (g + 1)) ↔ _
  rw [(hsl g hg).1, mem_pairsOfGene]
  simp only [List.mem_map, List.mem_filter, beq_iff_eq]
  constructor
  · rintro ⟨e, ⟨he, hmin⟩, rfl⟩
    have hi := entriesOf_major_lt _ rows.length w e he
    refine ⟨hi, ?_⟩
    rw [← hrow e.major hi, ← hmin]
    exact List.mem_map.mpr ⟨e, List.mem_filter.mpr ⟨he, beq_self_eq_true _⟩, rfl⟩
  · rintro ⟨hi, hgi⟩
    rw [← hrow i hi] at hgi
    obtain ⟨e, he, rfl⟩ := List.mem_map.mp hgi
    obtain ⟨he1, he2⟩ := List.mem_filter.mp he
    exact ⟨e, ⟨he1, rfl⟩, beq_iff_eq.mp he2⟩

theorem toMat_data_length (t : List Nat × List Nat) :
    (toMat t).data.length = (toMat t).indices.length := List.length_replicate ..

theorem lookupToSparse_indices_lt {rows : List (List Nat)} {nGenes : Nat}
    (hr : ∀ r ∈ rows, ∀ g ∈ r, g < nGenes) : ∀ x ∈ (toMat (lookupToSparse rows)).indices, x < nGenes := by
  intro x hx
  obtain ⟨r, hr1, hr2⟩ := List.mem_flatten.mp hx
  exact hr r hr1 x hr2

/-- whatever the worker count and the budget, `add_sparse_by_gene_markers_to_file` computes the
serial transposition under any other budget -/
theorem byGeneTable_eq_serial (t : List Nat × List Nat) (nGenes nProc : Nat) (B B' : Budget)
    (hg : 1 ≤ nGenes) (hp : 1 ≤ nProc) (hlo : 1 ≤ B.lo) (hc : 1 ≤ B.loCount)
    (hlo' : 1 ≤ B'.lo) (hc' : 1 ≤ B'.loCount) (hr : ∀ x ∈ (toMat t).indices, x < nGenes) :
    byGeneTable nProc nGenes B t = transposeOnDisk (toMat t) nGenes none B' := by
  have hlen := toMat_data_length t
  unfold byGeneTable
  split
  · -- the serial code path: both budgets agree with the one-worker parallel transposition
    rw [← transposeV2_eq _ nGenes 1 B B' hg (Nat.le_refl 1) hlo hc hlo' hc' hlen hr]
    exact (transposeV2_eq _ nGenes 1 B B hg (Nat.le_refl 1) hlo hc hlo hc hlen hr).symm
  · exact transposeV2_eq _ nGenes nProc B B' hg hp hlo hc hlo' hc' hlen hr

theorem byGeneTable_lookupToSparse (rows : List (List Nat)) (nGenes nProc : Nat) (B : Budget)
    (hg : 1 ≤ nGenes) (hp : 1 ≤ nProc) (hlo : 1 ≤ B.lo) (hc : 1 ≤ B.loCount)
    (hr : ∀ r ∈ rows, ∀ g ∈ r, g < nGenes) (hn : ∀ r ∈ rows, r.Pairwise (· < ·)) :
    ∃ out, byGeneTable nProc nGenes B (lookupToSparse rows) = .ok out ∧
      WFptr out.indptr nGenes rows.flatten.length ∧
      out.indices.length = rows.flatten.length ∧
      (∀ g, g < nGenes → geneRow out g = pairsOfGene rows g) := by
  rw [byGeneTable_eq_serial _ nGenes nProc B B hg hp hlo hc hlo hc (lookupToSparse_indices_lt hr)]
  exact transposeOnDisk_lookupToSparse rows nGenes B hlo hc hr hn

/-! ### the keyed merge of the pair-major tables -/

theorem chunkKeys_sorted (nPer nChunks : Nat) (h : 1 ≤ nPer) :
    (chunkKeys nPer nChunks).Pairwise (· < ·) := by
  unfold chunkKeys
  rw [List.pairwise_map]
  exact List.pairwise_lt_range.imp (fun hab => Nat.mul_lt_mul_of_pos_right hab h)

theorem length_chunkKeys (nPer nChunks : Nat) : (chunkKeys nPer nChunks).length = nChunks := by
  rw [chunkKeys, List.length_map, List.length_range]

/-- worker files under strictly increasing keys, filed in any completion order, are visited in key
order -/
theorem mergeSortedKeys_zip {ρ} {keys : List Nat} {files : List ρ} (hk : keys.Pairwise (· < ·))
    (hl : keys.length = files.length) {done : List (Nat × ρ)} (hp : done.Perm (keys.zip files)) :
    mergeSortedKeys done = some files := by
  rw [CTM.C04.sorted_keys_exact _ done hp (by rwa [List.map_fst_zip (Nat.le_of_eq hl)]),
    List.map_snd_zip (Nat.le_of_eq hl.symm)]

/-- the pair-major table does not depend on how the pairs were shared out: for any division of the
pairs into consecutive runs (`parts`), any strictly increasing keys and any completion order, the
merged table is the table of all pairs built in one piece -/
theorem mergeTables_parts {α} (row : α → List Nat) {keys : List Nat} {parts : List (List α)}
    (hk : keys.Pairwise (· < ·)) (hl : keys.length = parts.length)
    {done : List (Nat × (List Nat × List Nat))}
    (hp : done.Perm (keys.zip (parts.map fun ch => lookupToSparse (ch.map row)))) :
    mergeTables done = some (lookupToSparse (parts.flatten.map row)) := by
  -- `mergeTablesBy sortKeys` is by definition the process model's `mergeSortedKeys`, then the merge
  show (mergeSortedKeys done).map mergeSparse = _
  rw [mergeSortedKeys_zip hk (by rwa [List.length_map]) hp, Option.map_some, mergeSparse_parts_map]

theorem mergeTables_exact {α} (row : α → List Nat) (nPer : Nat) (h : 1 ≤ nPer) (pairs : List α)
    (done : List (Nat × (List Nat × List Nat))) (hp : done.Perm (tableJobs row nPer pairs)) :
    mergeTables done = some (lookupToSparse (pairs.map row)) := by
  rw [mergeTables_parts row (chunkKeys_sorted nPer _ h) (length_chunkKeys ..) hp, chunksOf_flatten]

/-! ### the keyed merge of the mask file -/

/-- one row of the mask `(gene, stored distance)` as a segment -/
def maskSeg {β} (r : List (Nat × β)) : Seg β := (r.map (·.1), r.map (·.2))

/-- the file one `_p_values_worker` writes: the CSR arrays of its block of rows
(`scipy.sparse.csr_matrix(dense_mask)`: canonical pointer array) -/
def maskChunkFile {β} (ch : List (List (Nat × β))) : Mat β := ofSegs (ch.map maskSeg)

/-- the workers' files in dispatch order: `(min_row, file)` -/
def maskJobs {β} (nPer : Nat) (rows : List (List (Nat × β))) : List (Nat × Mat β) :=
  List.zip (chunkKeys nPer (chunksOf nPer rows).length) ((chunksOf nPer rows).map maskChunkFile)

/-- `_merge_masks`: `idx_to_path[min_row] = path` for every worker file, the
files visited in the order `keyOrder` gives to the keys, `indices` / `data`
concatenated, pointers shifted by the running number of entries, last pointer =
total (`joinParts`) -/
def mergeMasksBy {β} (keyOrder : List Nat → List Nat) (done : List (Nat × Mat β)) :
    Option (Mat β) :=
  let store := dictOfList done
  (collect ((keyOrder (store.map (·.1))).map (dictGet store))).map joinParts

/-- … with `idx_values.sort()` on the **numeric** first row of each file -/
def mergeMasks {β} (done : List (Nat × Mat β)) : Option (Mat β) := mergeMasksBy sortKeys done

theorem maskSegs_ok {β} (rows : List (List (Nat × β))) : SegsOK (rows.map maskSeg) := by
  intro s hs
  obtain ⟨r, _, rfl⟩ := List.mem_map.mp hs
  simp [maskSeg]

/-- `mergeTables_parts` for the mask file: the join of the runs' files is the canonical matrix of all rows -/
theorem mergeMasks_parts {β} {keys : List Nat} {parts : List (List (List (Nat × β)))}
    (hk : keys.Pairwise (· < ·)) (hl : keys.length = parts.length) {done : List (Nat × Mat β)}
    (hp : done.Perm (keys.zip (parts.map maskChunkFile))) :
    mergeMasks done = some (ofSegs (parts.flatten.map maskSeg)) := by
  show (mergeSortedKeys done).map joinParts = _
  have e : parts.map (maskChunkFile (β := β)) = (parts.map (List.map maskSeg)).map ofSegs := by
    rw [List.map_map]; rfl
  rw [mergeSortedKeys_zip hk (by rwa [List.length_map]) hp, Option.map_some, e, joinParts_ofSegs,
    List.map_flatten]
  intro L hL
  obtain ⟨ch, _, rfl⟩ := List.mem_map.mp hL
  exact maskSegs_ok ch

theorem mergeMasks_exact {β} (nPer : Nat) (h : 1 ≤ nPer) (rows : List (List (Nat × β)))
    (done : List (Nat × Mat β)) (hp : done.Perm (maskJobs nPer rows)) :
    mergeMasks done = some (ofSegs (rows.map maskSeg)) := by
  rw [mergeMasks_parts (chunkKeys_sorted nPer _ h) (length_chunkKeys ..) hp, chunksOf_flatten]

/-! ### a wrong key order: file names sorted as strings

No statement here uses these; `Props/C11/Compose.lean` evaluates the merges under `lexSortKeys`. -/

/-- decimal digits, most significant first (fuel = the number itself + 1) -/
def digitsAux : Nat → Nat → List Nat
  | 0, _ => []
  | fuel + 1, n => if n < 10 then [n] else digitsAux fuel (n / 10) ++ [n % 10]

def decimal (n : Nat) : List Nat := digitsAux (n + 1) n

/-- `a ≤ b` as strings of decimal digits (lexicographic) -/
def lexLe : List Nat → List Nat → Bool
  | [], _ => true
  | _ :: _, [] => false
  | x :: xs, y :: ys => if x < y then true else if y < x then false else lexLe xs ys

/-- the keys sorted the way `sorted(file_names)` would sort them -/
def lexSortKeys (ks : List Nat) : List Nat :=
  isort (fun a b => lexLe (decimal a) (decimal b)) ks

end CTM.RefMarkers
