/-
  Lemmas about `CTM/Model/Chunking.lean`: `slice` and `rangeOf`, `ceilDiv`, and the chunk loop.

  `chunks`, the block loop of the transposition (`Sparse.blockCuts`) and the hyperslabs of the HDF5
  copy (`copySlices1`) each produce a list of consecutive ranges; `Tiles a b ps` says so, and what
  their users need of such a list (concatenated slices, concatenated index ranges, summed widths)
  is proved for `Tiles`.
-/
import CTM.Model.Chunking

namespace CTM.Chunking

/-! ### `slice` (Python `l[a:b]`) -/

theorem slice_append {α} (l : List α) {a b c : Nat} (hab : a ≤ b) (hbc : b ≤ c) :
    slice l a b ++ slice l b c = slice l a c := by
  unfold slice
  rw [show c - a = (b - a) + (c - b) by omega, List.take_add, List.drop_drop,
    show a + (b - a) = b by omega]

theorem slice_self {α} (l : List α) (a : Nat) : slice l a a = [] := by
  simp [slice]

theorem slice_zero_length {α} (l : List α) : slice l 0 l.length = l := by
  simp [slice]

theorem slice_length_le {α} (l : List α) {a b : Nat} (h : b ≤ l.length) :
    (slice l a b).length = b - a := by
  unfold slice
  rw [List.length_take, List.length_drop]
  omega

theorem slice_sublist {α} (l : List α) (a b : Nat) : (slice l a b).Sublist l :=
  (List.take_sublist _ _).trans (List.drop_sublist _ _)

theorem slice_map {α β} (f : α → β) (l : List α) (a b : Nat) :
    slice (l.map f) a b = (slice l a b).map f := by
  simp [slice, List.map_take, List.map_drop]

theorem slice_append_middle {α} (A S C : List α) :
    slice (A ++ S ++ C) A.length (A.length + S.length) = S := by
  unfold slice
  rw [List.append_assoc, List.drop_left, Nat.add_sub_cancel_left, List.take_left]

theorem slice_flatten {α} (L : List (List α)) (k : Nat) (hk : k < L.length) :
    slice L.flatten ((L.take k).map List.length).sum ((L.take (k + 1)).map List.length).sum
      = L[k] := by
  have := slice_append_middle (L.take k).flatten L[k] (L.drop (k + 1)).flatten
  rw [List.length_flatten, List.append_assoc, ← List.flatten_cons, ← List.flatten_append,
    List.getElem_cons_drop hk, List.take_append_drop] at this
  rw [List.take_succ_eq_append_getElem hk, List.map_append, List.sum_append, List.map_singleton,
    List.sum_singleton]
  exact this

theorem slice_zip {α β} (l : List α) (m : List β) (a b : Nat) :
    slice (l.zip m) a b = (slice l a b).zip (slice m a b) := by
  simp [slice, List.zip_eq_zipWith, List.take_zipWith, List.drop_zipWith]

theorem slice_length_congr {α β} {l : List α} {m : List β} (h : l.length = m.length) (a b : Nat) :
    (slice l a b).length = (slice m a b).length := by
  simp [slice, h]

theorem slice_getElem? {α} (l : List α) (a b k : Nat) (hk : k < b - a) :
    (slice l a b)[k]? = l[a + k]? := by
  unfold slice
  rw [List.getElem?_take]
  simp [hk]

/-- a slice of a slice, both given by absolute positions -/
theorem slice_slice {α} (l : List α) {A B x y : Nat} (hA : A ≤ x) (hB : y ≤ B) :
    slice (slice l A B) (x - A) (y - A) = slice l x y := by
  unfold slice
  rw [List.drop_take, List.drop_drop, List.take_take, Nat.add_sub_cancel' hA,
    Nat.sub_sub_sub_cancel_right hA, Nat.sub_sub_sub_cancel_right hA,
    Nat.min_eq_left (Nat.sub_le_sub_right hB x)]

/-! ### `rangeOf` (`range(a, b)`) -/

theorem rangeOf_append {a b c : Nat} (hab : a ≤ b) (hbc : b ≤ c) :
    rangeOf (a, b) ++ rangeOf (b, c) = rangeOf (a, c) := by
  unfold rangeOf
  rw [show c - a = (b - a) + (c - b) by omega, ← List.range'_append_1,
    show a + (b - a) = b by omega]

theorem rangeOf_split {a b v : Nat} (h1 : a ≤ v) (h2 : v < b) :
    rangeOf (a, b) = rangeOf (a, v) ++ v :: rangeOf (v + 1, b) := by
  rw [← rangeOf_append h1 (Nat.le_of_lt h2)]
  congr 1
  unfold rangeOf
  rw [show b - v = (b - (v + 1)) + 1 by omega, List.range'_succ]

theorem length_rangeOf (p : Nat × Nat) : (rangeOf p).length = p.2 - p.1 := List.length_range'

theorem rangeOf_zero (n : Nat) : rangeOf (0, n) = List.range n :=
  List.range_eq_range'.symm

theorem rangeOf_cons {a b : Nat} (h : a < b) : rangeOf (a, b) = a :: rangeOf (a + 1, b) := by
  unfold rangeOf
  rw [show b - a = (b - (a + 1)) + 1 by omega, List.range'_succ]

theorem mem_rangeOf {p : Nat × Nat} {v : Nat} : v ∈ rangeOf p ↔ p.1 ≤ v ∧ v < p.2 := by
  rw [rangeOf, List.mem_range'_1]
  omega

theorem nodup_rangeOf (p : Nat × Nat) : (rangeOf p).Nodup := List.nodup_range'

theorem rangeOf_self (a : Nat) : rangeOf (a, a) = [] := by
  rw [rangeOf, Nat.sub_self, List.range'_zero]

theorem rangeOf_concat {a b : Nat} (h : a ≤ b) : rangeOf (a, b + 1) = rangeOf (a, b) ++ [b] := by
  rw [← rangeOf_append h (Nat.le_succ b), rangeOf_cons (Nat.lt_succ_self b), rangeOf_self]

theorem rangeOf_eq_map (a b : Nat) : rangeOf (a, b) = (List.range (b - a)).map (a + ·) := by
  rw [rangeOf, List.range'_eq_map_range]

theorem slice_range {n a b : Nat} (h : b ≤ n) : slice (List.range n) a b = rangeOf (a, b) := by
  unfold slice rangeOf
  rw [List.range_eq_range', List.drop_range', List.take_range'_of_length_ge (by omega),
    Nat.zero_add, Nat.mul_one]

/-! ### `ceilDiv` -/

theorem ceilDiv_zero (cs : Nat) : ceilDiv 0 cs = 0 := by
  unfold ceilDiv
  rcases cs with _ | c
  · rfl
  · exact Nat.div_eq_of_lt (by omega)

theorem ceilDiv_add_self (m cs : Nat) (hcs : 1 ≤ cs) : ceilDiv (m + cs) cs = ceilDiv m cs + 1 := by
  unfold ceilDiv
  rw [show m + cs + cs - 1 = m + cs - 1 + cs by omega, Nat.add_div_right _ (by omega)]

theorem ceilDiv_of_le (m cs : Nat) (h1 : 1 ≤ m) (h2 : m ≤ cs) : ceilDiv m cs = 1 := by
  unfold ceilDiv
  exact Nat.div_eq_of_lt_le (by omega) (by omega)

theorem ceilDiv_pos (a b : Nat) (ha : 1 ≤ a) (hb : 1 ≤ b) : 1 ≤ ceilDiv a b := by
  unfold ceilDiv
  apply Nat.div_pos <;> omega

/-! ### `Tiles`: a list of consecutive ranges -/

/-- `ps` cuts `[a, b)` into consecutive ranges `[a, m₁), [m₁, m₂), …, [mₖ, b)` -/
inductive Tiles : Nat → Nat → List (Nat × Nat) → Prop
  | nil (a : Nat) : Tiles a a []
  | cons {a m b : Nat} {ps : List (Nat × Nat)} : a ≤ m → Tiles m b ps → Tiles a b ((a, m) :: ps)

theorem Tiles.le {a b : Nat} {ps : List (Nat × Nat)} (t : Tiles a b ps) : a ≤ b := by
  induction t with
  | nil => exact Nat.le_refl _
  | cons h _ ih => exact Nat.le_trans h ih

/-- anything additive over adjacent ranges, summed over a tiling of `[a, b)`, is
its value on `[a, b)` -/
theorem Tiles.flatMap_eq {α} {g : Nat × Nat → List α} (hnil : ∀ x, g (x, x) = [])
    (happ : ∀ x y z, x ≤ y → y ≤ z → g (x, y) ++ g (y, z) = g (x, z))
    {a b : Nat} {ps : List (Nat × Nat)} (t : Tiles a b ps) : ps.flatMap g = g (a, b) := by
  induction t with
  | nil a => exact (hnil a).symm
  | cons h t ih => rw [List.flatMap_cons, ih, happ _ _ _ h t.le]

theorem Tiles.sum_widths {a b : Nat} {ps : List (Nat × Nat)} (t : Tiles a b ps) :
    (ps.map fun p => p.2 - p.1).sum = b - a := by
  induction t with
  | nil a => exact (Nat.sub_self a).symm
  | cons h t ih =>
    rw [List.map_cons, List.sum_cons, ih, Nat.add_comm]
    exact Nat.sub_add_sub_cancel t.le h

theorem Tiles.flatMap_rangeOf {a b : Nat} {ps : List (Nat × Nat)} (t : Tiles a b ps) :
    ps.flatMap rangeOf = List.range' a (b - a) :=
  t.flatMap_eq rangeOf_self (fun _ _ _ => rangeOf_append)

theorem Tiles.flatMap_slice {α} (l : List α) {a b : Nat} {ps : List (Nat × Nat)}
    (t : Tiles a b ps) : ps.flatMap (fun p => slice l p.1 p.2) = slice l a b :=
  t.flatMap_eq (g := fun p => slice l p.1 p.2) (slice_self l) (fun _ _ _ => slice_append l)

/-! ### the loop `while next r0 = some r1: yield (r0, r1); r0 = r1`, with fuel

`chunksAux` and `Sparse.blockCutsAux` are this loop, each with its own `next`; what holds of their
ranges holds because each range is one step of `next`.  A loop `cuts` of this shape enters through
its two defining equations `cuts_zero`, `cuts_succ` (for a structural definition both are
`fun _ => rfl`); it then has `cuts_mem` for the single ranges and, when `next` always advances and
stops exactly at `n`, the induction principle `cuts_rec` and with it `cuts_tiles`. -/

section Cuts
variable {next : Nat → Option Nat} {cuts : Nat → Nat → List (Nat × Nat)}
  (cuts_zero : ∀ r0, cuts 0 r0 = [])
  (cuts_succ : ∀ fuel r0, cuts (fuel + 1) r0 =
    match next r0 with
    | none => []
    | some r1 => (r0, r1) :: cuts fuel r1)
include cuts_zero cuts_succ

theorem cuts_mem (hle : ∀ r r1, next r = some r1 → r ≤ r1) :
    ∀ (fuel r0 : Nat), ∀ p ∈ cuts fuel r0, r0 ≤ p.1 ∧ next p.1 = some p.2
  | 0, r0, p, hp => by rw [cuts_zero] at hp; cases hp
  | fuel + 1, r0, p, hp => by
    rw [cuts_succ] at hp
    cases e : next r0 with
    | none => rw [e] at hp; cases hp
    | some r1 =>
      rw [e] at hp
      rcases List.mem_cons.mp hp with rfl | hp
      · exact ⟨Nat.le_refl _, e⟩
      · have := cuts_mem hle fuel r1 p hp
        exact ⟨Nat.le_trans (hle _ _ e) this.1, this.2⟩

theorem cuts_rec {motive : Nat → List (Nat × Nat) → Prop} {n : Nat}
    (hlt : ∀ r r1, next r = some r1 → r < r1 ∧ r1 ≤ n) (hsome : ∀ r, r < n → next r ≠ none)
    (stop : motive n [])
    (step : ∀ r0 r1 ps, next r0 = some r1 → motive r1 ps → motive r0 ((r0, r1) :: ps)) :
    ∀ (fuel r0 : Nat), r0 ≤ n → n - r0 ≤ fuel → motive r0 (cuts fuel r0)
  | 0, r0, h1, h2 => by
    obtain rfl : r0 = n := by omega
    rw [cuts_zero]; exact stop
  | fuel + 1, r0, h1, h2 => by
    rw [cuts_succ]
    cases e : next r0 with
    | none =>
      obtain rfl : r0 = n := Nat.le_antisymm h1 (Nat.le_of_not_lt fun h => hsome r0 h e)
      exact stop
    | some r1 =>
      have := hlt r0 r1 e
      exact step r0 r1 _ e (cuts_rec hlt hsome stop step fuel r1 this.2 (by omega))

theorem cuts_tiles {n : Nat} (hlt : ∀ r r1, next r = some r1 → r < r1 ∧ r1 ≤ n)
    (hsome : ∀ r, r < n → next r ≠ none) :
    ∀ (fuel r0 : Nat), r0 ≤ n → n - r0 ≤ fuel → Tiles r0 n (cuts fuel r0) :=
  cuts_rec cuts_zero cuts_succ (motive := fun r0 ps => Tiles r0 n ps) hlt hsome (.nil n)
    (fun r0 r1 _ e ih => .cons (Nat.le_of_lt (hlt r0 r1 e).1) ih)

end Cuts

/-! ### `chunksAux`, `chunks`, and the loops defined through them -/

theorem chunksAux_succ (n cs fuel r0 : Nat) : chunksAux n cs (fuel + 1) r0 =
    match (if r0 < n then some (min n (r0 + cs)) else none) with
    | none => []
    | some r1 => (r0, r1) :: chunksAux n cs fuel r1 := by
  rw [chunksAux]; split <;> rfl

theorem chunksAux_next {n cs r r1 : Nat}
    (e : (if r < n then some (min n (r + cs)) else none) = some r1) :
    r < n ∧ r1 = min n (r + cs) := by
  split at e
  · next h => exact ⟨h, (Option.some.inj e).symm⟩
  · cases e

theorem chunksAux_rec {motive : Nat → List (Nat × Nat) → Prop} (n cs : Nat) (hcs : 1 ≤ cs)
    (stop : motive n [])
    (step : ∀ r0 ps, r0 < n → motive (min n (r0 + cs)) ps →
      motive r0 ((r0, min n (r0 + cs)) :: ps)) :
    ∀ (fuel r0 : Nat), r0 ≤ n → n - r0 ≤ fuel → motive r0 (chunksAux n cs fuel r0) :=
  cuts_rec (fun _ => rfl) (chunksAux_succ n cs)
    (fun r r1 e => by have := chunksAux_next e; omega) (fun r h => by simp [h]) stop
    (fun r0 r1 ps e ih => by
      obtain ⟨h, rfl⟩ := chunksAux_next e
      exact step r0 ps h ih)

theorem chunksAux_tiles (n cs : Nat) (hcs : 1 ≤ cs) :
    ∀ (fuel r0 : Nat), r0 ≤ n → n - r0 ≤ fuel → Tiles r0 n (chunksAux n cs fuel r0) :=
  chunksAux_rec (motive := fun r0 ps => Tiles r0 n ps) n cs hcs (.nil n)
    (fun _ _ _ ih => .cons (by omega) ih)

theorem chunksAux_cover (n cs : Nat) (hcs : 1 ≤ cs) :
    ∀ (fuel r0 : Nat), r0 ≤ n → n - r0 ≤ fuel →
      (chunksAux n cs fuel r0).flatMap rangeOf = List.range' r0 (n - r0) :=
  fun fuel r0 h1 h2 => (chunksAux_tiles n cs hcs fuel r0 h1 h2).flatMap_rangeOf

theorem chunksAux_slices {α} (l : List α) (n cs : Nat) (hcs : 1 ≤ cs) :
    ∀ (fuel r0 : Nat), r0 ≤ n → n - r0 ≤ fuel →
      (chunksAux n cs fuel r0).flatMap (fun p => slice l p.1 p.2) = slice l r0 n :=
  fun fuel r0 h1 h2 => (chunksAux_tiles n cs hcs fuel r0 h1 h2).flatMap_slice l

theorem chunksAux_bounds (n cs : Nat) (hcs : 1 ≤ cs) :
    ∀ (fuel r0 : Nat), ∀ p ∈ chunksAux n cs fuel r0,
      r0 ≤ p.1 ∧ p.1 < p.2 ∧ p.2 ≤ n ∧ p.2 - p.1 ≤ cs ∧ (p.2 < n → p.2 - p.1 = cs) := by
  intro fuel r0 p hp
  obtain ⟨h0, e⟩ := cuts_mem (fun _ => rfl) (chunksAux_succ n cs)
    (fun r r1 e => by have := chunksAux_next e; omega) fuel r0 p hp
  have := chunksAux_next e
  omega

theorem chunksAux_length (n cs : Nat) (hcs : 1 ≤ cs) :
    ∀ (fuel r0 : Nat), r0 ≤ n → n - r0 ≤ fuel →
      (chunksAux n cs fuel r0).length = ceilDiv (n - r0) cs := by
  refine chunksAux_rec (motive := fun r0 ps => ps.length = ceilDiv (n - r0) cs) n cs hcs
    (by rw [Nat.sub_self, ceilDiv_zero]; rfl) ?_
  intro r0 ps h ih
  rw [List.length_cons, ih]
  by_cases h3 : r0 + cs ≤ n
  · rw [Nat.min_eq_right h3, show n - r0 = n - (r0 + cs) + cs by omega, ceilDiv_add_self _ _ hcs]
  · rw [Nat.min_eq_left (by omega), Nat.sub_self, ceilDiv_zero,
      ceilDiv_of_le _ _ (by omega) (by omega)]

theorem chunks_tiles (n cs : Nat) (hcs : 1 ≤ cs) : Tiles 0 n (chunks n cs) :=
  chunksAux_tiles n cs hcs n 0 (Nat.zero_le _) (Nat.le_refl _)

theorem chunks_flatMap_rangeOf (n cs : Nat) (hcs : 1 ≤ cs) :
    (chunks n cs).flatMap rangeOf = List.range n := by
  rw [(chunks_tiles n cs hcs).flatMap_rangeOf, List.range_eq_range']
  rfl

theorem chunks_bounds (n cs : Nat) (hcs : 1 ≤ cs) : ∀ p ∈ chunks n cs,
    p.1 < p.2 ∧ p.2 ≤ n ∧ p.2 - p.1 ≤ cs ∧ (p.2 < n → p.2 - p.1 = cs) :=
  fun p hp => (chunksAux_bounds n cs hcs n 0 p hp).2

theorem chunks_length (n cs : Nat) (hcs : 1 ≤ cs) : (chunks n cs).length = ceilDiv n cs :=
  chunksAux_length n cs hcs n 0 (Nat.zero_le _) (Nat.le_refl _)

theorem sliceChunks_flatten {α} (l : List α) (step : Nat) (h : 1 ≤ step) :
    (sliceChunks step l).flatten = l := by
  unfold sliceChunks
  rw [← List.flatMap_def, (chunks_tiles l.length step h).flatMap_slice l]
  exact slice_zero_length l

theorem copySlices1_flatMap_rangeOf (perDim n : Nat) :
    (copySlices1 perDim n).flatMap rangeOf = List.range n := by
  unfold copySlices1
  exact chunks_flatMap_rangeOf n _ (by omega)

end CTM.Chunking
