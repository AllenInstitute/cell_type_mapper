/-
  What a VALIDATED taxonomy gives the composed model for free: reference rows exist at every
  question, so `NoRaiseAll` is a condition on the parameters alone (`noRaiseAll_of_validate`); a
  leaf lies below one child, so every leaf has its way home (`exists_homePath`).
-/
import CTM.Lemmas.ComposeHome
import CTM.Lemmas.BridgeWF
import CTM.Lemmas.TreeLca
namespace CTM.Compose
open CTM CTM.LevelLoop CTM.OutBridge CTM.Election CTM.Numeric

/-- on a taxonomy the validator accepts every question the level loop puts has
a reference row: some child has a leaf below it -/
theorem rows_ne_nil_of_validate {t : RawTree} (hv : t.validate = .ok ()) {p : Parent} {l : Level}
    {kids : List Node} (h : Asked t p l kids) : (nodeRows (kidsOf t l kids)).1 ≠ [] := by
  obtain ⟨plo, hmem, _, _, hne, hsub⟩ := h
  obtain ⟨k, hk⟩ := List.exists_mem_of_ne_nil _ hne
  obtain ⟨i, hi, rfl⟩ := List.mem_iff_getElem.1 (List.of_mem_zip hmem).2
  obtain ⟨lf, hlf⟩ := List.exists_mem_of_ne_nil _ (RawTree.asLeaves_ne_nil
    (RawTree.strict_of_validate hv) (RawTree.hierarchy_nodup_of_validate hv) hi (hsub k hk))
  exact List.ne_nil_of_mem (mem_nodeRows_kidsOf hk hlf)

/-- so the `rows` part of `NoRaise` follows from the tree ("considering only leaves below the
node" is never an empty set); what remains of `NoRaiseAll` is about the parameters only (an
iteration exists, the subsets index into the node's gene list, `n_assignments ≥ 1`) -/
theorem noRaiseAll_of_validate (P : ElectionParams) {t : RawTree}
    (hv : t.validate = .ok ())
    (hiters : ∀ p x, P.subsets p x ≠ [])
    (hrange : ∀ p x, ∀ s ∈ P.subsets p x, ∀ i ∈ s,
      i < (P.qcols p).length ∧ i < (P.rcols p).length)
    (hA : 1 ≤ P.nAssign) : NoRaiseAll P t :=
  fun p _ _ c hask _ => ⟨hiters p c, hrange p c, rows_ne_nil_of_validate hv hask, hA⟩

/-- on a validated taxonomy a leaf lies below at most one node of a level: the
uniqueness clause of `HomePath` ("the only child whose leaves contain `lf`")
holds for any two nodes of the child level -/
theorem leaf_unique_child {t : RawTree} (hv : t.validate = .ok ()) (d : RawTree.DictOK t)
    {l ll : Level} (hl : l ∈ t.hierarchy) (hll : t.leafLevel = some ll) {a k lf : Node}
    (ha : a ∈ t.nodesAt l) (hk : k ∈ t.nodesAt l) (hlf : lf ∈ t.nodesAt ll)
    (h1 : lf ∈ t.asLeaves l a) (h2 : lf ∈ t.asLeaves l k) : a = k := by
  have s := RawTree.strict_of_validate hv
  have hN := RawTree.hierarchy_nodup_of_validate hv
  have e1 := (RawTree.mem_asLeaves_iff_ancestorAt_lv s d hN hl hll ha hlf).1 h1
  have e2 := (RawTree.mem_asLeaves_iff_ancestorAt_lv s d hN hl hll hk hlf).1 h2
  exact Option.some.inj (e1.symm.trans e2)

/-- the guard of C18 at every node below which the leaf `lf` lies (the nodes on
its path) and which offers a choice.  It is asked for every level `l`, not only the one below `p`:
more than the proofs use (`homePath_step` takes the pair of `p` with its child level); in the example
tree no other pair has `lf` among its rows (`exPHome_guardBelow`). -/
def GuardBelow (P : ElectionParams) (t : RawTree) (x : List Rat) (lf : Node) : Prop :=
  ∀ p ∈ t.allParents, ∀ l ∈ t.hierarchy, ∀ (kids : List Node), t.children p = .ok kids →
    2 ≤ kids.length → lf ∈ (nodeRows (kidsOf t l kids)).1 →
    NodeGuard P p (kidsOf t l kids) x lf

theorem homePath_step (P : ElectionParams) {t : RawTree} (hv : t.validate = .ok ())
    (d : RawTree.DictOK t) {x : List Rat} {lf : Node} {ll : Level} (hll : t.leafLevel = some ll)
    (hl : lf ∈ t.nodesAt ll) (hg : GuardBelow P t x lf) {p : Parent} {kids : List Node}
    {l : Level} {a : Node} (hlh : l ∈ t.hierarchy) (hpa : p ∈ t.allParents)
    (hk : t.children p = .ok kids) (hsub : ∀ k ∈ kids, k ∈ t.nodesAt l) (hak : a ∈ kids)
    (hla : lf ∈ t.asLeaves l a) :
    ∃ kids, t.children p = .ok kids ∧ a ∈ kids ∧ lf ∈ t.asLeaves l a ∧
      (∀ k ∈ kids, k ≠ a → lf ∉ t.asLeaves l k) ∧
      (2 ≤ kids.length → NodeGuard P p (kidsOf t l kids) x lf) :=
  ⟨kids, hk, hak, hla,
    fun k hkk hne hin =>
      hne (leaf_unique_child hv d hlh hll (hsub k hkk) (hsub a hak) hl hin hla),
    fun h2 => hg p hpa l hlh kids hk h2 (mem_nodeRows_kidsOf hak hla)⟩

/-- on a validated taxonomy the way home of a leaf exists and is determined by
the tree: from a position `p` whose children `kids` (nodes of level `i`)
contain one with `lf` below it, the rest of the path down to the leaf level
(`n` counts the levels still to go) -/
theorem exists_homePath_from (P : ElectionParams) {t : RawTree} (hv : t.validate = .ok ())
    (d : RawTree.DictOK t) (x : List Rat) (lf : Node) {ll : Level}
    (hll : t.leafLevel = some ll) (hl : lf ∈ t.nodesAt ll) (hg : GuardBelow P t x lf) (n : Nat) :
    ∀ (i : Nat) (hi : i < t.hierarchy.length), i + n + 1 = t.hierarchy.length →
      ∀ (p : Parent) (kids : List Node), p ∈ t.allParents → t.children p = .ok kids →
        (∀ k ∈ kids, k ∈ t.nodesAt t.hierarchy[i]) →
        (∃ a ∈ kids, lf ∈ t.asLeaves t.hierarchy[i] a) →
        ∃ path, path.map (·.1) = t.hierarchy.drop i ∧ HomePath P t x lf p path := by
  induction n with
  | zero =>
    rintro i hi hn p kids hpa hk hsub ⟨a, hak, hla⟩
    exact ⟨[(t.hierarchy[i], a)],
      by rw [List.drop_eq_getElem_cons hi, List.drop_eq_nil_of_le (Nat.le_of_eq hn.symm)]; rfl,
      homePath_step P hv d hll hl hg (List.getElem_mem hi) hpa hk hsub hak hla, trivial⟩
  | succ n ih =>
    rintro i hi hn p kids hpa hk hsub ⟨a, hak, hla⟩
    have hlast : i + 1 < t.hierarchy.length := hn ▸ Nat.add_lt_add_left (Nat.succ_lt_succ n.succ_pos) i
    -- `lf` lies below a child `a'` of `a`: go on from `(level i, a)`
    have ha := hsub a hak
    obtain ⟨a', ha', hla'⟩ := List.mem_flatMap.1
      ((RawTree.asLeaves_perm_children (RawTree.hierarchy_nodup_of_validate hv) hlast a).mem_iff.1 hla)
    have hpa' : some (t.hierarchy[i], a) ∈ t.allParents :=
      RawTree.mem_allParents_some.2 ⟨i, hlast, rfl, ha⟩
    obtain ⟨rest, hr1, hr2⟩ := ih (i + 1) hlast (by rw [← hn]; ac_rfl) (some (t.hierarchy[i], a)) _
      hpa' (Bridge.children_eq_entry d ha)
      (fun k hkk => (RawTree.strict_of_validate hv).entry_sub hlast ha hkk) ⟨a', ha', hla'⟩
    exact ⟨(t.hierarchy[i], a) :: rest,
      by rw [List.map_cons, hr1, List.drop_eq_getElem_cons hi],
      homePath_step P hv d hll hl hg (List.getElem_mem hi) hpa hk hsub hak hla, hr2⟩

theorem homePath_below (P : ElectionParams) (t : RawTree) (x : List Rat) (lf : Node)
    (path : List (Level × Node)) : ∀ (p : Parent), HomePath P t x lf p path →
      ∀ la ∈ path, lf ∈ t.asLeaves la.1 la.2 := by
  induction path with
  | nil => exact fun _ _ _ h => nomatch h
  | cons _ rest ih =>
    rintro p ⟨⟨_, _, _, hla, _⟩, hrest⟩ la h
    rcases List.mem_cons.1 h with rfl | h
    · exact hla
    · exact ih _ hrest la h

/-- on a validated taxonomy every leaf has its way home -/
theorem exists_homePath (P : ElectionParams) {t : RawTree} (hv : t.validate = .ok ())
    (d : RawTree.DictOK t) (x : List Rat) (lf : Node) {ll : Level}
    (hll : t.leafLevel = some ll) (hl : lf ∈ t.nodesAt ll) (hg : GuardBelow P t x lf) :
    ∃ path, path.map (·.1) = t.hierarchy ∧ HomePath P t x lf none path ∧
      ∀ la ∈ path, lf ∈ t.asLeaves la.1 la.2 := by
  have hne := RawTree.hierarchy_ne_nil_of_validate hv
  have h0 : 0 < t.hierarchy.length := List.length_pos_of_ne_nil hne
  have hhead : t.hierarchy.head? = some t.hierarchy[0] := by
    rw [List.head?_eq_getElem?, List.getElem?_eq_getElem h0]
  obtain rfl := Option.some.inj ((RawTree.leafLevel_eq hne).symm.trans hll)
  have hcover := RawTree.asLeaves_cover (RawTree.strict_of_validate hv) d
    (RawTree.hierarchy_nodup_of_validate hv) h0
  obtain ⟨a, ha, hla⟩ := List.mem_flatMap.1 (hcover.mem_iff.2 hl)
  obtain ⟨path, hp1, hp2⟩ := exists_homePath_from P hv d x lf hll hl hg (t.hierarchy.length - 1)
    0 h0 (by rw [Nat.zero_add, Nat.sub_add_cancel h0]) none _ List.mem_cons_self (Bridge.children_root hhead) (fun k hk => hk) ⟨a, ha, hla⟩
  exact ⟨path, hp1, hp2, homePath_below P t x lf path none hp2⟩

/-- the guard below leaf 30 of the example taxonomy for its centroid: the only
parent with a choice that has leaf 30 below it is node 10 -/
theorem exPHome_guardBelow : GuardBelow exPHome exTree [2, 4, 1] 30 := by
  have key : ∀ p ∈ exTree.allParents, ∀ l ∈ exTree.hierarchy,
      (match exTree.children p with
       | .ok kids => decide (2 ≤ kids.length) &&
           decide ((30 : Node) ∈ (nodeRows (kidsOf exTree l kids)).1)
       | .error _ => false) = true → p = some (0, 10) ∧ l = 1 := by decide +kernel
  intro p hp l hl kids hk h2 hin
  obtain ⟨rfl, rfl⟩ := key p hp l hl (by rw [hk]; simp [h2, hin])
  obtain rfl : [21, 20] = kids := Except.ok.inj hk
  obtain ⟨_, ⟨kids', hk', _, _, _, hg⟩, _⟩ := exPHome_path
  obtain rfl : [21, 20] = kids' := Except.ok.inj hk'
  exact hg h2

end CTM.Compose
