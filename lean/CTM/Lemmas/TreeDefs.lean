import CTM.Lemmas.TreePairs

/-!
  The vocabulary in which the tree model (`CTM/Model/Tree.lean`) is specified, what the
  assignment `setLevel` (`tree[l] = m`) does and what the readers `levelPairs`, `level`, `nodesAt`, `entry`,
  `allRows`, `children`, `allParents` return.  `DictOK` (distinct dict keys, `dictOKb` decides it), `Strict`
  (what the validator is meant to decide), `WF` (validated, with `DictOK`), `IsChild` and `levelUnder` (the parent relation and the level it points into), `leavesSpec` (the
  recursion behind `as_leaves`).  "Two adjacent levels fit" is said three ways: the five ∀-clauses of
  `Strict`, `Link` (the same five on one dict and one key list), and `PairOK` of `TreeValidate` (the three
  that the level-pair loop decides).  A transformation of the tree proves `Link` for each pair of its result
  and goes through `WF.transfer`.
-/

namespace CTM.RawTree

/-! ### vocabulary -/

/-- Every Python `dict` of the tree has distinct keys: the top-level dict
(level names) and each level's dict (node names). -/
structure DictOK (t : RawTree) : Prop where
  levelKeys : (t.levels.map (·.1)).Nodup
  nodeKeys : ∀ l m, (l, m) ∈ t.levels → (m.map (·.1)).Nodup

/-- boolean form of `DictOK` (for concrete trees: `by decide`) -/
def dictOKb (t : RawTree) : Bool :=
  decide ((t.levels.map (·.1)).Nodup) && t.levels.all (fun lm => decide ((lm.2.map (·.1)).Nodup))

theorem dictOK_of_b {t : RawTree} (h : dictOKb t = true) : DictOK t := by
  simp only [dictOKb, Bool.and_eq_true, decide_eq_true_eq, List.all_eq_true] at h
  exact ⟨h.1, fun l m hm => h.2 (l, m) hm⟩

/-- the level that holds the children of a parent (`None` = the root) -/
def levelUnder (t : RawTree) : Option (Level × Node) → Option Level
  | none => t.hierarchy.head?
  | some (l, _) => t.childLevel l

/-- `c` is listed as a child of `p` in the dict of level `pl` -/
def IsChild (t : RawTree) (pl : Level) (p c : Node) : Prop :=
  ∃ cs, (p, cs) ∈ t.level pl ∧ c ∈ cs

/-- The strict-tree specification: what `validate_taxonomy_tree` is meant to
decide, stated directly on the data (no loops, no accumulator).
`(pl, cl) ∈ levelPairs t.hierarchy` = `cl` is the level right below `pl`. -/
structure Strict (t : RawTree) : Prop where
  hasH : t.hasHierarchy = true
  /-- no stray level key -/
  keysSub : ∀ k, k ∈ t.levels.map (·.1) → k ∈ t.hierarchy
  /-- no ghost level in the hierarchy -/
  hierSub : ∀ k, k ∈ t.hierarchy → k ∈ t.levels.map (·.1)
  str : t.nodesAreStr = true
  /-- every listed child is a key of the next level -/
  childExists : ∀ pl cl, (pl, cl) ∈ levelPairs t.hierarchy →
    ∀ p cs, (p, cs) ∈ t.level pl → ∀ c, c ∈ cs → c ∈ t.nodesAt cl
  /-- no orphan -/
  hasParent : ∀ pl cl, (pl, cl) ∈ levelPairs t.hierarchy →
    ∀ c, c ∈ t.nodesAt cl → ∃ p cs, (p, cs) ∈ t.level pl ∧ c ∈ cs
  /-- no second parent -/
  oneParent : ∀ pl cl, (pl, cl) ∈ levelPairs t.hierarchy →
    ∀ p₁ cs₁ p₂ cs₂, (p₁, cs₁) ∈ t.level pl → (p₂, cs₂) ∈ t.level pl →
    ∀ c, c ∈ cs₁ → c ∈ cs₂ → p₁ = p₂
  /-- every node above the leaf level has at least one child -/
  childNe : ∀ pl cl, (pl, cl) ∈ levelPairs t.hierarchy →
    ∀ p cs, (p, cs) ∈ t.level pl → cs ≠ []
  /-- no parent lists a child twice -/
  childNodup : ∀ pl cl, (pl, cl) ∈ levelPairs t.hierarchy →
    ∀ p cs, (p, cs) ∈ t.level pl → cs.Nodup
  /-- no reference row in two leaves (or twice in one) -/
  rowsNodup : t.allRows.Nodup

/-- What `Strict` asks of two adjacent levels, on the data it reads: the dict `m` of the upper
level and the node names `kids` of the lower one.  A transformation of the tree keeps `Strict`
by what it does to these two. -/
structure Link (m : LevelMap) (kids : List Node) : Prop where
  childExists : ∀ p cs, (p, cs) ∈ m → ∀ c, c ∈ cs → c ∈ kids
  hasParent : ∀ c, c ∈ kids → ∃ p cs, (p, cs) ∈ m ∧ c ∈ cs
  oneParent : ∀ p₁ cs₁ p₂ cs₂, (p₁, cs₁) ∈ m → (p₂, cs₂) ∈ m →
    ∀ c, c ∈ cs₁ → c ∈ cs₂ → p₁ = p₂
  childNe : ∀ p cs, (p, cs) ∈ m → cs ≠ []
  childNodup : ∀ p cs, (p, cs) ∈ m → cs.Nodup

theorem Strict.link {t : RawTree} (s : Strict t) {pl cl : Level}
    (h : (pl, cl) ∈ levelPairs t.hierarchy) : Link (t.level pl) (t.nodesAt cl) :=
  ⟨s.childExists pl cl h, s.hasParent pl cl h, s.oneParent pl cl h, s.childNe pl cl h,
    s.childNodup pl cl h⟩

theorem strict_of_links {t : RawTree} (hh : t.hasHierarchy = true) (hs : t.nodesAreStr = true)
    (hk : ∀ k, k ∈ t.levels.map (·.1) ↔ k ∈ t.hierarchy)
    (hl : ∀ pl cl, (pl, cl) ∈ levelPairs t.hierarchy → Link (t.level pl) (t.nodesAt cl))
    (hr : t.allRows.Nodup) : Strict t :=
  { hasH := hh, keysSub := fun k => (hk k).1, hierSub := fun k => (hk k).2, str := hs
    childExists := fun pl cl h => (hl pl cl h).childExists
    hasParent := fun pl cl h => (hl pl cl h).hasParent
    oneParent := fun pl cl h => (hl pl cl h).oneParent
    childNe := fun pl cl h => (hl pl cl h).childNe
    childNodup := fun pl cl h => (hl pl cl h).childNodup
    rowsNodup := hr }

theorem Strict.keys {t : RawTree} (s : Strict t) (k : Level) :
    k ∈ t.levels.map (·.1) ↔ k ∈ t.hierarchy :=
  ⟨s.keysSub k, s.hierSub k⟩

/-- Well-formedness used by the C10 theorems: accepted by the validator, a
non-empty hierarchy of distinct level names, Python dict key uniqueness.
`hNodup` and `hNe` follow from `valid` (`WF.of_validate`); they are fields so
that users can project them. -/
structure WF (t : RawTree) : Prop where
  valid : t.validate = .ok ()
  hNodup : t.hierarchy.Nodup
  hNe : t.hierarchy ≠ []
  dict : DictOK t

/-- `_get_leaves_from_tree` without the `hierarchy[-2]` shortcut and without
the sort: plain recursion down the levels below. -/
def leavesSpec (t : RawTree) : List Level → Level → Node → List Node
  | [], _, n => [n]
  | cl :: rest, l, n => (t.entry l n).flatMap (fun c => leavesSpec t rest cl c)

/-! ### `setLevel` -/

theorem setLevel_cons (kv : Level × LevelMap) (ls : List (Level × LevelMap)) (l : Level)
    (m : LevelMap) :
    setLevel (kv :: ls) l m = (if kv.1 == l then (kv.1, m) else kv) :: setLevel ls l m := by
  unfold setLevel
  split <;> simp_all

theorem setLevel_keys (ls : List (Level × LevelMap)) (l : Level) (m : LevelMap) :
    (setLevel ls l m).map (·.1) = ls.map (·.1) := by
  induction ls with
  | nil => rfl
  | cons kv ls ih =>
    rw [setLevel_cons, List.map_cons, List.map_cons, ih]
    split <;> rfl

theorem lookup_setLevel (ls : List (Level × LevelMap)) (l : Level) (m : LevelMap) (k : Level) :
    (setLevel ls l m).lookup k =
      if k = l then (ls.lookup k).map (fun _ => m) else ls.lookup k := by
  induction ls with
  | nil => simp [setLevel]
  | cons kv ls ih =>
    obtain ⟨k', v'⟩ := kv
    rw [setLevel_cons]
    by_cases hk : k = k'
    · subst hk
      by_cases hl : k = l <;> simp [hl]
    · have h1 : (k == k') = false := by simpa using hk
      have h2 : (k == (if (k' == l) = true then (k', m) else (k', v')).1) = false := by
        split <;> exact h1
      rw [List.lookup_cons, List.lookup_cons, h1, h2, ih]

theorem lookup_setLevel_ne {m : List (Level × LevelMap)} {l k : Level} (v : LevelMap)
    (hk : k ≠ l) : (setLevel m l v).lookup k = m.lookup k := by
  rw [lookup_setLevel, if_neg hk]

theorem mem_setLevel {m : List (Level × LevelMap)} {l k : Level} {v x : LevelMap}
    (h : (k, x) ∈ setLevel m l v) :
    (k ≠ l ∧ (k, x) ∈ m) ∨ (k = l ∧ x = v ∧ ∃ old, (k, old) ∈ m) := by
  induction m with
  | nil => cases h
  | cons kv m ih =>
    rw [setLevel_cons, List.mem_cons] at h
    rcases h with h | h
    · by_cases hkl : (kv.1 == l) = true
      · rw [if_pos hkl] at h
        cases h
        exact .inr ⟨eq_of_beq hkl, rfl, kv.2, List.mem_cons_self⟩
      · rw [if_neg hkl] at h
        subst h
        exact .inl ⟨by simpa using hkl, List.mem_cons_self⟩
    · rcases ih h with ⟨h1, h2⟩ | ⟨h1, h2, old, h3⟩
      · exact .inl ⟨h1, List.mem_cons_of_mem _ h2⟩
      · exact .inr ⟨h1, h2, old, List.mem_cons_of_mem _ h3⟩

/-! ### `levelPairs` -/

theorem mem_levelPairs {h : List Level} {pl cl : Level} :
    (pl, cl) ∈ levelPairs h ↔ ∃ i, ∃ hi : i + 1 < h.length, h[i] = pl ∧ h[i+1] = cl := by
  unfold levelPairs
  rw [List.mem_iff_getElem]
  simp only [List.length_zip, List.length_tail, List.getElem_zip, List.getElem_tail,
    Prod.mk.injEq]
  exact ⟨fun ⟨i, hi, e⟩ => ⟨i, by omega, e⟩, fun ⟨i, hi, e⟩ => ⟨i, by omega, e⟩⟩

theorem mem_levelPairs_of_idx {h : List Level} {i : Nat} (hi : i + 1 < h.length) :
    (h[i], h[i+1]) ∈ levelPairs h :=
  mem_levelPairs.2 ⟨i, hi, rfl, rfl⟩

theorem mem_levelPairs_pred {h : List Level} {i : Nat} (hi : i < h.length) (h0 : 0 < i) :
    (h[i-1]'(Nat.lt_of_le_of_lt (Nat.sub_le i 1) hi), h[i]) ∈ levelPairs h := by
  obtain ⟨j, rfl⟩ : ∃ j, i = j + 1 := ⟨i - 1, by omega⟩
  exact mem_levelPairs_of_idx hi

/-- the tree model reads adjacent levels by index, the level loop by splitting
the hierarchy -/
theorem mem_levelPairs_iff_split {pl cl : Level} {h : List Level} :
    (pl, cl) ∈ levelPairs h ↔ ∃ pre post, h = pre ++ pl :: cl :: post := by
  rw [mem_levelPairs]
  constructor
  · rintro ⟨i, hi, rfl, rfl⟩
    exact ⟨_, _, ListAux.split_at_idx h hi⟩
  · rintro ⟨pre, post, rfl⟩
    exact ⟨pre.length, by simp, by simp⟩

theorem levelPairs_fst_unique {h : List Level} (hn : h.Nodup) {pl cl cl' : Level}
    (h1 : (pl, cl) ∈ levelPairs h) (h2 : (pl, cl') ∈ levelPairs h) : cl = cl' := by
  obtain ⟨i, hi, hi1, hi2⟩ := mem_levelPairs.1 h1
  obtain ⟨j, hj, hj1, hj2⟩ := mem_levelPairs.1 h2
  have hij : i = j := (List.getElem_inj hn).1 (hi1.trans hj1.symm)
  subst hij
  exact hi2.symm.trans hj2

theorem levelPairs_snd_unique {h : List Level} (hn : h.Nodup) {pl pl' cl : Level}
    (h1 : (pl, cl) ∈ levelPairs h) (h2 : (pl', cl) ∈ levelPairs h) : pl = pl' := by
  obtain ⟨i, hi, hi1, hi2⟩ := mem_levelPairs.1 h1
  obtain ⟨j, hj, hj1, hj2⟩ := mem_levelPairs.1 h2
  have hij : i + 1 = j + 1 := (List.getElem_inj hn).1 (hi2.trans hj2.symm)
  have hij' : i = j := by omega
  subst hij'
  exact hi1.symm.trans hj1

/-- `_drop_level` finds the level above the dropped one by its index, the lemmas on `dropAt` take it
by name: with distinct levels the two agree. -/
theorem eq_pred_of_mem_levelPairs {h : List Level} (hn : h.Nodup) {i : Nat} (hi : i < h.length)
    {P : Level} (hP : (P, h[i]) ∈ levelPairs h) :
    0 < i ∧ P = h[i-1]'(Nat.lt_of_le_of_lt (Nat.sub_le i 1) hi) := by
  obtain ⟨j, hj, rfl, e⟩ := mem_levelPairs.1 hP
  obtain rfl : j + 1 = i := (List.getElem_inj hn).1 e
  exact ⟨Nat.succ_pos j, rfl⟩

theorem levelPairs_snd_nodup {h : List Level} (hn : h.Nodup) :
    ((levelPairs h).map (·.2)).Nodup := by
  have : (levelPairs h).map Prod.snd = h.tail :=
    List.map_snd_zip (by simp)
  show ((levelPairs h).map Prod.snd).Nodup
  rw [this]
  exact hn.sublist (List.tail_sublist h)

theorem levelPairs_fst_nodup {h : List Level} (hn : h.Nodup) :
    ((levelPairs h).map (·.1)).Nodup :=
  hn.sublist (ListAux.map_fst_zip_prefix h h.tail).sublist

/-- adjacent levels with position `i` taken out: an old pair away from `h[i]`, or the levels right
above and right below `h[i]` -/
theorem mem_levelPairs_eraseIdx {h : List Level} (hn : h.Nodup) {i : Nat} (hi : i < h.length)
    {pl cl : Level} (hm : (pl, cl) ∈ levelPairs (h.eraseIdx i)) :
    ((pl, cl) ∈ levelPairs h ∧ pl ≠ h[i] ∧ cl ≠ h[i]) ∨
      ((pl, h[i]) ∈ levelPairs h ∧ (h[i], cl) ∈ levelPairs h) := by
  obtain ⟨j, hj, rfl, rfl⟩ := mem_levelPairs.1 hm
  have hj2 : j + 1 + 1 < h.length := by
    rw [List.length_eraseIdx, if_pos hi] at hj; omega
  rw [List.getElem_eraseIdx, List.getElem_eraseIdx]
  by_cases h1 : j + 1 < i
  · -- both positions before the gap
    have h0 := Nat.lt_of_succ_lt h1
    rw [dif_pos h0, dif_pos h1]
    exact .inl ⟨mem_levelPairs_of_idx _, ListAux.getElem_ne_of_nodup hn (Nat.ne_of_lt h0),
      ListAux.getElem_ne_of_nodup hn (Nat.ne_of_lt h1)⟩
  · rw [dif_neg h1]
    by_cases h0 : j < i
    · -- the pair bridging the gap
      obtain rfl : i = j + 1 := by omega
      rw [dif_pos h0]
      exact .inr ⟨mem_levelPairs_of_idx hi, mem_levelPairs_of_idx hj2⟩
    · -- both positions after the gap
      rw [dif_neg h0]
      exact .inl ⟨mem_levelPairs_of_idx hj2,
        ListAux.getElem_ne_of_nodup hn (Nat.ne_of_gt (Nat.lt_succ_of_le (Nat.le_of_not_lt h0))),
        ListAux.getElem_ne_of_nodup hn (Nat.ne_of_gt (Nat.lt_succ_of_le (Nat.le_of_not_lt h1)))⟩

/-! ### `level`, `nodesAt`, `entry`, `allRows` -/

theorem level_of_mem {t : RawTree} {l : Level} {m : LevelMap}
    (hk : (t.levels.map (·.1)).Nodup) (h : (l, m) ∈ t.levels) : t.level l = m := by
  simp [level, ListAux.lookup_of_mem_nodup hk h]

theorem level_eq_nil_of_not_mem {t : RawTree} {l : Level}
    (h : l ∉ t.levels.map (·.1)) : t.level l = [] := by
  simp [level, ListAux.lookup_eq_none_iff_keys.2 h]

theorem level_mem_or_nil (t : RawTree) (l : Level) :
    (l, t.level l) ∈ t.levels ∨ t.level l = [] := by
  unfold level
  cases h : t.levels.lookup l with
  | none => right; rfl
  | some m => left; exact ListAux.mem_of_lookup h

/-- `nodesAt`, `entry` read the tree through the dict of the level only -/
theorem nodesAt_congr {t t' : RawTree} {l : Level} (h : t'.level l = t.level l) :
    t'.nodesAt l = t.nodesAt l :=
  congrArg (·.map (·.1)) h

theorem entry_congr {t t' : RawTree} {l : Level} (h : t'.level l = t.level l) (n : Node) :
    t'.entry l n = t.entry l n :=
  congrArg (fun m => (m.lookup n).getD []) h

theorem allRows_of_leaf {t : RawTree} {l : Level} (h : t.leafLevel = some l) :
    t.allRows = (t.level l).flatMap (·.2) := by
  unfold allRows
  rw [h]

theorem DictOK.nodesAt_nodup {t : RawTree} (d : DictOK t) (l : Level) : (t.nodesAt l).Nodup := by
  unfold nodesAt
  rcases level_mem_or_nil t l with h | h
  · exact d.nodeKeys _ _ h
  · rw [h]; exact List.nodup_nil

theorem mem_nodesAt {t : RawTree} {l : Level} {n : Node} :
    n ∈ t.nodesAt l ↔ ∃ cs, (n, cs) ∈ t.level l := by
  simp [nodesAt]

theorem entry_of_mem {t : RawTree} (d : DictOK t) {l : Level} {n : Node} {cs : List Nat}
    (h : (n, cs) ∈ t.level l) : t.entry l n = cs := by
  have := d.nodesAt_nodup l
  unfold nodesAt at this
  simp [entry, ListAux.lookup_of_mem_nodup this h]

theorem flatMap_entry_nodesAt {t : RawTree} (d : DictOK t) (l : Level) :
    (t.nodesAt l).flatMap (t.entry l) = (t.level l).flatMap (·.2) := by
  unfold nodesAt
  rw [List.flatMap_map]
  exact ListAux.flatMap_congr (fun e he => entry_of_mem d (n := e.1) (cs := e.2) he)

theorem mem_level_entry {t : RawTree} {l : Level} {n : Node} (h : n ∈ t.nodesAt l) :
    (n, t.entry l n) ∈ t.level l := by
  unfold entry
  cases hl : (t.level l).lookup n with
  | none =>
    have := ListAux.lookup_eq_none_iff_keys.1 hl
    exact absurd h this
  | some cs => exact ListAux.mem_of_lookup hl

theorem mem_entry_iff {t : RawTree} (d : DictOK t) {l : Level} {p : Node} {c : Nat} :
    c ∈ t.entry l p ↔ ∃ cs, (p, cs) ∈ t.level l ∧ c ∈ cs := by
  constructor
  · intro h
    have hp : p ∈ t.nodesAt l := by
      unfold entry at h
      cases hl : (t.level l).lookup p with
      | none => rw [hl] at h; simp at h
      | some cs => exact mem_nodesAt.2 ⟨cs, ListAux.mem_of_lookup hl⟩
    exact ⟨_, mem_level_entry hp, h⟩
  · rintro ⟨cs, hm, hc⟩
    rw [entry_of_mem d hm]; exact hc

theorem isChild_iff {t : RawTree} (d : DictOK t) {pl : Level} {p c : Node} :
    t.IsChild pl p c ↔ p ∈ t.nodesAt pl ∧ c ∈ t.entry pl p :=
  ⟨fun h => ⟨mem_nodesAt.2 ⟨h.choose, h.choose_spec.1⟩, (mem_entry_iff d).2 h⟩,
    fun h => (mem_entry_iff d).1 h.2⟩

/-! ### `children` -/

theorem children_some_ok_iff {t : RawTree} {l : Level} {n : Node} {cs : List Node} :
    t.children (some (l, n)) = .ok cs ↔
      l ∈ t.levels.map (·.1) ∧ n ∈ t.nodesAt l ∧ cs = t.entry l n := by
  simp only [children]
  by_cases h1 : l ∈ t.levels.map (·.1)
  · by_cases h2 : n ∈ t.nodesAt l
    · simp [h1, h2, eq_comm]
    · simp [h1, h2]
  · simp [h1]

theorem children_none_ok_iff {t : RawTree} {cs : List Node} :
    t.children none = .ok cs ↔ ∃ l0, t.hierarchy.head? = some l0 ∧ cs = t.nodesAt l0 := by
  simp only [children]
  cases h : t.hierarchy.head? with
  | none => simp
  | some l0 => simp [eq_comm]

/-! ### `allParents` -/

theorem none_mem_allParents {t : RawTree} : none ∈ t.allParents := List.mem_cons_self

/-- the non-root members of `all_parents`: the nodes of the non-leaf levels -/
theorem mem_allParents {t : RawTree} {l : Level} {n : Node} :
    some (l, n) ∈ t.allParents ↔ l ∈ t.hierarchy.dropLast ∧ n ∈ t.nodesAt l := by
  simp only [allParents, List.mem_cons, reduceCtorEq, false_or, List.mem_flatMap, List.mem_map,
    Option.some.injEq, Prod.mk.injEq]
  constructor
  · rintro ⟨l', hl', n', hn', rfl, rfl⟩; exact ⟨hl', hn'⟩
  · rintro ⟨hl, hn⟩; exact ⟨l, hl, n, hn, rfl, rfl⟩

end CTM.RawTree
