import CTM.Lemmas.TreeDrop
import CTM.Lemmas.TreeAnc

/-!
  `to_str(drop_cells=True)` (`dropCells`): emptying the leaf rows keeps well-formedness, nodes, parents,
  ancestors and `asLeaves`.  Where a lemma has a second form (`_of_leaf`, `_nil`, `_of_nodup`) beside the
  bare one, the bare one takes `WF t` and the other only what it needs; `dropCells_parents`,
  `_ancestorAt` and `_asLeaves` have one form, under `t.hierarchy.Nodup`.
-/

namespace CTM.RawTree
variable {t : RawTree}

/-- the leaf dict with every row list emptied -/
def emptiedLeaf (t : RawTree) (leaf : Level) : LevelMap :=
  (t.level leaf).map (fun kv => (kv.1, ([] : List Nat)))

theorem dropCells_eq {leaf : Level} (hl : t.leafLevel = some leaf) :
    t.dropCells = { t with levels := setLevel t.levels leaf (t.emptiedLeaf leaf) } := by
  unfold dropCells
  rw [hl]
  rfl

theorem dropCells_eq_self (hl : t.leafLevel = none) : t.dropCells = t := by
  unfold dropCells
  rw [hl]

theorem dropCells_hierarchy : t.dropCells.hierarchy = t.hierarchy := by
  unfold dropCells; split <;> rfl

theorem dropCells_hasHierarchy : t.dropCells.hasHierarchy = t.hasHierarchy := by
  unfold dropCells; split <;> rfl

theorem dropCells_nodesAreStr : t.dropCells.nodesAreStr = t.nodesAreStr := by
  unfold dropCells; split <;> rfl

theorem dropCells_keys : t.dropCells.levels.map (·.1) = t.levels.map (·.1) := by
  cases hl : t.leafLevel with
  | none => rw [dropCells_eq_self hl]
  | some leaf => rw [dropCells_eq hl]; exact setLevel_keys _ _ _

theorem dropCells_leafLevel : t.dropCells.leafLevel = t.leafLevel := by
  unfold leafLevel; rw [dropCells_hierarchy]

theorem dropCells_level_other {l : Level} (hl : t.leafLevel ≠ some l) :
    t.dropCells.level l = t.level l := by
  cases hll : t.leafLevel with
  | none => rw [dropCells_eq_self hll]
  | some leaf =>
    have hne : l ≠ leaf := by
      rintro rfl; exact hl hll
    unfold level
    rw [dropCells_eq hll]
    simp only
    rw [lookup_setLevel_ne _ hne]

theorem dropCells_level_of_leaf {leaf : Level} (hl : t.leafLevel = some leaf) :
    t.dropCells.level leaf = (t.level leaf).map (fun kv => (kv.1, ([] : List Nat))) := by
  show _ = t.emptiedLeaf leaf
  unfold level
  rw [dropCells_eq hl]
  simp only
  rw [lookup_setLevel, if_pos rfl]
  cases h : t.levels.lookup leaf with
  | none => simp [emptiedLeaf, level, h]
  | some m => rfl

theorem dropCells_level_leaf (w : WF t) :
    t.dropCells.level (t.hierarchy.getLast w.hNe) =
      (t.level (t.hierarchy.getLast w.hNe)).map (fun (n, _) => (n, [])) :=
  dropCells_level_of_leaf w.leafLevel_getLast

theorem dropCells_nodesAt (l : Level) : t.dropCells.nodesAt l = t.nodesAt l := by
  unfold nodesAt
  by_cases hl : t.leafLevel = some l
  · rw [dropCells_level_of_leaf hl, List.map_map]
    rfl
  · rw [dropCells_level_other hl]

theorem dropCells_entry_other {l : Level} (hl : t.leafLevel ≠ some l) (n : Node) :
    t.dropCells.entry l n = t.entry l n := by
  unfold entry; rw [dropCells_level_other hl]

theorem dropCells_entry_leaf {leaf : Level} (hl : t.leafLevel = some leaf) (n : Node) :
    t.dropCells.entry leaf n = [] := by
  unfold entry
  rw [dropCells_level_of_leaf hl, ListAux.lookup_map_snd (fun _ : List Nat => ([] : List Nat))]
  cases (t.level leaf).lookup n <;> rfl

theorem dropCells_allRows_nil : t.dropCells.allRows = [] := by
  unfold allRows
  rw [dropCells_leafLevel]
  cases hl : t.leafLevel with
  | none => rfl
  | some leaf =>
    simp only
    rw [dropCells_level_of_leaf hl, List.flatMap_map]
    simp

theorem dropCells_allRows (_w : WF t) : t.dropCells.allRows = [] := dropCells_allRows_nil

theorem dropCells_dictOK (d : DictOK t) : DictOK t.dropCells := by
  cases hl : t.leafLevel with
  | none => rw [dropCells_eq_self hl]; exact d
  | some leaf =>
    constructor
    · rw [dropCells_keys]; exact d.levelKeys
    · intro l m hm
      rw [dropCells_eq hl] at hm
      rcases mem_setLevel hm with ⟨_, h⟩ | ⟨_, rfl, _⟩
      · exact d.nodeKeys l m h
      · unfold emptiedLeaf
        rw [List.map_map]
        exact d.nodesAt_nodup _

theorem dropCells_wf (w : WF t) : WF t.dropCells := by
  have s := strict_of_validate w.valid
  refine w.transfer (dropCells_dictOK w.dict) dropCells_hasHierarchy dropCells_nodesAreStr
    (by rw [dropCells_hierarchy]; exact .refl _) (by rw [dropCells_hierarchy]; exact w.hNe) ?_
    (fun l _ n => by rw [dropCells_nodesAt]) ?_ (by rw [dropCells_allRows_nil]; exact List.nodup_nil)
  · intro k
    rw [dropCells_keys, dropCells_hierarchy]
    exact s.keys k
  · -- only the leaf dict changed, and it is the upper dict of no pair
    intro pl cl hm
    rw [dropCells_hierarchy] at hm
    rw [dropCells_level_other (levelPairs_fst_ne_leaf w.hNodup hm), dropCells_nodesAt]
    exact s.link hm

theorem dropCells_parentLevel (l : Level) : t.dropCells.parentLevel l = t.parentLevel l := by
  unfold parentLevel levelIdx
  rw [dropCells_hierarchy]

theorem dropCells_levelsBelow (l : Level) : t.dropCells.levelsBelow l = t.levelsBelow l := by
  unfold levelsBelow levelIdx
  rw [dropCells_hierarchy]

theorem dropCells_childToParent_of_nodup (hn : t.hierarchy.Nodup) (cl : Level) (c : Node) :
    t.dropCells.childToParent cl c = t.childToParent cl c := by
  unfold childToParent
  rw [dropCells_parentLevel]
  cases h : t.parentLevel cl with
  | none => rfl
  | some pl =>
    simp only
    rw [dropCells_level_other (parentLevel_ne_leaf hn h)]

theorem dropCells_childToParent (w : WF t) (cl : Level) (c : Node) :
    t.dropCells.childToParent cl c = t.childToParent cl c :=
  dropCells_childToParent_of_nodup w.hNodup cl c

theorem dropCells_parents (hn : t.hierarchy.Nodup) (l : Level) (n : Node) :
    t.dropCells.parents l n = t.parents l n :=
  parents_congr dropCells_hierarchy (dropCells_childToParent_of_nodup hn) l n

theorem dropCells_ancestorAt (hn : t.hierarchy.Nodup) (l : Level) (n : Node) (al : Level) :
    t.dropCells.ancestorAt l n al = t.ancestorAt l n al :=
  ancestorAt_congr dropCells_hierarchy (dropCells_childToParent_of_nodup hn) l n al

theorem dropCells_asLeaves (hn : t.hierarchy.Nodup) (l : Level) (n : Node) :
    t.dropCells.asLeaves l n = t.asLeaves l n := by
  unfold asLeaves
  rw [dropCells_levelsBelow]
  by_cases hl : l ∈ t.hierarchy
  · obtain ⟨i, hi, rfl⟩ := List.getElem_of_mem hl
    rw [levelsBelow_getElem hn hi]
    apply leavesFrom_congr
    intro l' n' hm
    rw [← List.drop_eq_getElem_cons hi] at hm
    exact dropCells_entry_other (not_leaf_of_mem_dropLast_drop hn hm) n'
  · have : t.levelsBelow l = [] := by
      unfold levelsBelow; rw [levelIdx_none_of_not_mem hl]
    rw [this]
    rfl

end CTM.RawTree
