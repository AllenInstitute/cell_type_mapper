/-
  Lemmas for C07 (`CTM.Normalize`): the CPM scale law on `Rat`; selection of columns by gene
  name sees neither the column order nor extra columns (`selectData_relabelled`), and so neither
  does the prepared chunk; the minimum found chunk by chunk or tile by tile is the global one.
  The normal forms of `selectData` and `prepareChunk` are in `NormalizeForm.lean`.
  Single Mathlib modules are imported for field arithmetic on `Rat`.
-/
import CTM.Lemmas.NormalizeForm
import CTM.Lemmas.TreePairs
import Mathlib.Tactic.Ring
import Mathlib.Tactic.FieldSimp
import Mathlib.Tactic.Linarith
import Mathlib.Algebra.Order.Field.Rat

namespace CTM

namespace Normalize

open Markers (Gene nameToIdx nameToIdx_eq_none_iff)

/-! ### counts per million: the scale law, the order of the columns -/

theorem rowSum_cons (v : Rat) (x : List Rat) : rowSum (v :: x) = v + rowSum x := by
  simp [rowSum]

theorem rowSum_scale (k : Rat) (x : List Rat) : rowSum (x.map (fun v => k * v)) = k * rowSum x := by
  induction x with
  | nil => simp [rowSum]
  | cons v vs ih => rw [List.map_cons, rowSum_cons, rowSum_cons, ih]; ring

theorem rowSum_nonneg (x : List Rat) (h : ∀ v ∈ x, 0 ≤ v) : 0 ≤ rowSum x := by
  induction x with
  | nil => simp [rowSum]
  | cons v vs ih =>
    rw [rowSum_cons]
    have := h v (by simp)
    have := ih (fun u hu => h u (by simp [hu]))
    linarith

theorem all_zero_of_rowSum_zero (x : List Rat) (h : ∀ v ∈ x, 0 ≤ v) (hs : rowSum x = 0) :
    ∀ v ∈ x, v = 0 := by
  induction x with
  | nil => simp
  | cons v vs ih =>
    rw [rowSum_cons] at hs
    have h0 := h v (by simp)
    have h1 := rowSum_nonneg vs (fun u hu => h u (by simp [hu]))
    have hv : v = 0 := by linarith
    have hr : rowSum vs = 0 := by linarith
    intro u hu
    rcases List.mem_cons.1 hu with rfl | hu
    · exact hv
    · exact ih (fun u hu => h u (by simp [hu])) hr u hu

theorem rowSum_perm {x y : List Rat} (h : x.Perm y) : rowSum x = rowSum y := by
  induction h with
  | nil => rfl
  | cons v _ ih => rw [rowSum_cons, rowSum_cons, ih]
  | swap a b l => simp only [rowSum_cons]; ring
  | trans _ _ ih1 ih2 => rw [ih1, ih2]

/-- "multiplying a raw cell by any positive constant does not change its
mapping": CPM of the scaled cell = CPM of the cell, exactly -/
theorem cpmRow_scale (k : Rat) (hk : 0 < k) (x : List Rat) (hnn : ∀ v ∈ x, 0 ≤ v) :
    cpmRow (x.map (fun v => k * v)) = cpmRow x := by
  unfold cpmRow
  rw [rowSum_scale, List.map_map]
  apply List.map_congr_left
  intro v hv
  rcases (rowSum_nonneg x hnn).lt_or_eq with hpos | hz
  · -- the factor cancels
    simp only [Function.comp, gt_iff_lt, mul_pos hk hpos, hpos, if_true]
    rw [mul_div_mul_left _ _ hk.ne']
  · -- an all-zero cell stays all-zero
    simp only [Function.comp, ← hz, mul_zero, gt_iff_lt, lt_irrefl, if_false,
      all_zero_of_rowSum_zero x hnn hz.symm v hv]

theorem convertToCpm_scale (data : List (List Rat)) (ks : List Rat) (hlen : ks.length = data.length)
    (hk : ∀ k ∈ ks, 0 < k) (hnn : ∀ row ∈ data, ∀ v ∈ row, 0 ≤ v) :
    convertToCpm ((data.zip ks).map (fun p => p.1.map (fun v => p.2 * v))) = convertToCpm data := by
  induction data generalizing ks with
  | nil => rfl
  | cons row rows ih =>
    cases ks with
    | nil => cases hlen
    | cons k ks =>
      show cpmRow (row.map fun v => k * v) :: convertToCpm ((rows.zip ks).map _) =
        cpmRow row :: convertToCpm rows
      rw [cpmRow_scale k (hk k List.mem_cons_self) row (hnn row List.mem_cons_self),
        ih ks (Nat.succ.inj hlen) (fun k' hk' => hk k' (List.mem_cons_of_mem _ hk'))
          (fun r hr => hnn r (List.mem_cons_of_mem _ hr))]

theorem cpm_zip_perm (genes genes' : List Gene) (row row' : List Rat)
    (hl : row.length ≤ genes.length) (hl' : row'.length ≤ genes'.length)
    (hp : (genes'.zip row').Perm (genes.zip row)) (f : Rat → Rat) :
    (genes'.zip ((cpmRow row').map f)).Perm (genes.zip ((cpmRow row).map f)) := by
  have hrow : row'.Perm row := by
    have := hp.map (·.2)
    rwa [List.map_snd_zip hl', List.map_snd_zip hl] at this
  have hs : rowSum row' = rowSum row := rowSum_perm hrow
  unfold cpmRow
  rw [hs]
  simp only [List.map_map, List.zip_map_right]
  exact hp.map _

/-! ### columns are addressed by gene name -/

/-- the value of gene `g` in a row: `row[gene_to_col[g]]` -/
def valueOf (genes : List Gene) (row : List Rat) (g : Gene) : Option Rat :=
  (nameToIdx genes g).bind (fun i => row[i]?)

/-- with distinct gene names, `gene_to_col` addressing is association-list lookup -/
theorem valueOf_eq_lookup (genes : List Gene) (row : List Rat) (hn : genes.Nodup) (g : Gene) :
    valueOf genes row g = (genes.zip row).lookup g := by
  induction genes generalizing row with
  | nil => rfl
  | cons x xs ih =>
    rw [List.nodup_cons] at hn
    cases row with
    | nil =>
      rw [List.zip_nil_right, List.lookup_nil, valueOf]
      cases nameToIdx (x :: xs) g <;> rfl
    | cons r rs =>
      rw [List.zip_cons_cons, List.lookup_cons, ← ih rs hn.2, valueOf, valueOf, nameToIdx]
      by_cases hx : g = x
      · subst hx
        rw [(nameToIdx_eq_none_iff xs g).2 hn.1, beq_self_eq_true]
        rfl
      · rw [beq_eq_false_iff_ne.2 hx, beq_eq_false_iff_ne.2 (Ne.symm hx)]
        cases nameToIdx xs g <;> rfl

theorem lookup_perm {β} {l l' : List (Gene × β)} (hp : l.Perm l') (hn : (l.map (·.1)).Nodup) (g : Gene) :
    l.lookup g = l'.lookup g :=
  ListAux.lookup_perm hp hn g

/-- what `_downsample_genes` reads for one row, by name -/
theorem takeCols_eq (genes : List Gene) (row : List Rat) (sel : List Gene) (h : ∀ g ∈ sel, g ∈ genes) :
    takeCols row (sel.map (Markers.colOf genes)) = sel.filterMap (valueOf genes row) := by
  rw [takeCols, List.filterMap_map]
  exact ListAux.filterMap_congr fun g hg => by
    rw [valueOf, Markers.nameToIdx_colOf genes g (h g hg)]; rfl

theorem selectRow_perm_extra (genes genes' : List Gene) (row row' : List Rat)
    (extra : List (Gene × Rat)) (hn : genes.Nodup) (hn' : genes'.Nodup)
    (hlen : genes.length ≤ row.length)
    (hp : (genes'.zip row').Perm (genes.zip row ++ extra))
    (sel : List Gene) (hsel : ∀ g ∈ sel, g ∈ genes) :
    sel.filterMap (valueOf genes' row') = sel.filterMap (valueOf genes row) := by
  have hkeys : ((genes'.zip row').map (·.1)).Nodup := hn'.sublist (ListAux.map_fst_zip_prefix genes' row').sublist
  have hval : ∀ g ∈ sel, valueOf genes' row' g = valueOf genes row g := by
    intro g hg
    rw [valueOf_eq_lookup genes' row' hn', valueOf_eq_lookup genes row hn, lookup_perm hp hkeys g]
    apply ListAux.lookup_append_of_mem
    rw [List.map_fst_zip hlen]
    exact hsel g hg
  induction sel with
  | nil => rfl
  | cons g gs ih =>
    simp only [List.filterMap_cons, hval g (by simp)]
    rw [ih (fun x hx => hsel x (by simp [hx])) (fun x hx => hval x (by simp [hx]))]

/-- the data of `m'` is the data of `m` with columns permuted together with
their names and possibly extra columns (row by row): the SECOND argument has the extra columns.
Without rows it says nothing about the gene lists, hence `hsub` beside it in the theorems. -/
def ColumnsRelabelled (m m' : CBG) : Prop :=
  m.data.length = m'.data.length ∧
  ∀ p ∈ m.data.zip m'.data, ∃ extra, (m'.genes.zip p.2).Perm (m.genes.zip p.1 ++ extra)

theorem selectData_relabelled (m m' : CBG) (hn : m.genes.Nodup) (hn' : m'.genes.Nodup)
    (hrowlen : ∀ row ∈ m.data, m.genes.length ≤ row.length)
    (hrel : ColumnsRelabelled m m') (hsub : ∀ g ∈ m.genes, g ∈ m'.genes)
    (sel : List Gene) (hsel : ∀ g ∈ sel, g ∈ m.genes) :
    m'.selectData sel = m.selectData sel := by
  rw [selectData_eq, selectData_eq, if_pos hsel, if_pos fun g hg => hsub g (hsel g hg)]
  refine congrArg (fun d => if RawTree.hasDup sel then _ else Except.ok d) ?_
  symm
  apply ListAux.map_eq_map_of_zip _ _ _ _ hrel.1
  intro p hp
  obtain ⟨extra, hperm⟩ := hrel.2 p hp
  rw [takeCols_eq m.genes p.1 sel hsel, takeCols_eq m'.genes p.2 sel fun g hg => hsub g (hsel g hg)]
  have hrow : p.1 ∈ m.data := (List.of_mem_zip (show (p.1, p.2) ∈ _ from hp)).1
  exact (selectRow_perm_extra m.genes m'.genes p.1 p.2 extra hn hn' (hrowlen p.1 hrow) hperm sel hsel).symm

/-! ### the prepared chunk -/

/-- normalised input: permuting columns with their names and adding columns
that are not selected leaves the prepared chunk unchanged -/
theorem prepareChunk_log2CPM_relabelled (f : Rat → Rat) (data data' : List (List Rat)) (width width' : Nat)
    (genes genes' allM : List Gene) (hw : genes.length = width) (hw' : genes'.length = width')
    (hn : genes.Nodup) (hn' : genes'.Nodup)
    (hrowlen : ∀ row ∈ data, genes.length ≤ row.length)
    (hrel : ColumnsRelabelled { data := data, genes := genes, norm := .log2CPM }
                              { data := data', genes := genes', norm := .log2CPM })
    (hsub : ∀ g ∈ genes, g ∈ genes') (hsel : ∀ g ∈ allM, g ∈ genes) :
    prepareChunk f data' width' genes' .log2CPM allM = prepareChunk f data width genes .log2CPM allM := by
  simp only [prepareChunk_eq_downsample, map_normRow_log2CPM, hw, hw', bne_self_eq_false,
    (RawTree.hasDup_eq_false_iff _).2 hn, (RawTree.hasDup_eq_false_iff _).2 hn', Bool.false_eq_true,
    if_false, CBG.downsampleGenes]
  rw [selectData_relabelled _ _ hn hn' hrowlen hrel hsub allM hsel]

/-- raw input: permuting columns with their names leaves the prepared chunk
unchanged (the row sum is permutation invariant) -/
theorem prepareChunk_raw_permuted (f : Rat → Rat) (data data' : List (List Rat)) (width : Nat)
    (genes genes' allM : List Gene) (hw : genes.length = width) (hw' : genes'.length = width)
    (hn : genes.Nodup) (hn' : genes'.Nodup)
    (hrowlen : ∀ row ∈ data, row.length = width) (hrowlen' : ∀ row ∈ data', row.length = width)
    (hlen : data.length = data'.length)
    (hperm : ∀ p ∈ data.zip data', (genes'.zip p.2).Perm (genes.zip p.1))
    (hsub : ∀ g ∈ genes, g ∈ genes') (hsel : ∀ g ∈ allM, g ∈ genes) :
    prepareChunk f data' width genes' .raw allM = prepareChunk f data width genes .raw allM := by
  rw [prepareChunk_raw_eq, prepareChunk_raw_eq]
  have hcpmlen : ∀ row : List Rat, ((cpmRow row).map f).length = row.length := by
    intro row; simp [cpmRow]
  refine prepareChunk_log2CPM_relabelled f _ _ width width genes genes' allM hw hw' hn hn' ?_ ?_ hsub hsel
  · intro row hrow
    simp only [convertToCpm, List.map_map, List.mem_map, Function.comp] at hrow
    obtain ⟨r0, hr0, rfl⟩ := hrow
    rw [hcpmlen, hrowlen r0 hr0, hw]
  · refine ⟨by simp [convertToCpm, hlen], ?_⟩
    intro p hp
    simp only [convertToCpm, List.map_map] at hp
    rw [List.zip_map] at hp
    obtain ⟨q, hq, rfl⟩ := List.mem_map.1 hp
    refine ⟨[], ?_⟩
    simp only [Function.comp, Prod.map, List.append_nil]
    have hq1 : q.1 ∈ data := (List.of_mem_zip (show (q.1, q.2) ∈ _ from hq)).1
    have hq2 : q.2 ∈ data' := (List.of_mem_zip (show (q.1, q.2) ∈ _ from hq)).2
    exact cpm_zip_perm genes genes' q.1 q.2 (by rw [hrowlen q.1 hq1, hw])
      (by rw [hrowlen' q.2 hq2, hw']) (hperm q hq) f

/-! ### the minimum found chunk by chunk is the global minimum -/

def IsMinOf (m : Rat) (l : List Rat) : Prop := m ∈ l ∧ ∀ v ∈ l, m ≤ v

theorem IsMinOf.congr {m : Rat} {l l' : List Rat} (h : IsMinOf m l) (hm : ∀ v, v ∈ l ↔ v ∈ l') :
    IsMinOf m l' := ⟨(hm m).1 h.1, fun v hv => h.2 v ((hm v).2 hv)⟩

theorem minOf_spec (l : List Rat) (hne : l ≠ []) : ∃ m, minOf l = some m ∧ IsMinOf m l := by
  induction l with
  | nil => exact absurd rfl hne
  | cons x xs ih =>
    cases xs with
    | nil => exact ⟨x, by simp [minOf], by simp [IsMinOf]⟩
    | cons y ys =>
      obtain ⟨m, hm, hmem, hle⟩ := ih (by simp)
      simp only [minOf] at hm ⊢
      rw [hm]
      by_cases hxm : x ≤ m
      · refine ⟨x, by simp [hxm], by simp, ?_⟩
        intro v hv
        rcases List.mem_cons.1 hv with rfl | hv
        · exact le_refl _
        · exact le_trans hxm (hle v hv)
      · refine ⟨m, by simp [hxm], by simp [hmem], ?_⟩
        intro v hv
        rcases List.mem_cons.1 hv with rfl | hv
        · exact le_of_lt (lt_of_not_ge hxm)
        · exact hle v hv

theorem minOf_nil_iff (l : List Rat) : minOf l = none ↔ l = [] := by
  constructor
  · intro h
    cases l with
    | nil => rfl
    | cons x xs =>
      obtain ⟨m, hm, _⟩ := minOf_spec (x :: xs) (by simp)
      rw [h] at hm; cases hm
  · rintro rfl; rfl

/-- invariant of the scan: `acc` is the minimum of `seen`, the elements of the chunks scanned so far
(`none` while there are none) -/
theorem chunkedMin_spec (chunks : List (List Rat)) (hne : ∀ c ∈ chunks, c ≠ []) (acc : Option Rat)
    (seen : List Rat) (hacc : match acc with
      | none => seen = []
      | some a => IsMinOf a seen) :
    ∃ r, chunkedMin chunks acc = .ok r ∧ match r with
      | none => seen ++ chunks.flatten = []
      | some m => IsMinOf m (seen ++ chunks.flatten) := by
  induction chunks generalizing acc seen with
  | nil => exact ⟨acc, rfl, by simpa using hacc⟩
  | cons c cs ih =>
    obtain ⟨cm, hcm, hcmem, hcle⟩ := minOf_spec c (hne c (by simp))
    simp only [chunkedMin, hcm]
    have hstep : match (match acc with
        | none => some cm
        | some a => if cm < a then some cm else some a) with
      | none => seen ++ c = []
      | some a => IsMinOf a (seen ++ c) := by
      cases acc with
      | none =>
        simp only at hacc ⊢
        subst hacc
        exact ⟨by simpa using hcmem, by simpa using hcle⟩
      | some a =>
        simp only at hacc ⊢
        obtain ⟨hamem, hale⟩ := hacc
        by_cases hlt : cm < a
        · simp only [hlt, if_true]
          refine ⟨by simp [hcmem], ?_⟩
          intro v hv
          rcases List.mem_append.1 hv with hv | hv
          · exact le_trans (le_of_lt hlt) (hale v hv)
          · exact hcle v hv
        · simp only [hlt, if_false]
          refine ⟨by simp [hamem], ?_⟩
          intro v hv
          rcases List.mem_append.1 hv with hv | hv
          · exact hale v hv
          · exact le_trans (le_of_not_gt hlt) (hcle v hv)
    obtain ⟨r, hr, hs⟩ := ih (fun c' hc' => hne c' (by simp [hc'])) _ (seen ++ c) hstep
    refine ⟨r, hr, ?_⟩
    cases r with
    | none => simpa [List.append_assoc] using hs
    | some m => simpa [List.append_assoc] using hs

theorem chunkedMin_of_cover (chunks : List (List Rat)) (l : List Rat)
    (hmem : ∀ v, v ∈ chunks.flatten ↔ v ∈ l) (hne : ∀ c ∈ chunks, c ≠ []) (hl : l ≠ []) :
    ∃ m, chunkedMin chunks none = .ok (some m) ∧ IsMinOf m l := by
  obtain ⟨r, hr, hspec⟩ := chunkedMin_spec chunks hne none [] rfl
  rw [List.nil_append] at hspec
  cases r with
  | none =>
    obtain ⟨v, hv⟩ := List.exists_mem_of_ne_nil l hl
    have := (hmem v).2 hv
    rw [hspec] at this
    cases this
  | some m => exact ⟨m, hr, hspec.congr hmem⟩

theorem chunks1_spec (c : Nat) (hc : 1 ≤ c) (xs : List Rat) :
    (chunks1 c xs).flatten = xs ∧ ∀ ch ∈ chunks1 c xs, ch ≠ [] :=
  ListAux.blocks_spec (blk := chunks1Aux c) (fun _ => rfl) (fun _ _ => rfl) hc _ xs (Nat.le_refl _)

theorem growChunk_pos (ntot fuel c : Nat) (hc : 1 ≤ c) : 1 ≤ growChunk ntot fuel c := by
  induction fuel generalizing c with
  | zero => simpa [growChunk] using hc
  | succ f ih =>
    simp only [growChunk]
    split
    · exact ih (c * 2) (by omega)
    · exact hc

/-- `_get_minmax_from_sparse`: for every chunk size (and for an unchunked
dataset) the minimum returned is the minimum of the stored values -/
theorem minSparse_spec (stored : List Rat) (hne : stored ≠ []) (chunk : Option Nat)
    (hc : ∀ c, chunk = some c → 1 ≤ c) :
    ∃ m, minSparse stored chunk = .ok m ∧ IsMinOf m stored := by
  unfold minSparse
  have he : stored.isEmpty = false := by simpa using hne
  simp only [he, Bool.false_eq_true, if_false]
  cases chunk with
  | none =>
    obtain ⟨m, hm, hmin⟩ := minOf_spec stored hne
    exact ⟨m, by simp [hm], hmin⟩
  | some c =>
    have hg := growChunk_pos stored.length stored.length c (hc c rfl)
    obtain ⟨hfl, hcne⟩ := chunks1_spec (growChunk stored.length stored.length c) hg stored
    obtain ⟨m, hm, hmin⟩ := chunkedMin_of_cover _ stored (fun v => by rw [hfl]) hcne hne
    exact ⟨m, by simp only [hm], hmin⟩

/-- The tiles of one row block have the elements of the block and none is empty.  `fuel` bounds the row
lengths: every round takes `w ≥ 1` columns off each row. -/
theorem colTilesAux_spec (w : Nat) (hw : 1 ≤ w) (fuel : Nat) (block : List (List Rat))
    (hf : ∀ r ∈ block, r.length ≤ fuel) :
    (∀ v, v ∈ (colTilesAux w fuel block).flatten ↔ v ∈ block.flatten) ∧
    ∀ tile ∈ colTilesAux w fuel block, tile ≠ [] := by
  -- a block of empty rows has no tile and no element
  have hnil : ∀ blk : List (List Rat), (∀ r ∈ blk, r = []) →
      (∀ v : Rat, v ∈ ([] : List (List Rat)).flatten ↔ v ∈ blk.flatten) ∧
      ∀ tile ∈ ([] : List (List Rat)), tile ≠ [] := by
    intro blk hall
    simp only [List.flatten_nil, List.not_mem_nil, false_iff, List.mem_flatten, not_exists, not_and]
    refine ⟨fun v r hr hv => ?_, fun _ h => ?_⟩
    · rw [hall r hr] at hv; cases hv
    · cases h
  induction fuel generalizing block with
  | zero => exact hnil block fun r hr => List.length_eq_zero_iff.1 (by have := hf r hr; omega)
  | succ f ih =>
    simp only [colTilesAux]
    by_cases hall : (block.all fun r => r.isEmpty) = true
    · simp only [hall, if_true]
      exact hnil block fun r hr => List.isEmpty_iff.1 (List.all_eq_true.1 hall r hr)
    · simp only [hall, Bool.false_eq_true, if_false]
      obtain ⟨i1, i2⟩ := ih (block.map (fun r => r.drop w)) (by
        intro r hr
        obtain ⟨r0, hr0, rfl⟩ := List.mem_map.1 hr
        have := hf r0 hr0
        rw [List.length_drop]
        omega)
      constructor
      · intro v
        simp only [List.flatten_cons, List.mem_append, i1, List.mem_flatMap, List.mem_flatten, List.mem_map]
        constructor
        · rintro (⟨r, hr, hv⟩ | ⟨_, ⟨r, hr, rfl⟩, hv⟩)
          · exact ⟨r, hr, List.mem_of_mem_take hv⟩
          · exact ⟨r, hr, List.mem_of_mem_drop hv⟩
        · rintro ⟨r, hr, hv⟩
          rw [← List.take_append_drop w r] at hv
          rcases List.mem_append.1 hv with hv | hv
          · exact Or.inl ⟨r, hr, hv⟩
          · exact Or.inr ⟨_, ⟨r, hr, rfl⟩, hv⟩
      · intro tile ht
        rcases List.mem_cons.1 ht with rfl | ht
        · -- some row is non-empty, and w ≥ 1
          intro hnil
          apply hall
          rw [List.all_eq_true]
          intro r hr
          rw [List.isEmpty_iff]
          have : r.take w = [] := List.flatMap_eq_nil_iff.1 hnil r hr
          have hl := congrArg List.length this
          rw [List.length_take, List.length_nil] at hl
          exact List.length_eq_zero_iff.1 (by omega)
        · exact i2 tile ht

theorem rowBlocksAux_spec (h : Nat) (hh : 1 ≤ h) (fuel : Nat) (X : List (List Rat)) (hf : X.length ≤ fuel) :
    (rowBlocksAux h fuel X).flatten = X :=
  (ListAux.blocks_spec (blk := rowBlocksAux h) (fun _ => rfl) (fun _ _ => rfl) hh fuel X hf).1

/-- the tiles of the dense loop cover the matrix: same elements, no empty tile -/
theorem tiles_spec (h w width : Nat) (hh : 1 ≤ h) (hw : 1 ≤ w) (X : List (List Rat))
    (hrows : ∀ r ∈ X, r.length ≤ width) :
    (∀ v, v ∈ (tiles h w width X).flatten ↔ v ∈ X.flatten) ∧ ∀ tile ∈ tiles h w width X, tile ≠ [] := by
  unfold tiles
  have hfl := rowBlocksAux_spec h hh X.length X (Nat.le_refl _)
  have hX : ∀ r, r ∈ X ↔ ∃ b ∈ rowBlocksAux h X.length X, r ∈ b := by
    intro r
    conv_lhs => rw [← hfl]
    simp [List.mem_flatten]
  have hblockrows : ∀ b ∈ rowBlocksAux h X.length X, ∀ r ∈ b, r.length ≤ width := by
    intro b hb r hr
    exact hrows r ((hX r).2 ⟨b, hb, hr⟩)
  constructor
  · intro v
    simp only [List.mem_flatten, List.mem_flatMap]
    constructor
    · rintro ⟨tile, ⟨b, hb, ht⟩, hv⟩
      have := ((colTilesAux_spec w hw width b (hblockrows b hb)).1 v).1 (List.mem_flatten.2 ⟨tile, ht, hv⟩)
      obtain ⟨r, hr, hvr⟩ := List.mem_flatten.1 this
      exact ⟨r, (hX r).2 ⟨b, hb, hr⟩, hvr⟩
    · rintro ⟨r, hrX, hvr⟩
      obtain ⟨b, hb, hr⟩ := (hX r).1 hrX
      have := ((colTilesAux_spec w hw width b (hblockrows b hb)).1 v).2 (List.mem_flatten.2 ⟨r, hr, hvr⟩)
      obtain ⟨tile, ht, hv⟩ := List.mem_flatten.1 this
      exact ⟨tile, ⟨b, hb, ht⟩, hv⟩
  · intro tile ht
    obtain ⟨b, hb, ht⟩ := List.mem_flatMap.1 ht
    exact (colTilesAux_spec w hw width b (hblockrows b hb)).2 tile ht

theorem minDense_grow_pos (ntot fuel h w : Nat) (hh : 1 ≤ h) (hw : 1 ≤ w) :
    1 ≤ (minDense.grow ntot fuel h w).1 ∧ 1 ≤ (minDense.grow ntot fuel h w).2 := by
  induction fuel generalizing h w with
  | zero => simpa [minDense.grow] using ⟨hh, hw⟩
  | succ f ih =>
    simp only [minDense.grow]
    split
    · exact ih (h * 2) (w * 2) (by omega) (by omega)
    · exact ⟨hh, hw⟩

/-- `_get_minmax_from_dense`: for every HDF5 chunk shape (and for an unchunked
dataset) the minimum returned is the minimum of the matrix -/
theorem minDense_spec (X : List (List Rat)) (width : Nat) (hrows : ∀ r ∈ X, r.length ≤ width)
    (hne : X.flatten ≠ []) (chunk : Option (Nat × Nat))
    (hc : ∀ h w, chunk = some (h, w) → 1 ≤ h ∧ 1 ≤ w) :
    ∃ m, minDense X width chunk = .ok m ∧ IsMinOf m X.flatten := by
  unfold minDense
  cases chunk with
  | none =>
    obtain ⟨m, hm, hmin⟩ := minOf_spec X.flatten hne
    exact ⟨m, by simp [hm], hmin⟩
  | some hw =>
    obtain ⟨h, w⟩ := hw
    obtain ⟨hh, hww⟩ := hc h w rfl
    simp only
    obtain ⟨g1, g2⟩ := minDense_grow_pos (X.length * width) (X.length * width) h w hh hww
    generalize minDense.grow (X.length * width) (X.length * width) h w = hw' at g1 g2
    obtain ⟨h', w'⟩ := hw'
    simp only at g1 g2 ⊢
    obtain ⟨hmem, htne⟩ := tiles_spec h' w' width g1 g2 X hrows
    obtain ⟨m, hm, hmin⟩ := chunkedMin_of_cover _ X.flatten hmem htne hne
    exact ⟨m, by simp only [hm], hmin⟩

end Normalize

end CTM
