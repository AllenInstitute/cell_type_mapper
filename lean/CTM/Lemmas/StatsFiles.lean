/-
  The statistics files around the writer of `Stats.lean`.  Before it, the table cell name → output
  row that `nameToRowOfTree` fills.  After it, the files read back: `truncate_precomputed_stats_file`
  collapses a finer file and `read_raw_precomputed_stats` / `aggregate_stats` sum the rows of a
  node's leaves; both are equations that end at `directBuf` (`truncate_directBuf`,
  `aggregateStats_directBuf`).  Last, `merge_precompute_files` with its two tie rules
  (`mergeMax_tie_rule`).
-/
import CTM.Lemmas.Stats

namespace CTM.Stats

/-! ### `indexIn`: the position of a cluster in the sorted cluster list, of a new leaf in `all_leaves` -/

theorem indexIn_eq (xs : List Nat) (x : Nat) :
    indexIn xs x = if x ∈ xs then some (xs.idxOf x) else none :=
  ListAux.search_eq_idxOf (indexIn · x) x rfl (fun _ _ => rfl) xs

theorem indexIn_eq_some {xs : List Nat} {x i : Nat} :
    indexIn xs x = some i ↔ x ∈ xs ∧ xs.idxOf x = i := by
  rw [indexIn_eq]
  split <;> simp [*]

theorem indexIn_getElem? (xs : List Nat) (x i : Nat) (h : indexIn xs x = some i) :
    xs[i]? = some x := by
  obtain ⟨hx, rfl⟩ := indexIn_eq_some.mp h
  exact List.getElem?_idxOf hx

theorem indexIn_lt (xs : List Nat) (x i : Nat) (h : indexIn xs x = some i) : i < xs.length :=
  (List.getElem?_eq_some_iff.mp (indexIn_getElem? xs x i h)).1

theorem indexIn_of_mem (xs : List Nat) (x : Nat) (h : x ∈ xs) : ∃ i, indexIn xs x = some i :=
  ⟨_, indexIn_eq_some.mpr ⟨h, rfl⟩⟩

theorem indexIn_getElem_of_nodup (xs : List Nat) (hnd : xs.Nodup) (i : Nat) (h : i < xs.length) :
    indexIn xs xs[i] = some i :=
  indexIn_eq_some.mpr ⟨List.getElem_mem h, hnd.idxOf_getElem i h⟩

/-! ### `nameToRowOfTree`: the table cell name → output row, filled by `dictSet` -/

theorem dictSet_lookup (m : List (Nat × Nat)) (k v k' : Nat) :
    (dictSet m k v).lookup k' = if k' = k then some v else m.lookup k' := by
  rw [show dictSet m k v = ListAux.assign m k v from rfl, ListAux.lookup_assign]
  simp only [beq_iff_eq]

theorem dictSet_vals (m : List (Nat × Nat)) (k v : Nat) (P : Nat → Prop) (hv : P v)
    (hm : ∀ p ∈ m, P p.2) : ∀ p ∈ dictSet m k v, P p.2 :=
  fun p hp => (ListAux.mem_assign (d := m) hp).elim (hm p) fun e => e ▸ hv

theorem foldl_dictSet_vals (r : Nat) (P : Nat → Prop) (hv : P r) :
    ∀ (cells : List Nat) (m : List (Nat × Nat)), (∀ p ∈ m, P p.2) →
      ∀ p ∈ cells.foldl (fun m c => dictSet m c r) m, P p.2 := by
  intro cells
  induction cells with
  | nil => intro m hm; simpa using hm
  | cons c cells ih =>
    intro m hm
    exact ih _ (dictSet_vals m c r P hv hm)

theorem foldl_dictSet_lookup (r : Nat) :
    ∀ (cells : List Nat) (m : List (Nat × Nat)) (k : Nat),
      (cells.foldl (fun m c => dictSet m c r) m).lookup k
        = if k ∈ cells then some r else m.lookup k := by
  intro cells
  induction cells with
  | nil => intro m k; simp
  | cons c cells ih =>
    intro m k
    rw [List.foldl_cons, ih, dictSet_lookup]
    by_cases h1 : k ∈ cells
    · simp [h1]
    · by_cases h2 : k = c
      · simp [h2]
      · simp [h1, h2]

theorem nameToRowOfTree_go_spec (clusters : List Nat) :
    ∀ (rest : List (Nat × List Nat)) (acc : List (Nat × Nat)),
      (∀ q ∈ rest, q.1 ∈ clusters) → (∀ p ∈ acc, p.2 < clusters.length) →
      ∃ tbl, nameToRowOfTree.go clusters rest acc = .ok tbl ∧
        (∀ p ∈ tbl, p.2 < clusters.length) ∧
        (∀ k, (∀ q ∈ rest, k ∉ q.2) → tbl.lookup k = acc.lookup k) ∧
        (rest.Pairwise (fun a b => ∀ c ∈ a.2, c ∉ b.2) →
          ∀ q ∈ rest, ∀ k ∈ q.2, tbl.lookup k = indexIn clusters q.1) := by
  intro rest
  induction rest with
  | nil =>
    intro acc _ hacc
    exact ⟨acc, rfl, hacc, fun _ _ => rfl, fun _ q hq => by simp at hq⟩
  | cons q rest ih =>
    intro acc hmem hacc
    obtain ⟨cl, cells⟩ := q
    obtain ⟨r, hr⟩ := indexIn_of_mem clusters cl (hmem (cl, cells) (by simp))
    have hrlt := indexIn_lt clusters cl r hr
    obtain ⟨tbl, h1, h2, h3, h4⟩ := ih (cells.foldl (fun m c => dictSet m c r) acc)
      (fun q hq => hmem q (by simp [hq]))
      (foldl_dictSet_vals r (· < clusters.length) hrlt cells acc hacc)
    refine ⟨tbl, by simp only [nameToRowOfTree.go, hr, h1], h2, ?_, ?_⟩
    · intro k hk
      rw [h3 k (fun q hq => hk q (by simp [hq])), foldl_dictSet_lookup]
      have : k ∉ cells := hk (cl, cells) (by simp)
      simp [this]
    · intro hpw q hq k hkq
      rw [List.pairwise_cons] at hpw
      simp only [List.mem_cons] at hq
      rcases hq with rfl | hq
      · rw [h3 k (fun q' hq' => hpw.1 q' hq' k hkq), foldl_dictSet_lookup]
        simp only at hkq
        simp [hkq, hr]
      · exact h4 hpw.2 q hq k hkq

theorem nameToRowOfTree_spec (l2c : List (Nat × List Nat)) :
    ∃ tbl, nameToRowOfTree l2c = .ok tbl ∧
      (∀ p ∈ tbl, p.2 < (uniqueSorted (l2c.map (·.1))).length) ∧
      (∀ k, (∀ q ∈ l2c, k ∉ q.2) → tbl.lookup k = none) ∧
      (l2c.Pairwise (fun a b => ∀ c ∈ a.2, c ∉ b.2) →
        ∀ q ∈ l2c, ∀ k ∈ q.2, tbl.lookup k = indexIn (uniqueSorted (l2c.map (·.1))) q.1) := by
  obtain ⟨tbl, h1, h2, h3, h4⟩ := nameToRowOfTree_go_spec (uniqueSorted (l2c.map (·.1))) l2c []
    (fun q hq => by rw [mem_uniqueSorted]; exact List.mem_map_of_mem hq) (by simp)
  exact ⟨tbl, h1, h2, fun k hk => by rw [h3 k hk]; rfl, h4⟩

/-! ### `truncate_precomputed_stats_file` -/

/-- one step of the grouping loop of `groupByAnc` -/
def gstep (acc : List (Nat × List Nat)) (p : Nat × Nat) : List (Nat × List Nat) :=
  if acc.any (fun q => q.1 == p.2) then
    acc.map (fun q => if q.1 == p.2 then (q.1, q.2 ++ [p.1]) else q)
  else acc ++ [(p.2, [p.1])]

theorem groupByAnc_eq (anc : List (Nat × Nat)) : groupByAnc anc = anc.foldl gstep [] := rfl

/-- invariant of the grouping loop of `groupByAnc` after the prefix `pre` -/
structure GroupInv (pre : List (Nat × Nat)) (acc : List (Nat × List Nat)) : Prop where
  nodup : (acc.map (·.1)).Nodup
  vals : ∀ q ∈ acc, q.2 = (pre.filter (fun p => p.2 == q.1)).map (·.1)
  keys : ∀ L, L ∈ acc.map (·.1) ↔ L ∈ pre.map (·.2)

theorem filter_map_fst_snoc (pre : List (Nat × Nat)) (p : Nat × Nat) (k : Nat) :
    ((pre ++ [p]).filter (fun p' => p'.2 == k)).map (·.1)
      = (pre.filter (fun p' => p'.2 == k)).map (·.1) ++ (if p.2 = k then [p.1] else []) := by
  rw [List.filter_append, List.map_append, List.filter_cons]
  by_cases h : p.2 = k
  · rw [if_pos (by simpa using h), if_pos h]; rfl
  · rw [if_neg (by simpa using h), if_neg h]; rfl

theorem gstep_inv (pre : List (Nat × Nat)) (acc : List (Nat × List Nat)) (p : Nat × Nat)
    (inv : GroupInv pre acc) : GroupInv (pre ++ [p]) (gstep acc p) := by
  by_cases hmem : p.2 ∈ acc.map (·.1)
  · -- the group of `p.2` exists: it gains `p.1`, the keys stay
    rw [gstep, if_pos ((ListAux.any_key_iff acc p.2).mpr hmem)]
    have hkeys : (acc.map (fun q => if q.1 == p.2 then (q.1, q.2 ++ [p.1]) else q)).map (·.1)
        = acc.map (·.1) := by
      rw [List.map_map]
      exact List.map_congr_left fun q _ => by simp only [Function.comp]; split <;> rfl
    refine ⟨hkeys ▸ inv.nodup, fun q' hq' => ?_, fun L => ?_⟩
    · obtain ⟨q, hq, rfl⟩ := List.mem_map.mp hq'
      rw [filter_map_fst_snoc]
      by_cases hqk : q.1 = p.2
      · rw [if_pos (by simpa using hqk), if_pos hqk.symm, ← inv.vals q hq]
      · rw [if_neg (by simpa using hqk), if_neg (Ne.symm hqk), List.append_nil]
        exact inv.vals q hq
    · rw [hkeys, inv.keys L, List.map_append, List.mem_append, List.map_singleton,
        List.mem_singleton]
      exact ⟨Or.inl, fun h => h.elim id fun h => h ▸ (inv.keys _).mp hmem⟩
  · -- a new group at the end
    rw [gstep, if_neg (mt (ListAux.any_key_iff acc p.2).mp hmem)]
    refine ⟨?_, fun q hq => ?_, fun L => ?_⟩
    · rw [List.map_append, List.nodup_append]
      refine ⟨inv.nodup, List.nodup_singleton _, fun a ha b hb hab => ?_⟩
      rw [List.map_singleton, List.mem_singleton] at hb
      subst hab; subst hb
      exact hmem ha
    · rw [filter_map_fst_snoc]
      rcases List.mem_append.mp hq with hq | hq
      · have hne : p.2 ≠ q.1 := fun h => hmem (h ▸ List.mem_map_of_mem hq)
        rw [if_neg hne, List.append_nil]
        exact inv.vals q hq
      · cases List.mem_singleton.mp hq
        have : pre.filter (fun p' => p'.2 == p.2) = [] :=
          List.filter_eq_nil_iff.mpr fun p' hp' hpp =>
            hmem ((inv.keys _).mpr (List.mem_map.mpr ⟨p', hp', by simpa using hpp⟩))
        simp [this]
    · simp only [List.map_append, List.mem_append, inv.keys L, List.map_cons, List.map_nil,
        List.mem_singleton]

theorem foldl_gstep_inv : ∀ (rest pre : List (Nat × Nat)) (acc : List (Nat × List Nat)),
    GroupInv pre acc → GroupInv (pre ++ rest) (rest.foldl gstep acc) := by
  intro rest
  induction rest with
  | nil => intro pre acc h; simpa using h
  | cons p rest ih =>
    intro pre acc h
    have := ih (pre ++ [p]) (gstep acc p) (gstep_inv pre acc p h)
    simpa using this

theorem groupByAnc_inv (anc : List (Nat × Nat)) : GroupInv anc (groupByAnc anc) := by
  have := foldl_gstep_inv anc [] [] ⟨by simp, by simp, by simp⟩
  simpa [groupByAnc_eq] using this

theorem setRow_eq (buf : Buffer) (u : Nat) (r : Row) :
    setRow buf u r = if u < buf.length then some (buf.set u r) else none := by
  induction buf generalizing u with
  | nil => rfl
  | cons b bs ih =>
    cases u with
    | zero => rfl
    | succ u =>
      rw [setRow, ih]
      simp only [List.length_cons, Nat.add_lt_add_iff_right, List.set_cons_succ]
      split <;> rfl

theorem lookupAll_eq (m : List (Nat × Nat)) : ∀ (ks : List Nat),
    (∀ k ∈ ks, ∃ v, m.lookup k = some v) →
      lookupAll m ks = some (ks.filterMap (fun k => m.lookup k)) := by
  intro ks
  induction ks with
  | nil => intro _; rfl
  | cons k ks ih =>
    intro h
    obtain ⟨v, hv⟩ := h k (by simp)
    have := ih (fun k' hk' => h k' (by simp [hk']))
    simp [lookupAll, hv, this]

theorem getRows_eq (data : Buffer) : ∀ (is : List Nat), (∀ i ∈ is, i < data.length) →
    getRows data is = some (is.filterMap (fun i => data[i]?)) := by
  intro is
  induction is with
  | nil => intro _; rfl
  | cons i is ih =>
    intro h
    have hi : i < data.length := h i (by simp)
    have := ih (fun k' hk' => h k' (by simp [hk']))
    simp [getRows, this, hi]

/-- the new row built from the old leaves `olds`: their rows (through
`cluster_to_row`), sorted ascending, read from the old arrays and summed -/
def newRow (data : Buffer) (oldLeafToRow : List (Nat × Nat)) (olds : List Nat) : Row :=
  rowSum (((olds.filterMap (fun k => oldLeafToRow.lookup k)).mergeSort).filterMap
    (fun r => data[r]?))

theorem convertToNewLeaves_go_spec (data : Buffer) (oltr : List (Nat × Nat)) (newLeaves : List Nat) :
    ∀ (groups : List (Nat × List Nat)) (acc : Buffer),
      (groups.map (·.1)).Nodup →
      (∀ q ∈ groups, q.1 ∈ newLeaves ∧
        ∀ k ∈ q.2, ∃ v, oltr.lookup k = some v ∧ v < data.length) →
      acc.length = newLeaves.length →
      ∃ out, convertToNewLeaves.go data oltr newLeaves groups acc = .ok out ∧
        out.length = newLeaves.length ∧
        ∀ (L i : Nat), indexIn newLeaves L = some i →
          (∀ q ∈ groups, q.1 = L → out[i]? = some (newRow data oltr q.2)) ∧
          (L ∉ groups.map (·.1) → out[i]? = acc[i]?) := by
  intro groups
  induction groups with
  | nil =>
    intro acc _ _ hlen
    exact ⟨acc, rfl, hlen, fun L i _ => ⟨by simp, fun _ => rfl⟩⟩
  | cons q rest ih =>
    intro acc hnd hq hlen
    obtain ⟨nl, olds⟩ := q
    simp only [List.map_cons, List.nodup_cons] at hnd
    obtain ⟨hmem, hlook⟩ := hq (nl, olds) (by simp)
    obtain ⟨dst, hdst⟩ := indexIn_of_mem newLeaves nl hmem
    have hdst' := indexIn_getElem? newLeaves nl dst hdst
    have hdlt := indexIn_lt newLeaves nl dst hdst
    have hla := lookupAll_eq oltr olds (fun k hk => by
      obtain ⟨v, hv, _⟩ := hlook k hk; exact ⟨v, hv⟩)
    have hgr := getRows_eq data
      (convertToNewLeaves.uniqueSortedDup (olds.filterMap (fun k => oltr.lookup k))) (by
        intro r hr
        simp only [convertToNewLeaves.uniqueSortedDup, List.mem_mergeSort, List.mem_filterMap] at hr
        obtain ⟨k, hk, hkr⟩ := hr
        obtain ⟨v, hv, hvlt⟩ := hlook k hk
        rw [hv] at hkr
        simp only [Option.some.injEq] at hkr
        omega)
    have hdacc : dst < acc.length := by omega
    obtain ⟨out, h4, h5, h6⟩ := ih (acc.set dst (newRow data oltr olds)) hnd.2
      (fun q' hq' => hq q' (by simp [hq'])) (by rw [List.length_set, hlen])
    refine ⟨out, ?_, h5, fun L i hi => ?_⟩
    · simp only [convertToNewLeaves.go, hdst, hla, hgr, setRow_eq, hdacc, if_true]
      exact h4
    · obtain ⟨h7, h8⟩ := h6 L i hi
      have hi' := indexIn_getElem? newLeaves L i hi
      constructor
      · intro q' hq' hq'L
        simp only [List.mem_cons] at hq'
        rcases hq' with rfl | hq'
        · simp only at hq'L
          subst hq'L
          have hid : i = dst := by
            rw [hdst] at hi; simpa using hi.symm
          rw [h8 hnd.1, List.getElem?_set, if_pos hid.symm, if_pos hdacc]
        · exact h7 q' hq' hq'L
      · intro hL
        simp only [List.map_cons, List.mem_cons, not_or] at hL
        have hid : i ≠ dst := by
          intro h; subst h
          rw [hdst'] at hi'
          simp only [Option.some.injEq] at hi'
          exact hL.1 hi'.symm
        rw [h8 hL.2, List.getElem?_set, if_neg (Ne.symm hid)]

theorem truncate_spec (g : Nat) (data : Buffer) (oltr : List (Nat × Nat)) (newLeaves : List Nat)
    (anc : List (Nat × Nat))
    (hlook : ∀ p ∈ anc, ∃ r, oltr.lookup p.1 = some r ∧ r < data.length)
    (hanc : ∀ p ∈ anc, p.2 ∈ newLeaves) :
    ∃ out, truncate g data oltr newLeaves anc = .ok out ∧ out.length = newLeaves.length ∧
      ∀ (L i : Nat), indexIn newLeaves L = some i →
        out[i]? = some (if anc.filter (fun p => p.2 == L) = [] then Row.zero g
          else newRow data oltr ((anc.filter (fun p => p.2 == L)).map (·.1))) := by
  have inv := groupByAnc_inv anc
  obtain ⟨out, h1, h2, h3⟩ := convertToNewLeaves_go_spec data oltr newLeaves (groupByAnc anc)
    (zeroBuffer newLeaves.length g) inv.nodup (by
      intro q hq
      constructor
      · have : q.1 ∈ anc.map (·.2) := (inv.keys q.1).mp (List.mem_map_of_mem hq)
        simp only [List.mem_map] at this
        obtain ⟨p, hp, hpq⟩ := this
        rw [← hpq]; exact hanc p hp
      · intro k hk
        rw [inv.vals q hq] at hk
        simp only [List.mem_map, List.mem_filter] at hk
        obtain ⟨p, ⟨hp, _⟩, rfl⟩ := hk
        exact hlook p hp) (zeroBuffer_length ..)
  refine ⟨out, h1, h2, fun L i hi => ?_⟩
  obtain ⟨h4, h5⟩ := h3 L i hi
  have hilt := indexIn_lt newLeaves L i hi
  by_cases hL : L ∈ (groupByAnc anc).map (·.1)
  · have hne : anc.filter (fun p => p.2 == L) ≠ [] := by
      rw [inv.keys] at hL
      simp only [List.mem_map] at hL
      obtain ⟨p, hp, hpL⟩ := hL
      intro h
      rw [List.filter_eq_nil_iff] at h
      exact h p hp (by simpa using hpL)
    simp only [List.mem_map] at hL
    obtain ⟨q, hq, hqL⟩ := hL
    rw [h4 q hq hqL, if_neg hne, inv.vals q hq, hqL]
  · have he : anc.filter (fun p => p.2 == L) = [] := by
      rw [List.filter_eq_nil_iff]
      intro p hp hpL
      apply hL
      rw [inv.keys]
      simp only [List.mem_map]
      exact ⟨p, hp, by simpa using hpL⟩
    rw [h5 hL, if_pos he, zeroBuffer_getElem? g hilt]

/-- `Sl k` stands for the rows whose sum (onto the zero row) the old row of old leaf `k` holds. -/
theorem newRow_direct (g : Nat) (data : Buffer) (oltr : List (Nat × Nat)) (olds : List Nat)
    (Sl : Nat → List Row) (hne : olds ≠ [])
    (hdata : ∀ k ∈ olds, ∃ r, oltr.lookup k = some r ∧
      data[r]? = some ((Row.zero g).add (rowSum (Sl k)))) :
    newRow data oltr olds = (Row.zero g).add (rowSum ((olds.map Sl).flatten)) := by
  have hperm : (((olds.filterMap (fun k => oltr.lookup k)).mergeSort).filterMap
      (fun r => data[r]?)).Perm
      ((olds.filterMap (fun k => oltr.lookup k)).filterMap (fun r => data[r]?)) :=
    (List.mergeSort_perm _ _).filterMap _
  -- sorting the row indices only permutes the rows read (`rowSum_perm`); each of them is
  -- `zero + rowSum (Sl k)`, and the zeros collapse into one (`rowSum_map_zero_add`)
  rw [newRow, rowSum_perm hperm, List.filterMap_filterMap,
    ListAux.filterMap_eq_map_of_forall _ (fun k => (Row.zero g).add (rowSum (Sl k))) olds (by
      intro k hk
      obtain ⟨r, h1, h2⟩ := hdata k hk
      simp [h1, h2]),
    rowSum_map_zero_add g (fun k => rowSum (Sl k)) olds hne, rowSum_flatten, List.map_map]
  rfl

/-- `Sl` as in `newRow_direct`; `truncate_directBuf` takes for it the contributions of the cells
named for that row. -/
theorem truncate_direct_spec (g : Nat) (data : Buffer) (oltr : List (Nat × Nat))
    (newLeaves : List Nat) (anc : List (Nat × Nat)) (Sl : Nat → List Row)
    (hlook : ∀ p ∈ anc, ∃ r, oltr.lookup p.1 = some r ∧ r < data.length ∧
      data[r]? = some ((Row.zero g).add (rowSum (Sl p.1))))
    (hanc : ∀ p ∈ anc, p.2 ∈ newLeaves) :
    ∃ out, truncate g data oltr newLeaves anc = .ok out ∧ out.length = newLeaves.length ∧
      ∀ (L i : Nat), indexIn newLeaves L = some i →
        out[i]? = some ((Row.zero g).add (rowSum
          (((anc.filter (fun p => p.2 == L)).map (fun p => Sl p.1)).flatten))) := by
  obtain ⟨out, h1, h2, h3⟩ := truncate_spec g data oltr newLeaves anc
    (fun p hp => by obtain ⟨r, a, b, _⟩ := hlook p hp; exact ⟨r, a, b⟩) hanc
  refine ⟨out, h1, h2, fun L i hi => ?_⟩
  rw [h3 L i hi]
  by_cases he : anc.filter (fun p => p.2 == L) = []
  · rw [if_pos he, he]
    exact congrArg some (Row.add_empty _).symm
  · rw [if_neg he, newRow_direct g data oltr _ Sl (fun h => he (List.map_eq_nil_iff.mp h)) (by
      intro k hk
      simp only [List.mem_map, List.mem_filter] at hk
      obtain ⟨p, ⟨hp, _⟩, rfl⟩ := hk
      obtain ⟨r, a, _, c⟩ := hlook p hp
      exact ⟨r, a, c⟩), List.map_map]
    rfl

/-- `hnew` ties the fine labelling `ntr` to the coarser one `ntr'`; `hkeys` and `hinj` (each old
leaf listed once, different old leaves in different rows of the old file) keep a cell from being
counted twice under a new leaf.  No theorem derives them from a taxonomy tree; the example after
`C09.truncate_coarser` meets them for two old leaves. -/
theorem truncate_directBuf (nC g : Nat) (ntr ntr' : List (Nat × Nat)) (cells : List CellRec)
    (oltr : List (Nat × Nat)) (newLeaves : List Nat) (anc : List (Nat × Nat))
    (hnd : newLeaves.Nodup) (hkeys : (anc.map (·.1)).Nodup)
    (hlook : ∀ p ∈ anc, ∃ r, oltr.lookup p.1 = some r ∧ r < nC)
    (hinj : ∀ p ∈ anc, ∀ q ∈ anc, oltr.lookup p.1 = oltr.lookup q.1 → p.1 = q.1)
    (hanc : ∀ p ∈ anc, p.2 ∈ newLeaves)
    (hnew : ∀ (cell : CellRec) (i : Nat), rowOf ntr' cell = some i ↔
      ∃ p ∈ anc, ∃ r, oltr.lookup p.1 = some r ∧ rowOf ntr cell = some r ∧
        indexIn newLeaves p.2 = some i) :
    truncate g (directBuf nC g ntr cells) oltr newLeaves anc
      = .ok (directBuf newLeaves.length g ntr' cells) := by
  let rowf : Nat × Nat → Nat := fun p => (oltr.lookup p.1).getD 0
  obtain ⟨out, t1, t2, t3⟩ := truncate_direct_spec g (directBuf nC g ntr cells) oltr newLeaves anc
    (fun l => (cellsOfRow ntr ((oltr.lookup l).getD 0) cells).map (fun cell => cellStat cell.vals))
    (by
      intro p hp
      obtain ⟨r, h1, h2⟩ := hlook p hp
      refine ⟨r, h1, by simpa using h2, ?_⟩
      rw [directBuf_getElem? g ntr cells h2, h1]; rfl) hanc
  rw [t1]
  congr 1
  refine ListAux.ext_getElem?_lt t2 (directBuf_length ..) fun i hi => ?_
  have hidx := indexIn_getElem_of_nodup newLeaves hnd i hi
  rw [t3 _ i hidx, directBuf_getElem? g ntr' cells hi]
  congr 2
  have hmf : ∀ (ps : List (Nat × Nat)),
      (ps.map (fun p => (cellsOfRow ntr ((oltr.lookup p.1).getD 0) cells).map
          (fun cell => cellStat cell.vals))).flatten
        = ((ps.map (fun p => cells.filter (fun c => rowOf ntr c == some (rowf p)))).flatten).map
            (fun cell => cellStat cell.vals) := by
    intro ps
    rw [List.map_flatten, List.map_map]
    rfl
  rw [hmf]
  -- distinct old leaves under one new leaf have distinct rows
  have hnd2 : ((anc.filter (fun p => p.2 == newLeaves[i])).map rowf).Nodup := by
    refine List.Nodup.map_on (fun p hp q hq hpq => ?_) ((List.Nodup.of_map _ hkeys).filter _)
    have hp' := (List.mem_filter.mp hp).1
    have hq' := (List.mem_filter.mp hq).1
    obtain ⟨r1, h1, _⟩ := hlook p hp'
    obtain ⟨r2, h2, _⟩ := hlook q hq'
    simp only [rowf, h1, h2, Option.getD_some] at hpq
    exact List.inj_on_of_nodup_map hkeys hp' hq' (hinj p hp' q hq' (by rw [h1, h2, hpq]))
  -- "the cells of old row `r`", concatenated over the old leaves under the new leaf, are up to
  -- order "the cells whose old row is one of theirs": by `hnd2` no cell comes twice
  rw [rowSum_perm ((ListAux.flatten_filter_perm cells (rowOf ntr) rowf _ hnd2).map _)]
  simp only [S, cellsOfRow]
  congr 2
  apply List.filter_congr
  intro cell _
  rw [Bool.eq_iff_iff]
  simp only [List.any_eq_true, List.mem_filter, beq_iff_eq]
  rw [hnew cell i]
  constructor
  · rintro ⟨p, ⟨hp, hpL⟩, hrow⟩
    obtain ⟨r, h1, _⟩ := hlook p hp
    refine ⟨p, hp, r, h1, ?_, ?_⟩
    · rw [hrow]; simp [rowf, h1]
    · rw [hpL]; exact hidx
  · rintro ⟨p, hp, r, h1, hrow, hpi⟩
    refine ⟨p, ⟨hp, ?_⟩, ?_⟩
    · have := indexIn_getElem? newLeaves p.2 i hpi
      rw [List.getElem?_eq_getElem hi] at this
      simpa using this.symm
    · rw [hrow]; simp [rowf, h1]

/-! ### `read_raw_precomputed_stats` / `aggregate_stats` -/

theorem readRow_ok (data : Buffer) (c2r : List (Nat × Nat)) (leaf r : Nat) (row : Row)
    (h1 : c2r.lookup leaf = some r) (h2 : data[r]? = some row) : readRow data c2r leaf = .ok row := by
  simp [readRow, h1, h2]

theorem readRow_mem (data : Buffer) (c2r : List (Nat × Nat)) (leaf : Nat) (row : Row)
    (h : readRow data c2r leaf = .ok row) : row ∈ data := by
  unfold readRow at h
  cases hl : c2r.lookup leaf with
  | none => simp [hl] at h
  | some r =>
    cases hr : data[r]? with
    | none => simp [hl, hr] at h
    | some row' =>
      simp only [hl, hr, Except.ok.injEq] at h
      subst h
      exact List.mem_of_getElem? hr

/-- the rows `cluster_to_row` addresses for a list of leaves -/
def addressedRows (data : Buffer) (c2r : List (Nat × Nat)) (leaves : List Nat) : List Row :=
  leaves.filterMap (fun l => (c2r.lookup l).bind (fun i => data[i]?))

theorem mapMExcept_readRow_eq_addressedRows (data : Buffer) (c2r : List (Nat × Nat)) (leaves : List Nat)
    (h : ∀ l ∈ leaves, ∃ i, c2r.lookup l = some i ∧ i < data.length) :
    mapMExcept (readRow data c2r) leaves = .ok (addressedRows data c2r leaves) ∧
      (addressedRows data c2r leaves).length = leaves.length := by
  let F : Nat → Row := fun l => ((c2r.lookup l).bind (fun i => data[i]?)).getD Row.empty
  have hF : ∀ l ∈ leaves, ∃ i, c2r.lookup l = some i ∧ data[i]? = some (F l) := by
    intro l hl
    obtain ⟨i, h1, h2⟩ := h l hl
    exact ⟨i, h1, by simp only [F, h1, Option.bind_some, List.getElem?_eq_getElem h2, Option.getD_some]⟩
  have hrows : addressedRows data c2r leaves = leaves.map F :=
    ListAux.filterMap_eq_map_of_forall _ F leaves fun l hl => by
      obtain ⟨i, h1, h2⟩ := hF l hl
      rw [h1, Option.bind_some, h2]
  rw [hrows, List.length_map]
  refine ⟨(mapMExcept_eq_mapM ..).trans (ListAux.mapM_eq_ok_map (g := F) fun l hl => ?_), rfl⟩
  obtain ⟨i, h1, h2⟩ := hF l hl
  simp only [readRow, h1, h2]

/-- what `aggregate_stats` reports when the summed row is `tot` -/
def aggOf (tot : Row) : Agg :=
  { n := tot.n
    mean := tot.genes.map (fun s => meanOf tot.n s.sum)
    var := tot.genes.map (fun s => varOf tot.n s.sum s.sumsq)
    gt0 := tot.genes.map (·.gt0)
    gt1 := tot.genes.map (·.gt1)
    ge1 := tot.genes.map (·.ge1) }

theorem aggOf_getElem? (tot : Row) (j : Nat) (s : GStat) (h : tot.genes[j]? = some s) :
    (aggOf tot).mean[j]? = some (meanOf tot.n s.sum) ∧
    (aggOf tot).var[j]? = some (varOf tot.n s.sum s.sumsq) ∧
    (aggOf tot).gt0[j]? = some s.gt0 ∧ (aggOf tot).gt1[j]? = some s.gt1 ∧
    (aggOf tot).ge1[j]? = some s.ge1 := by
  simp [aggOf, h]

theorem aggregateStats_eq (g : Nat) (data : Buffer) (c2r : List (Nat × Nat)) (leaves : List Nat)
    (hlook : ∀ l ∈ leaves, ∃ i, c2r.lookup l = some i ∧ i < data.length) :
    aggregateStats g data c2r leaves
      = .ok (aggOf ((Row.zero g).add (rowSum (addressedRows data c2r leaves)))) := by
  rw [aggregateStats, (mapMExcept_readRow_eq_addressedRows data c2r leaves hlook).1]
  simp only [foldl_Row_add]
  rfl

theorem aggregateStats_directBuf (nC g : Nat) (ntr : List (Nat × Nat)) (cells : List CellRec)
    (c2r : List (Nat × Nat)) (leaves : List Nat)
    (hlook : ∀ l ∈ leaves, ∃ i, c2r.lookup l = some i ∧ i < nC) :
    aggregateStats g (directBuf nC g ntr cells) c2r leaves
      = .ok (aggOf ((Row.zero g).add (rowSum ((leaves.flatMap (fun l =>
          cellsOfRow ntr ((c2r.lookup l).getD 0) cells)).map (fun cell => cellStat cell.vals))))) := by
  have hrows : addressedRows (directBuf nC g ntr cells) c2r leaves
      = leaves.map (fun l => (Row.zero g).add (S ntr ((c2r.lookup l).getD 0) cells)) := by
    apply ListAux.filterMap_eq_map_of_forall
    intro l hl
    obtain ⟨i, h1, h2⟩ := hlook l hl
    rw [h1, Option.bind_some, directBuf_getElem? g ntr cells h2, Option.getD_some]
  rw [aggregateStats_eq g _ c2r leaves (by simpa using hlook), hrows, zero_add_rowSum_map_zero_add,
    List.map_flatMap, List.flatMap_def, rowSum_flatten, List.map_map]
  rfl

/-! ### `merge_precompute_files`

Both choices of the merge compute a `ListAux.FirstMax`: the start file (`mostIdx`, key
`totalCells`) and, row by row, the replacement (`foldl pickRow`, key `n_cells`). -/

theorem mostIdx_spec (bs : List Buffer) : ∀ (pre : List Buffer) (best : Nat) (s : Buffer),
    ListAux.FirstMax totalCells pre best s →
      ∃ s', ListAux.FirstMax totalCells (pre ++ bs)
        (mostIdx bs pre.length best (totalCells s)) s' := by
  induction bs with
  | nil => intro pre best s h; exact ⟨s, by simpa [mostIdx] using h⟩
  | cons b bs ih =>
    intro pre best s h
    rw [mostIdx]
    split
    · rename_i hgt
      simpa using ih (pre ++ [b]) pre.length b (h.snoc_gt b hgt)
    · rename_i hle
      simpa using ih (pre ++ [b]) best s (h.snoc_le b (by omega))

def pickRow (d s : Row) : Row := if s.n > d.n then s else d

theorem foldl_pickRow_spec (L : List Row) : ∀ (pre : List Row) (p : Nat) (d : Row),
    ListAux.FirstMax (·.n) pre p d →
      ∃ p', ListAux.FirstMax (·.n) (pre ++ L) p' (L.foldl pickRow d) := by
  induction L with
  | nil => intro pre p d h; exact ⟨p, by simpa using h⟩
  | cons s L ih =>
    intro pre p d h
    rw [List.foldl_cons, pickRow]
    split
    · rename_i hgt
      simpa using ih (pre ++ [s]) pre.length s (h.snoc_gt s hgt)
    · rename_i hle
      simpa using ih (pre ++ [s]) p d (h.snoc_le s (by omega))

theorem replaceWhereMore_length (dst src : Buffer) :
    (replaceWhereMore dst src).length = min dst.length src.length := by
  simp [replaceWhereMore]

theorem replaceWhereMore_getElem? (dst src : Buffer) (r : Nat) (d s : Row)
    (hd : dst[r]? = some d) (hs : src[r]? = some s) :
    (replaceWhereMore dst src)[r]? = some (pickRow d s) := by
  simp [replaceWhereMore, List.getElem?_zipWith, hd, hs, pickRow]

theorem Buffer.getElem?_of_lt {f : Buffer} {nC r : Nat} (hf : f.length = nC) (hr : r < nC) :
    f[r]? = some (f.getD r Row.empty) :=
  ListAux.getElem?_eq_some_getD (hf ▸ hr) _

theorem foldl_replaceWhereMore_row (nC : Nat) :
    ∀ (others : List Buffer) (start : Buffer), start.length = nC →
      (∀ f ∈ others, f.length = nC) →
      (others.foldl replaceWhereMore start).length = nC ∧
      ∀ r : Nat, r < nC → (others.foldl replaceWhereMore start)[r]?
        = some ((others.map (fun f => f.getD r Row.empty)).foldl pickRow (start.getD r Row.empty)) := by
  intro others
  induction others with
  | nil => intro start hs _; exact ⟨hs, fun r hr => Buffer.getElem?_of_lt hs hr⟩
  | cons o others ih =>
    intro start hs hlen
    have ho : o.length = nC := hlen o List.mem_cons_self
    obtain ⟨h1, h2⟩ := ih (replaceWhereMore start o) (by rw [replaceWhereMore_length]; omega)
      (fun f hf => hlen f (List.mem_cons_of_mem _ hf))
    refine ⟨h1, fun r hr => ?_⟩
    rw [List.foldl_cons, h2 r hr, List.map_cons, List.foldl_cons, List.getD_eq_getElem?_getD,
      replaceWhereMore_getElem? start o r _ _ (Buffer.getElem?_of_lt hs hr)
        (Buffer.getElem?_of_lt ho hr)]
    rfl

/-- the two tie rules: the first file with the largest total starts, and output row `r` is row `r`
of the first file of `start :: others` with the largest `n_cells[r]` -/
theorem mergeMax_tie_rule (nC : Nat) (files : List Buffer) (hne : files ≠ [])
    (hlen : ∀ f ∈ files, f.length = nC) :
    ∃ (k : Nat) (start out : Buffer), ListAux.FirstMax totalCells files k start ∧
      mergeMax files = .ok out ∧ out.length = nC ∧
      ∀ r : Nat, r < nC → ∃ (p : Nat) (fp : Buffer) (row : Row),
        (start :: files.eraseIdx k)[p]? = some fp ∧ fp[r]? = some row ∧ out[r]? = some row ∧
        ∀ (q : Nat) (fq : Buffer) (row' : Row), (start :: files.eraseIdx k)[q]? = some fq →
          fq[r]? = some row' → row'.n ≤ row.n ∧ (q < p → row'.n < row.n) := by
  cases files with
  | nil => exact absurd rfl hne
  | cons f0 rest =>
    obtain ⟨s, hs⟩ := mostIdx_spec rest [f0] 0 f0 (.singleton _ f0)
    simp only [List.length_singleton, List.singleton_append] at hs
    generalize hkdef : mostIdx rest 1 0 (totalCells f0) = k at hs
    generalize hfiles : f0 :: rest = files at *
    have hothers : ((files.zipIdx).filter (fun p => p.2 != k)).map (·.1) = files.eraseIdx k := by
      simpa using ListAux.zipIdx_filter_ne_eraseIdx files 0 k
    have hseq : ∀ f ∈ s :: files.eraseIdx k, f.length = nC := by
      intro f hf
      rcases List.mem_cons.mp hf with rfl | hf
      · exact hlen _ (List.mem_of_getElem? hs.1)
      · exact hlen f (List.mem_of_mem_eraseIdx hf)
    obtain ⟨hl, hrow⟩ := foldl_replaceWhereMore_row nC (files.eraseIdx k) s
      (hseq s List.mem_cons_self) (fun f hf => hseq f (List.mem_cons_of_mem _ hf))
    refine ⟨k, s, (files.eraseIdx k).foldl replaceWhereMore s, hs, ?_, hl, fun r hr => ?_⟩
    · subst hfiles
      simp only [mergeMax, hkdef, hs.1, ← hothers, List.foldl_map]
    · obtain ⟨p, hp1, hp2⟩ := foldl_pickRow_spec
        ((files.eraseIdx k).map (fun f => f.getD r Row.empty)) [s.getD r Row.empty] 0 _
        (.singleton _ _)
      rw [List.singleton_append, ← List.map_cons (f := fun f : Buffer => f.getD r Row.empty)]
        at hp1 hp2
      rw [List.getElem?_map, Option.map_eq_some_iff] at hp1
      obtain ⟨fp, hfp, hfprow⟩ := hp1
      refine ⟨p, fp, _, hfp, ?_, hrow r hr, fun q fq row' hfq hrow' => hp2 q row' ?_⟩
      · rw [Buffer.getElem?_of_lt (hseq fp (List.mem_of_getElem? hfp)) hr, hfprow]
      · rw [Buffer.getElem?_of_lt (hseq fq (List.mem_of_getElem? hfq)) hr] at hrow'
        rw [List.getElem?_map, hfq]
        exact hrow'

end CTM.Stats
