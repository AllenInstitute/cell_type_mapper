/-
  Normal forms of the `CellByGeneMatrix` operations of `CTM.Normalize` (core Lean only): the
  selection of columns by name, and the per-chunk preparation as "checks on the gene lists, then
  one function applied to every row".
-/
import CTM.Model.Normalize
import CTM.Lemmas.NameToIdx

namespace CTM

namespace Normalize

open Markers (Gene nameToIdx)

/-- `[self.gene_to_col[n] for n in selected_genes]`: the columns of the selected names, or
`KeyError` on the first unknown name -/
theorem colsOf_eq (genes sel : List Gene) :
    colsOf genes sel =
      if ∀ g ∈ sel, g ∈ genes then .ok (sel.map (Markers.colOf genes)) else .error .keyError := by
  rw [ListAux.loop_eq_mapM (f := fun g => ListAux.orRaise .keyError (nameToIdx genes g))
    (colsOf genes) rfl fun g gs => by
      rw [colsOf]; cases nameToIdx genes g <;> cases colsOf genes gs <;> rfl]
  exact ListAux.mapM_eq_ite (Markers.orRaise_nameToIdx _ genes) sel

/-- `_downsample_genes`: two checks on the selected names, then the same columns of
every row -/
theorem selectData_eq (m : CBG) (sel : List Gene) :
    m.selectData sel =
      if RawTree.hasDup sel then .error .dupSelected
      else if ∀ g ∈ sel, g ∈ m.genes then
        .ok (m.data.map fun row => takeCols row (sel.map (Markers.colOf m.genes)))
      else .error .keyError := by
  rw [CBG.selectData, colsOf_eq]
  by_cases h : ∀ g ∈ sel, g ∈ m.genes
  · simp only [if_pos h]
  · simp only [if_neg h]

/-- the row the mapper works on: CPM and `f` unless the data is declared log2CPM -/
def normRow (f : Rat → Rat) : Norm → List Rat → List Rat
  | .raw, row => (cpmRow row).map f
  | .log2CPM, row => row

theorem map_normRow_raw (f : Rat → Rat) (data : List (List Rat)) :
    data.map (normRow f .raw) = (convertToCpm data).map fun r => r.map f := by
  rw [convertToCpm, List.map_map]; rfl

theorem map_normRow_log2CPM (f : Rat → Rat) (data : List (List Rat)) :
    data.map (normRow f .log2CPM) = data := List.map_id' _

/-- a chunk is normalised on all its columns before the markers are selected -/
theorem prepareChunk_eq_downsample (f : Rat → Rat) (data : List (List Rat)) (width : Nat) (genes : List Gene)
    (norm : Norm) (allM : List Gene) :
    prepareChunk f data width genes norm allM =
      if genes.length != width then .error .geneCountMismatch
      else if RawTree.hasDup genes then .error .dupGenes
      else CBG.downsampleGenes
        { data := data.map (normRow f norm), genes := genes, norm := .log2CPM } allM := by
  unfold prepareChunk CBG.make
  cases genes.length != width
  · cases RawTree.hasDup genes
    · cases norm
      · rw [map_normRow_raw]; rfl
      · rw [map_normRow_log2CPM]; rfl
    · rfl
  · rfl

theorem prepareChunk_eq (f : Rat → Rat) (data : List (List Rat)) (width : Nat) (genes : List Gene)
    (norm : Norm) (allM : List Gene) :
    prepareChunk f data width genes norm allM =
      if genes.length != width then .error .geneCountMismatch
      else if RawTree.hasDup genes then .error .dupGenes
      else if RawTree.hasDup allM then .error .dupSelected
      else if ∀ g ∈ allM, g ∈ genes then
        .ok { data := data.map fun row => takeCols (normRow f norm row) (allM.map (Markers.colOf genes))
              genes := allM, norm := .log2CPM, genesDownsampled := true }
      else .error .keyError := by
  rw [prepareChunk_eq_downsample]
  refine ite_congr rfl (fun _ => rfl) fun _ => ite_congr rfl (fun _ => rfl) fun _ => ?_
  rw [CBG.downsampleGenes, selectData_eq]
  by_cases hd : RawTree.hasDup allM = true
  · simp only [if_pos hd]
  · by_cases hs : ∀ g ∈ allM, g ∈ genes
    · simp only [if_neg hd, if_pos hs, List.map_map]; rfl
    · simp only [if_neg hd, if_neg hs]

/-- declaring raw counts is supplying the normalised values and declaring them normalised -/
theorem prepareChunk_raw_eq (f : Rat → Rat) (data : List (List Rat)) (width : Nat) (genes allM : List Gene) :
    prepareChunk f data width genes .raw allM =
      prepareChunk f ((convertToCpm data).map fun r => r.map f) width genes .log2CPM allM := by
  rw [prepareChunk_eq_downsample, prepareChunk_eq_downsample, map_normRow_raw, map_normRow_log2CPM]

end Normalize

end CTM
