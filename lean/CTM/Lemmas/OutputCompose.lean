/-
  C15, last sentence — the output model composed with the tree model (`CTM/Model/Tree.lean`) and
  the marker model (`CTM/Model/Markers.lean`):

  * `ofTree`: the embedded taxonomy dict read back (`TaxonomyTree.from_str`), as a `RawTree` of
    the tree model;
  * `RunOutput` / `runOutput`: the extended output of a run with its `marker_genes` block — the
    marker model's `stage … .reported` (= `serialize_markers` on the RUN tree) carried next to the
    blob, i.e. in what `blob_to_hdf5` calls the metadata (everything but `results`, copied
    verbatim); `writeH5` / `readH5` carry it through the HDF5 file.  These four are definitions of
    the model (they stand here because they need all three models); no operation of the driver
    runs them, so they are compared with the Python by reading only;
  * `usedOf_spec`, `serialize_keys`, `serialize_keys_nodup`: what a successful marker stage on a
    given tree consists of (consulted parents, used lists, one reported entry per parent).
-/
import CTM.Lemmas.OutBridge
import CTM.Lemmas.BridgeWF
import CTM.Lemmas.MarkersCache

namespace CTM
namespace OutCompose

open OutBridge Markers

/-! ## the embedded taxonomy, read back -/

/-- `TaxonomyTree.from_str(json.dumps(output["taxonomy_tree"]))` as data of
the tree model: the dict has a `hierarchy`, its node keys are JSON strings, the
ignorable keys (`name_mapper`, `hierarchy_mapper`) are set aside -/
def ofTree (e : Output.Tree) : RawTree :=
  { hasHierarchy := true, hierarchy := e.hierarchy, levels := e.levels, nodesAreStr := true }

theorem ofTree_toTree (t : RawTree) (nm : NameMapper) (hm : HierarchyMapper)
    (h1 : t.hasHierarchy = true) (h2 : t.nodesAreStr = true) :
    ofTree (toTree t nm hm) = t := by
  cases t
  simp_all [ofTree, toTree]

/-! ## the output with its `marker_genes` block -/

/-- the extended output: the part the serialisers look into (`Output.Blob`) and
the `marker_genes` block (metadata) -/
structure RunOutput where
  blob : Output.Blob
  /-- `output["marker_genes"]`: parent key ↦ gene names -/
  markerGenes : List (PKey × List Gene)

/-- `_run_mapping`: `output["marker_genes"] = serialize_markers(cache, taxonomy_tree)`
where both the cache and `taxonomy_tree` belong to the tree of the RUN (after
`drop_level` / `flatten`) — the marker model's `stage`; the records come from the level loop -/
def runOutput (t0 : RawTree) (cfg : LevelLoop.Config) (nm : NameMapper) (hm : HierarchyMapper)
    (nR : Nat) (lk : Lookup) (R Q : List Gene) (m : Nat) (records : List LevelLoop.Record) :
    Except MErr RunOutput :=
  match stage t0 lk R Q m cfg.dropLevel cfg.flatten with
  | .error e => .error e
  | .ok s => .ok { blob := toBlob t0 cfg nm hm nR records, markerGenes := s.reported }

/-- the HDF5 file: the datasets of `Output.H5` plus the rest of the `metadata`
dataset -/
structure H5File where
  h5 : Output.H5
  markerGenes : List (PKey × List Gene)

/-- `blob_to_hdf5`: `metadata[k] = output_blob[k]` for every key but `results` -/
def writeH5 (o : RunOutput) : Except Output.Err H5File :=
  match Output.toH5 o.blob with
  | .error e => .error e
  | .ok h => .ok { h5 := h, markerGenes := o.markerGenes }

/-- `hdf5_to_blob`: `blob = json.loads(src['metadata'])`, then the results -/
def readH5 (f : H5File) : Except Output.Err RunOutput :=
  match Output.ofH5 f.h5 with
  | .error e => .error e
  | .ok b => .ok { blob := b, markerGenes := f.markerGenes }

/-! ## the marker stage of a run, taken apart -/

theorem usedOf_spec (c : Cache) (ps : List PKey) (out : List (PKey × List Gene))
    (h : usedOf c ps = .ok out) : out.map (·.1) = ps ∧ ∀ e ∈ out, assemble c e.1 = .ok e.2 :=
  (ListAux.mapM_keyed_ok_iff _ ps out).1 (usedOf_eq_mapM c ps ▸ h)

theorem serialize_keys (t : RawTree) (c : Cache) (out : List (PKey × List Gene))
    (h : serialize t c = .ok out) :
    out.map (·.1) =
      (t.hierarchy.dropLast.flatMap (fun l => (t.nodesAt l).map (fun n => some (l, n)))) ++ [none] := by
  rw [((serialize_ok_iff t c out).1 h).1, serializeKeys, List.map_flatMap]
  simp only [List.map_map, Function.comp_def]

theorem serialize_keys_nodup (t : RawTree) (hT : TreeWF t) (c : Cache)
    (out : List (PKey × List Gene)) (h : serialize t c = .ok out) :
    (out.map (·.1)).Nodup := by
  rw [serialize_keys t c out h]
  have hp := (treeOK_of_wf t hT).parentsNodup
  unfold RawTree.allParents at hp
  rw [List.nodup_cons] at hp
  rw [List.nodup_append]
  refine ⟨hp.2, by simp, ?_⟩
  intro a ha b hb
  simp only [List.mem_cons, List.not_mem_nil, or_false] at hb
  subst hb
  intro hab
  subst hab
  exact hp.1 ha

end OutCompose
end CTM
