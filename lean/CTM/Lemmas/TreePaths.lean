import CTM.Lemmas.TreeRecords
import CTM.Lemmas.TreeValidate

/-!
  The tree built by `get_taxonomy_tree` from per-cell label columns: its root-to-leaf paths are exactly the
  label tuples of the records, and with nested columns and at least one record it is well-formed.
-/

namespace CTM.RawTree

/-- a root-to-leaf path: one node per level, each a listed child of the previous one -/
def IsPath (t : RawTree) (ns : List Node) : Prop :=
  ns.length = t.hierarchy.length ∧
  (∀ j (hj : j < ns.length) (hj' : j < t.hierarchy.length), ns[j] ∈ t.nodesAt t.hierarchy[j]) ∧
  (∀ j (hj : j + 1 < ns.length) (hj' : j + 1 < t.hierarchy.length),
      ns[j+1] ∈ t.entry (t.hierarchy[j]'(by omega)) (ns[j]'(by omega)))

theorem fromRecordsRaw_record_isPath {cols recs} (hc : cols.Nodup) (hr : RecsOK cols recs)
    {r : List Node} (hmem : r ∈ recs) : IsPath (fromRecordsRaw cols recs) r := by
  refine ⟨hr r hmem, ?_, ?_⟩
  · intro j hj hj'
    exact (fromRecordsRaw_nodes hc hr j hj' _).2 ⟨r, hmem, List.getElem?_eq_getElem hj⟩
  · intro j hj hj'
    have h := (fromRecordsRaw_children hc hr j hj' (r[j]'(by omega)) r[j+1]).2
      ⟨r, hmem, List.getElem?_eq_getElem (by omega), List.getElem?_eq_getElem hj⟩
    exact ((isChild_iff (fromRecordsRaw_dictOK hc recs)).1 h).2

theorem fromRecordsRaw_paths {cols recs} (hc : cols.Nodup) (hne : cols ≠ []) (hr : RecsOK cols recs)
    (hn : Nested cols recs) (ns : List Node) :
    IsPath (fromRecordsRaw cols recs) ns ↔ ns ∈ recs := by
  refine ⟨?_, fromRecordsRaw_record_isPath hc hr⟩
  rintro ⟨hlen, hnodes, hedges⟩
  have hlen' : ns.length = cols.length := hlen
  obtain ⟨k, hk⟩ : ∃ k, cols.length = k + 1 :=
    ⟨cols.length - 1, (Nat.succ_pred_eq_of_pos (List.length_pos_iff.2 hne)).symm⟩
  have hkc : k < cols.length := hk ▸ Nat.lt_succ_self k
  have hkn : k < ns.length := hlen' ▸ hkc
  -- a record carrying the leaf of the path
  obtain ⟨r, hrm, hrk⟩ := (fromRecordsRaw_nodes hc hr k hkc _).1 (hnodes k hkn hkc)
  -- upwards from the leaf: nested columns force that record to agree with the path
  have key : ∀ d j, j + d = k → r[j]? = ns[j]? := by
    intro d
    induction d with
    | zero =>
      intro j hj
      obtain rfl : j = k := hj
      rw [hrk, List.getElem?_eq_getElem hkn]
    | succ d ih =>
      intro j hj
      have hj1 : j + 1 < cols.length := by omega
      have hj1n : j + 1 < ns.length := hlen' ▸ hj1
      -- the edge of the path below column `j` is witnessed by a record
      obtain ⟨r', hr', e1, e2⟩ := (fromRecordsRaw_children hc hr j hj1 _ _).1
        ((isChild_iff (fromRecordsRaw_dictOK hc recs)).2
          ⟨hnodes j (Nat.lt_of_succ_lt hj1n) (Nat.lt_of_succ_lt hj1), hedges j hj1n hj1⟩)
      have hnext : r[j+1]? = r'[j+1]? := by
        rw [ih (j+1) (by omega), e2, List.getElem?_eq_getElem hj1n]
      rw [hn j hj1 r hrm r' hr' hnext, e1, List.getElem?_eq_getElem]
  have heq : r = ns := by
    apply List.ext_getElem?
    intro i
    by_cases hi : i ≤ k
    · exact key (k - i) i (Nat.add_sub_cancel' hi)
    · have hrl := hr r hrm
      rw [List.getElem?_eq_none (by omega), List.getElem?_eq_none (by omega)]
  exact heq ▸ hrm

/-! ### the built tree is well-formed -/

theorem fromRecordsRaw_hasNode {cols : List Level} {recs : List (List Node)} (hc : cols.Nodup)
    (hne : cols ≠ []) (hr : RecsOK cols recs) (hrec : recs ≠ []) :
    ∀ l0, (fromRecordsRaw cols recs).hierarchy.head? = some l0 →
      (fromRecordsRaw cols recs).nodesAt l0 ≠ [] := by
  intro l0 h0
  have hpos : 0 < cols.length := List.length_pos_iff.2 hne
  have e : l0 = cols[0] := by
    rw [fromRecordsRaw_hierarchy, List.head?_eq_getElem?, List.getElem?_eq_getElem hpos] at h0
    exact (Option.some.inj h0).symm
  subst e
  obtain ⟨r0, rs0, rfl⟩ := List.exists_cons_of_ne_nil hrec
  have hlen : r0.length = cols.length := hr r0 List.mem_cons_self
  have : r0[0]'(by omega) ∈ (fromRecordsRaw cols (r0 :: rs0)).nodesAt cols[0] :=
    (fromRecordsRaw_nodes hc hr 0 hpos _).2
      ⟨r0, List.mem_cons_self, List.getElem?_eq_getElem (by omega)⟩
  exact List.ne_nil_of_mem this

theorem fromRecordsRaw_nil_noNode {cols : List Level} (hc : cols.Nodup) (hne : cols ≠ []) :
    (fromRecordsRaw cols []).nodesAt (cols[0]'(List.length_pos_iff.2 hne)) = [] := by
  have hpos : 0 < cols.length := List.length_pos_iff.2 hne
  rw [List.eq_nil_iff_forall_not_mem]
  intro p hp
  obtain ⟨r, hr', _⟩ := (fromRecordsRaw_nodes hc (fun r hr => by cases hr) 0 hpos p).1 hp
  cases hr'

theorem fromRecordsRaw_wf {cols : List Level} {recs : List (List Node)} (hc : cols.Nodup)
    (hne : cols ≠ []) (hr : RecsOK cols recs) (hn : Nested cols recs) (hrec : recs ≠ []) :
    WF (fromRecordsRaw cols recs) where
  valid := validate_of_strict hc hne (fromRecordsRaw_hasNode hc hne hr hrec)
    ((fromRecordsRaw_strict_iff hc hr).2 hn)
  hNodup := hc
  hNe := hne
  dict := fromRecordsRaw_dictOK hc recs

end CTM.RawTree
