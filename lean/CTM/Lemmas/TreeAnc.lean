import CTM.Lemmas.TreeLeaves

/-!
  `parents` (the chain of `childToParent` up the hierarchy; with enough fuel the fuel does not matter) and
  `ancestorAt` (a lookup in it); a leaf lies in `asLeaves` of a node iff the node is its ancestor at the
  node's level.  Two lemmas move `ancestorAt` by one level: `ancestorAt_of_childToParent` at the node's end,
  `ancestorAt_eq_bind_childToParent` at the target's end.
-/

namespace CTM.RawTree
variable {t : RawTree}

/-! ### `parents` -/

theorem parentsAux_top (hn : t.hierarchy.Nodup) (h0 : 0 < t.hierarchy.length)
    (fuel : Nat) (n : Node) : t.parentsAux fuel t.hierarchy[0] n = [] := by
  cases fuel with
  | zero => rfl
  | succ f => simp [parentsAux, parentLevel_zero hn h0]

theorem parentsAux_succ (hn : t.hierarchy.Nodup) {i : Nat} (hi : i + 1 < t.hierarchy.length)
    (fuel : Nat) {c p : Node} (hp : t.childToParent t.hierarchy[i+1] c = some p) :
    t.parentsAux (fuel+1) t.hierarchy[i+1] c =
      (t.hierarchy[i]'(by omega), p) :: t.parentsAux fuel (t.hierarchy[i]'(by omega)) p := by
  simp [parentsAux, parentLevel_succ hn hi, hp]

theorem lookup_parents_succ (hn : t.hierarchy.Nodup) {i : Nat} (hi : i + 1 < t.hierarchy.length)
    (c : Node) :
    (t.parents t.hierarchy[i+1] c).lookup (t.hierarchy[i]'(Nat.lt_of_succ_lt hi)) =
      t.childToParent t.hierarchy[i+1] c := by
  have key : ∀ fuel, fuel ≠ 0 →
      (t.parentsAux fuel t.hierarchy[i+1] c).lookup (t.hierarchy[i]'(Nat.lt_of_succ_lt hi)) =
        t.childToParent t.hierarchy[i+1] c := by
    intro fuel h0
    obtain ⟨f, rfl⟩ := Nat.exists_eq_succ_of_ne_zero h0
    rw [parentsAux, parentLevel_succ hn hi]
    cases t.childToParent t.hierarchy[i+1] c <;> simp [List.lookup]
  exact key _ (Nat.ne_of_gt (Nat.zero_lt_of_lt hi))

/-- enough fuel: the answer does not depend on it -/
theorem parentsAux_fuel (s : Strict t) (hn : t.hierarchy.Nodup) :
    ∀ (i : Nat) (hi : i < t.hierarchy.length) (fuel : Nat), i ≤ fuel →
      ∀ n, n ∈ t.nodesAt t.hierarchy[i] →
      t.parentsAux fuel t.hierarchy[i] n = t.parentsAux i t.hierarchy[i] n
  | 0, hi, fuel, _, n, _ => by
    rw [parentsAux_top hn hi, parentsAux_top hn hi]
  | i+1, hi, fuel, hf, n, hmem => by
    obtain ⟨p, hp, hpm⟩ := exists_childToParent s hn hi hmem
    obtain ⟨f, rfl⟩ : ∃ f, fuel = f + 1 := ⟨fuel - 1, by omega⟩
    rw [parentsAux_succ hn hi f hp, parentsAux_succ hn hi i hp]
    rw [parentsAux_fuel s hn i (by omega) f (by omega) p hpm]

theorem parents_succ (s : Strict t) (hn : t.hierarchy.Nodup) {i : Nat}
    (hi : i + 1 < t.hierarchy.length) {c p : Node}
    (hp : t.childToParent t.hierarchy[i+1] c = some p) :
    t.parents t.hierarchy[i+1] c =
      (t.hierarchy[i]'(by omega), p) :: t.parents (t.hierarchy[i]'(by omega)) p := by
  have hpm : p ∈ t.nodesAt (t.hierarchy[i]'(by omega)) := by
    obtain ⟨cs, hm, _⟩ := (childToParent_eq_some_iff s hn hi c p).1 hp
    exact mem_nodesAt.2 ⟨cs, hm⟩
  have key : ∀ F, i + 1 ≤ F → t.parentsAux F t.hierarchy[i+1] c =
      (t.hierarchy[i]'(by omega), p) :: t.parentsAux F (t.hierarchy[i]'(by omega)) p := by
    intro F hF
    obtain ⟨f, rfl⟩ : ∃ f, F = f + 1 := ⟨F - 1, by omega⟩
    rw [parentsAux_succ hn hi f hp]
    rw [parentsAux_fuel s hn i (by omega) f (by omega) p hpm,
      parentsAux_fuel s hn i (by omega) (f+1) (by omega) p hpm]
  exact key _ (by omega)

theorem parents_top (hn : t.hierarchy.Nodup) (h0 : 0 < t.hierarchy.length) (n : Node) :
    t.parents t.hierarchy[0] n = [] :=
  parentsAux_top hn h0 _ n

theorem parents_levels (s : Strict t) (hn : t.hierarchy.Nodup) :
    ∀ (i : Nat) (hi : i < t.hierarchy.length) (n : Node), n ∈ t.nodesAt t.hierarchy[i] →
      (t.parents t.hierarchy[i] n).map (·.1) = (t.hierarchy.take i).reverse
  | 0, hi, n, _ => by simp [parents_top hn hi]
  | i+1, hi, n, hmem => by
    obtain ⟨p, hp, hpm⟩ := exists_childToParent s hn hi hmem
    rw [parents_succ s hn hi hp, List.map_cons, parents_levels s hn i (by omega) p hpm]
    rw [List.take_succ_eq_append_getElem (by omega), List.reverse_append]
    rfl

/-! `parents` and `ancestorAt` read the tree only through the hierarchy and the child→parent table. -/

theorem parentsAux_congr {t₁ t₂ : RawTree} (hh : t₁.hierarchy = t₂.hierarchy)
    (hc : ∀ l n, t₁.childToParent l n = t₂.childToParent l n) :
    ∀ (fuel : Nat) (l : Level) (n : Node), t₁.parentsAux fuel l n = t₂.parentsAux fuel l n
  | 0, _, _ => rfl
  | fuel+1, l, n => by
    have hp : t₁.parentLevel l = t₂.parentLevel l := by
      unfold parentLevel levelIdx; rw [hh]
    simp only [parentsAux]
    rw [hp, hc]
    cases t₂.parentLevel l with
    | none => rfl
    | some pl =>
      cases t₂.childToParent l n with
      | none => rfl
      | some p => simp only [parentsAux_congr hh hc fuel pl p]

theorem parents_congr {t₁ t₂ : RawTree} (hh : t₁.hierarchy = t₂.hierarchy)
    (hc : ∀ l n, t₁.childToParent l n = t₂.childToParent l n) (l : Level) (n : Node) :
    t₁.parents l n = t₂.parents l n := by
  unfold parents
  rw [parentsAux_congr hh hc, hh]

theorem ancestorAt_congr {t₁ t₂ : RawTree} (hh : t₁.hierarchy = t₂.hierarchy)
    (hc : ∀ l n, t₁.childToParent l n = t₂.childToParent l n) (l : Level) (n : Node) (al : Level) :
    t₁.ancestorAt l n al = t₂.ancestorAt l n al := by
  unfold ancestorAt
  rw [parents_congr hh hc]

/-! ### `ancestorAt` -/

theorem ancestorAt_self (l : Level) (n : Node) : t.ancestorAt l n l = some n := by
  simp [ancestorAt]

/-- one level up at the node: the ancestor of a node is the ancestor of its parent -/
theorem ancestorAt_of_childToParent (s : Strict t) (hn : t.hierarchy.Nodup) {i j : Nat} (hij : i ≤ j)
    (hj : j + 1 < t.hierarchy.length) {c p : Node}
    (hp : t.childToParent t.hierarchy[j+1] c = some p) :
    t.ancestorAt t.hierarchy[j+1] c (t.hierarchy[i]'(by omega)) =
      t.ancestorAt (t.hierarchy[j]'(by omega)) p (t.hierarchy[i]'(by omega)) := by
  have hne1 : (t.hierarchy[i]'(by omega) == t.hierarchy[j+1]) = false :=
    hierarchy_beq_false hn (by omega) hj (by omega)
  unfold ancestorAt
  rw [parents_succ s hn hj hp, List.lookup_cons]
  rcases Nat.eq_or_lt_of_le hij with rfl | hlt
  · simp [hne1]
  · have hne2 : (t.hierarchy[i]'(by omega) == t.hierarchy[j]'(by omega)) = false :=
      hierarchy_beq_false hn (by omega) (by omega) (by omega)
    simp [hne1, hne2]

theorem ancestorAt_parent (s : Strict t) (hn : t.hierarchy.Nodup) {j : Nat}
    (hj : j + 1 < t.hierarchy.length) {c : Node} (hc : c ∈ t.nodesAt t.hierarchy[j+1]) :
    t.ancestorAt t.hierarchy[j+1] c (t.hierarchy[j]'(by omega)) =
      t.childToParent t.hierarchy[j+1] c := by
  obtain ⟨p, hp, _⟩ := exists_childToParent s hn hj hc
  rw [ancestorAt_of_childToParent s hn (Nat.le_refl j) hj hp, ancestorAt_self, hp]

theorem exists_ancestorAt (s : Strict t) (hn : t.hierarchy.Nodup) {i j : Nat} (hij : i ≤ j)
    (hj : j < t.hierarchy.length) {n : Node} (hmem : n ∈ t.nodesAt t.hierarchy[j]) :
    ∃ a, t.ancestorAt t.hierarchy[j] n (t.hierarchy[i]'(by omega)) = some a ∧
      a ∈ t.nodesAt (t.hierarchy[i]'(by omega)) := by
  induction j generalizing n with
  | zero =>
    have : i = 0 := by omega
    subst this
    exact ⟨n, ancestorAt_self _ _, hmem⟩
  | succ j ih =>
    rcases Nat.eq_or_lt_of_le hij with rfl | hlt
    · exact ⟨n, ancestorAt_self _ _, hmem⟩
    · obtain ⟨p, hp, hpm⟩ := exists_childToParent s hn hj hmem
      rw [ancestorAt_of_childToParent s hn (by omega) hj hp]
      exact ih (by omega) (by omega) hpm

/-- one level up at the target: the ancestor at level `i` is the parent of the ancestor at level `i+1` -/
theorem ancestorAt_eq_bind_childToParent (s : Strict t) (hn : t.hierarchy.Nodup) {i j : Nat} (hij : i + 1 ≤ j)
    (hj : j < t.hierarchy.length) {n : Node} (hmem : n ∈ t.nodesAt t.hierarchy[j]) :
    t.ancestorAt t.hierarchy[j] n (t.hierarchy[i]'(by omega)) =
      (t.ancestorAt t.hierarchy[j] n (t.hierarchy[i+1]'(by omega))).bind
        (t.childToParent (t.hierarchy[i+1]'(by omega))) := by
  induction j generalizing n with
  | zero => omega
  | succ j ih =>
    rcases Nat.eq_or_lt_of_le hij with heq | hlt
    · obtain rfl : i = j := by omega
      rw [ancestorAt_self, ancestorAt_parent s hn hj hmem]
      rfl
    · obtain ⟨p, hp, hpm⟩ := exists_childToParent s hn hj hmem
      rw [ancestorAt_of_childToParent s hn (by omega) hj hp, ancestorAt_of_childToParent s hn (by omega) hj hp]
      exact ih (by omega) (by omega) hpm

theorem mem_leavesSpec_iff_ancestorAt (s : Strict t) (d : DictOK t) (hn : t.hierarchy.Nodup)
    {i : Nat} (hi : i < t.hierarchy.length) {a : Node} (ha : a ∈ t.nodesAt t.hierarchy[i])
    {n : Node} (hnl : n ∈ t.nodesAt (t.hierarchy[t.hierarchy.length - 1]'(by omega))) :
    n ∈ leavesSpec t (t.hierarchy.drop (i+1)) t.hierarchy[i] a ↔
      t.ancestorAt (t.hierarchy[t.hierarchy.length - 1]'(by omega)) n t.hierarchy[i] = some a := by
  obtain ⟨k, hk⟩ := Nat.exists_eq_add_of_lt hi
  induction k generalizing i a with
  | zero =>
    have e : t.hierarchy.length - 1 = i := by omega
    simp only [e, leavesSpec_at_leaf (Nat.le_of_eq hk), List.mem_singleton, ancestorAt_self,
      Option.some.injEq]
  | succ k ih =>
    have hi1 : i + 1 < t.hierarchy.length := by omega
    -- `n` is under `a` iff its ancestor one level down is a child of `a`
    rw [ancestorAt_eq_bind_childToParent s hn (i := i) (by omega) (by omega) hnl]
    simp only [Option.bind_eq_some_iff, leavesSpec_above_leaf hi1, List.mem_flatMap,
      childToParent_eq_some_iff s hn hi1, isChild_iff d]
    constructor
    · rintro ⟨c, hc, hnc⟩
      exact ⟨c, (ih hi1 (s.entry_sub hi1 ha hc) hnl (by omega)).1 hnc, ha, hc⟩
    · rintro ⟨c, hc, _, hca⟩
      exact ⟨c, hca, (ih hi1 (s.entry_sub hi1 ha hca) hnl (by omega)).2 hc⟩

theorem mem_asLeaves_iff_ancestorAt (s : Strict t) (d : DictOK t) (hn : t.hierarchy.Nodup) {i : Nat}
    (hi : i < t.hierarchy.length) {a : Node} (ha : a ∈ t.nodesAt t.hierarchy[i]) {n : Node}
    (hnl : n ∈ t.nodesAt (t.hierarchy[t.hierarchy.length - 1]'(by omega))) :
    n ∈ t.asLeaves t.hierarchy[i] a ↔
      t.ancestorAt (t.hierarchy[t.hierarchy.length - 1]'(by omega)) n t.hierarchy[i] = some a :=
  (asLeaves_perm_spec_getElem hn hi a).mem_iff.trans (mem_leavesSpec_iff_ancestorAt s d hn hi ha hnl)

end CTM.RawTree
