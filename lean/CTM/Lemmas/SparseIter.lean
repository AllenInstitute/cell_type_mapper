/-
  The row iterator as a state machine (`iterStep`, `iterRun` of `CTM/Model/Sparse.lean`).
  `ReaderExact rd D` is the interface: the theorems about steps and runs ask only that of a reader,
  and the CSR, dense and CSC readers are instances (`csrReader_exact`, `denseReader_exact`,
  `cscReader_exact`); another encoding needs only its instance.  Random access answers from the
  stored rows and leaves the cursor (`iterStep_random_access`); the `next()` blocks of any run are
  a prefix of the matrix (`iterRun_prefix`).
-/
import CTM.Lemmas.SparseFlat
namespace CTM.Sparse
open CTM.Chunking

/-- a reader that returns the stored rows of `D` on every legal request -/
structure ReaderExact {α} (rd : Reader α) (D : Dense α) : Prop where
  rows : rd.nRows = D.length
  chunk : ∀ r0 r1, r0 ≤ r1 → r1 ≤ D.length → rd.getChunk r0 r1 = .ok (slice D r0 r1)
  batch : ∀ rows, rows ≠ [] → rows.Nodup → (∀ r ∈ rows, r < D.length) →
    rd.getBatch rows = .ok (rows.map (D.getD · []))

/-! ### the three readers -/

theorem csrReader_exact {α} (zero : α) (M : Mat α) (nRows nCols : Nat)
    (w : WFptr M.indptr nRows M.indices.length) (hlen : M.data.length = M.indices.length)
    (hr : ∀ x ∈ M.indices, x < nCols) :
    ReaderExact (csrReader zero M nRows nCols) (toDense zero M nRows nCols) := by
  constructor
  · simp [csrReader, toDense_length]
  · intro r0 r1 h01 h1
    rw [toDense_length] at h1
    exact loadCsr_ok zero M nRows nCols w hr r0 r1 h01 h1
  · intro rows hne hn hrows
    simp only [toDense_length] at hrows
    exact csrGetBatch_ok zero M nRows nCols w hlen hr rows hne hn hrows

theorem denseReader_exact {α} (zero : α) (D : Dense α) (nCols : Nat) :
    ReaderExact (denseReader zero D nCols) D :=
  ⟨rfl, fun _ _ _ _ => rfl, fun rows hne hn hr => denseGetBatch_ok zero D nCols rows hne hn hr⟩

theorem cscReader_exact {α} (zero : α) (M : Mat α) (nRows nCols : Nat) (B : Budget)
    (hlo : 1 ≤ B.lo) (hc : 1 ≤ B.loCount)
    (w : WFptr M.indptr nCols M.indices.length) (hlen : M.data.length = M.indices.length)
    (hr : ∀ x ∈ M.indices, x < nRows) :
    ∃ rd, cscReader zero M nRows nCols B = .ok rd ∧
      ReaderExact rd (transposeDense zero (toDense zero M nCols nRows) nRows) := by
  obtain ⟨csr, e, w2, hl2, hr2, hd⟩ := transposeOnDisk_spec zero M nCols nRows B hlo hc w hlen hr
  unfold cscReader
  rw [e]
  refine ⟨_, rfl, ?_⟩
  rw [← hd]
  exact csrReader_exact zero csr nRows nCols w2 hl2 hr2

theorem cscIter_ok {α} (zero : α) (M : Mat α) (nRows nCols cs : Nat) (B : Budget)
    (hcs : 1 ≤ cs) (hlo : 1 ≤ B.lo) (hc : 1 ≤ B.loCount)
    (w : WFptr M.indptr nCols M.indices.length) (hlen : M.data.length = M.indices.length)
    (hr : ∀ x ∈ M.indices, x < nRows) :
    cscIter zero M nRows nCols cs B
      = .ok ((chunks nRows cs).map fun p =>
          (slice (transposeDense zero (toDense zero M nCols nRows) nRows) p.1 p.2, p.1, p.2)) := by
  obtain ⟨csr, e, w2, _, hr2, hd⟩ := transposeOnDisk_spec zero M nCols nRows B hlo hc w hlen hr
  unfold cscIter
  rw [e]
  show csrIter zero csr nRows nCols cs = _
  rw [csrIter_ok zero csr nRows nCols cs hcs w2 hr2, hd]

/-! ### one operation -/

theorem iterStep_cursor {α} (rd : Reader α) (cs cur : Nat) (op : IterOp) (h : op ≠ .next) :
    (iterStep rd cs cur op).1 = cur := by
  cases op with
  | next => exact absurd rfl h
  | getChunk r0 r1 => rfl
  | getItem i => rfl
  | getItemList xs =>
    simp only [iterStep]
    cases xs.head? <;> cases xs.getLast? <;> rfl
  | getBatch rows => rfl

theorem iterStep_next {α} (rd : Reader α) (D : Dense α) (ex : ReaderExact rd D) (cs cur : Nat) :
    iterStep rd cs cur .next
      = if cur ≥ D.length then (cur, .stop)
        else (min D.length (cur + cs),
          .block (slice D cur (min D.length (cur + cs))) cur (min D.length (cur + cs))) := by
  rw [iterStep, ex.rows]
  split
  · rfl
  · dsimp only
    rw [ex.chunk cur (min D.length (cur + cs)) (by omega) (by omega)]

theorem iterStep_random_access {α} (rd : Reader α) (D : Dense α) (ex : ReaderExact rd D)
    (cs cur : Nat) :
    (∀ r0 r1, r0 ≤ r1 → r1 ≤ D.length →
      iterStep rd cs cur (.getChunk r0 r1) = (cur, .block (slice D r0 r1) r0 r1)) ∧
    (∀ i, i < D.length →
      iterStep rd cs cur (.getItem i) = (cur, .block (slice D i (i + 1)) i (i + 1))) ∧
    (∀ xs a b, xs.head? = some a → xs.getLast? = some b → a ≤ b + 1 → b < D.length →
      iterStep rd cs cur (.getItemList xs) = (cur, .block (slice D a (b + 1)) a (b + 1))) ∧
    (∀ rows, rows ≠ [] → rows.Nodup → (∀ r ∈ rows, r < D.length) →
      iterStep rd cs cur (.getBatch rows) = (cur, .batch (rows.map (D.getD · [])))) := by
  refine ⟨?_, ?_, ?_, ?_⟩
  · intro r0 r1 h1 h2
    simp [iterStep, chunkOut, ex.chunk r0 r1 h1 h2]
  · intro i hi
    simp [iterStep, chunkOut, ex.chunk i (i + 1) (by omega) (by omega)]
  · intro xs a b ha hb h1 h2
    simp [iterStep, chunkOut, ha, hb, ex.chunk a (b + 1) h1 (by omega)]
  · intro rows h1 h2 h3
    simp [iterStep, ex.batch rows h1 h2 h3]

/-! ### runs -/

theorem iterRun_append {α} (rd : Reader α) (cs : Nat) : ∀ (pre post : List IterOp) (cur : Nat),
    iterRun rd cs cur (pre ++ post)
      = ((iterRun rd cs (iterRun rd cs cur pre).1 post).1,
         (iterRun rd cs cur pre).2 ++ (iterRun rd cs (iterRun rd cs cur pre).1 post).2) := by
  intro pre
  induction pre with
  | nil => intro post cur; rfl
  | cons op ops ih =>
    intro post cur
    simp only [List.cons_append, iterRun, ih, List.cons_append]

theorem iterRun_length {α} (rd : Reader α) (cs : Nat) : ∀ (ops : List IterOp) (cur : Nat),
    (iterRun rd cs cur ops).2.length = ops.length := by
  intro ops
  induction ops with
  | nil => intro cur; rfl
  | cons op ops ih => intro cur; simp [iterRun, ih]

theorem nextRows_cons_of_ne {α} {op : IterOp} (h : op ≠ .next) (ops : List IterOp) (o : IterOut α)
    (outs : List (IterOut α)) : nextRows (op :: ops) (o :: outs) = nextRows ops outs := by
  cases op with
  | next => exact absurd rfl h
  | _ => rfl

theorem iterRun_prefix {α} (rd : Reader α) (D : Dense α) (ex : ReaderExact rd D) (cs : Nat) :
    ∀ (ops : List IterOp) (cur : Nat), cur ≤ D.length →
      cur ≤ (iterRun rd cs cur ops).1 ∧ (iterRun rd cs cur ops).1 ≤ D.length ∧
      nextRows ops (iterRun rd cs cur ops).2 = slice D cur (iterRun rd cs cur ops).1 := by
  intro ops
  induction ops with
  | nil => intro cur h; exact ⟨Nat.le_refl _, h, (slice_self D cur).symm⟩
  | cons op ops ih =>
    intro cur hcur
    rw [iterRun]
    by_cases hop : op = .next
    · subst hop
      rw [iterStep_next rd D ex]
      split
      · exact ih cur hcur
      · obtain ⟨i1, i2, i3⟩ := ih (min D.length (cur + cs)) (by omega)
        dsimp only
        refine ⟨by omega, i2, ?_⟩
        rw [nextRows, i3]
        exact slice_append D (by omega) i1
    · rw [iterStep_cursor rd cs cur op hop, nextRows_cons_of_ne hop]
      exact ih cur hcur

end CTM.Sparse
