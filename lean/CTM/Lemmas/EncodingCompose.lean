/-
  Between the row-access model (`CTM/Model/Sparse.lean`, `CTM/Model/Chunking.lean`) and the models
  of its consumers:

  * the reference statistics (`CTM/Model/Stats.lean`: `precompute` slices every file into
    `fileChunks` with its own `chunkRanges` / `slice`),
  * the per-chunk preparation (`CTM/Model/Normalize.lean`: `prepareChunk`),
  * the mapping pipeline (`CTM/Model/LevelLoop.lean`: `mapPipeline` slices the list of cell
    vectors with its own `chunks` / `effChunk` / `slice`).

  Each consumer's model is self-contained and so has its own copy of the chunk loop; the copies
  are the same function (`levelLoop_chunks_eq` here, `Stats.chunkRanges_eq_chunks` in
  `Lemmas/Stats.lean`).  The per-chunk preparation is row-wise, so preparing the blocks of an
  iteration and concatenating is preparing the whole matrix (`mapperCells_eq`).  Two definitions
  stand here and in no model file: `mapperCells`, for the loop of
  `run_type_assignment_on_h5ad_cpu` that prepares block after block, and `cscGetChunk`.
-/
import CTM.Lemmas.SparseFlat
import CTM.Model.Stats
import CTM.Lemmas.NormalizeForm
import CTM.Model.LevelLoop

namespace CTM.EncodingCompose
open CTM.Sparse

theorem levelLoop_chunks_eq (n cs : Nat) : LevelLoop.chunks n cs = Chunking.chunks n cs := by
  unfold LevelLoop.chunks Chunking.chunks
  have : ∀ fuel r0, LevelLoop.chunksFrom n cs fuel r0 = Chunking.chunksAux n cs fuel r0 := by
    intro fuel
    induction fuel with
    | zero => intro r0; rfl
    | succ f ih =>
      intro r0
      unfold LevelLoop.chunksFrom Chunking.chunksAux
      by_cases h : r0 < n
      · have h' : ¬ r0 ≥ n := by omega
        simp only [h, h', if_true, if_false, ih]
      · have h' : r0 ≥ n := by omega
        simp only [h, h', if_true, if_false]
  exact this n 0

theorem levelLoop_effChunk_eq (n nProc cs : Nat) :
    LevelLoop.effChunk n nProc cs = Chunking.effChunk n nProc cs := rfl

theorem levelLoop_slice_eq {β} (xs : List β) (r0 r1 : Nat) :
    LevelLoop.slice xs r0 r1 = Chunking.slice xs r0 r1 := by
  unfold LevelLoop.slice Chunking.slice
  rw [List.drop_take]

theorem stats_slice_eq (cells : List Stats.CellRec) (r0 r1 : Nat) :
    Stats.slice cells r0 r1 = Chunking.slice cells r0 r1 := rfl

/-- the cell records `Stats.precompute` takes for a file: obs names paired with
the normalised rows -/
def recsOf (names : List Nat) (norm : List Rat → List Rat) (rows : Dense Rat) :
    List Stats.CellRec :=
  (names.zip rows).map fun p => ⟨p.1, norm p.2⟩

theorem recsOf_slice (names : List Nat) (norm : List Rat → List Rat) (rows : Dense Rat)
    (r0 r1 : Nat) :
    Stats.slice (recsOf names norm rows) r0 r1
      = recsOf (Chunking.slice names r0 r1) norm (Chunking.slice rows r0 r1) := by
  rw [stats_slice_eq]
  unfold recsOf
  rw [Chunking.slice_map, Chunking.slice_zip]

/-- `prepareChunk` is row-wise: whether it succeeds depends only on the gene lists, the width and
the normalisation (it is decided on the empty chunk), and when it does, its data is the input rows
mapped by one row function -/
theorem prepareChunk_rowwise (f : Rat → Rat) (width : Nat) (genes : List Markers.Gene)
    (norm : Normalize.Norm) (allMarkers : List Markers.Gene) :
    ∃ g : List Rat → List Rat, ∀ data : List (List Rat),
      Normalize.prepareChunk f data width genes norm allMarkers
        = (Normalize.prepareChunk f [] width genes norm allMarkers).map
            (fun m0 => { m0 with data := data.map g }) :=
  ⟨fun row => Normalize.takeCols (Normalize.normRow f norm row)
      (allMarkers.map (Markers.colOf genes)), fun data => by
    rw [Normalize.prepareChunk_eq, Normalize.prepareChunk_eq]
    simp only [apply_ite (Except.map _)]
    rfl⟩

/-- the cell vectors the mapper's chunk loop sees: every block `(rows, r0, r1)`
of an iteration is prepared on its own (`run_type_assignment_on_h5ad_cpu`), the
prepared rows in iteration order -/
def mapperCells (f : Rat → Rat) (width : Nat) (genes : List Markers.Gene)
    (norm : Normalize.Norm) (allMarkers : List Markers.Gene)
    (blocks : List (Dense Rat × Nat × Nat)) : Except Normalize.NErr (List (List Rat)) :=
  (blocks.mapM fun b => Normalize.prepareChunk f b.1 width genes norm allMarkers).map
    fun ms => ms.flatMap (·.data)

/-- `blocks ≠ []` is needed for the error case only: with no block nothing is prepared and nothing
fails -/
theorem mapperCells_eq (f : Rat → Rat) (width : Nat) (genes : List Markers.Gene)
    (norm : Normalize.Norm) (allMarkers : List Markers.Gene) :
    ∃ g : List Rat → List Rat, ∀ (blocks : List (Dense Rat × Nat × Nat)) (D : Dense Rat),
      blocks ≠ [] → (blocks.map (·.1)).flatten = D →
      mapperCells f width genes norm allMarkers blocks
        = (Normalize.prepareChunk f [] width genes norm allMarkers).map (fun _ => D.map g) := by
  obtain ⟨g, hg⟩ := prepareChunk_rowwise f width genes norm allMarkers
  refine ⟨g, fun blocks D hne hflat => ?_⟩
  unfold mapperCells
  cases h0 : Normalize.prepareChunk f [] width genes norm allMarkers with
  | error e =>
    rw [ListAux.mapM_error_of_forall hne (fun b _ => by rw [hg b.1, h0]; rfl)]
    rfl
  | ok m0 =>
    rw [ListAux.mapM_eq_ok_map (g := fun b => ({ m0 with data := b.1.map g } : Normalize.CBG))
      (fun b _ => by rw [hg b.1, h0]; rfl)]
    simp only [Except.map]
    congr 1
    rw [← hflat, List.flatMap_def, List.map_map, List.map_flatten, List.map_map]
    rfl

/-- `get_chunk` on a CSC layer: transposition to scratch space (any budget),
then `CSRRowIterator.get_chunk` -/
def cscGetChunk {α} (zero : α) (M : Mat α) (nRows nCols r0 r1 : Nat) (B : Budget) :
    Except SpErr (Dense α × Nat × Nat) :=
  transposeOnDisk M nRows none B >>= fun csr => csrGetChunk zero csr nCols r0 r1

theorem cscGetChunk_ok {α} (zero : α) (M : Mat α) (nRows nCols : Nat) (B : Budget)
    (hlo : 1 ≤ B.lo) (hc : 1 ≤ B.loCount)
    (w : WFptr M.indptr nCols M.indices.length) (hlen : M.data.length = M.indices.length)
    (hr : ∀ x ∈ M.indices, x < nRows) (r0 r1 : Nat) (h01 : r0 ≤ r1) (h1 : r1 ≤ nRows) :
    cscGetChunk zero M nRows nCols r0 r1 B
      = .ok (Chunking.slice (transposeDense zero (toDense zero M nCols nRows) nRows) r0 r1,
             r0, r1) := by
  obtain ⟨csr, e, w2, _, hr2, hd⟩ := transposeOnDisk_spec zero M nCols nRows B hlo hc w hlen hr
  unfold cscGetChunk csrGetChunk
  rw [e]
  show (do let x ← loadCsr zero csr nCols r0 r1; pure (x, r0, r1)) = _
  rw [loadCsr_ok zero csr nRows nCols w2 hr2 r0 r1 h01 h1, hd]
  rfl

end CTM.EncodingCompose
