/-
  The two post-loops of `run_type_assignment` in the election model (`Election.fillDown`,
  `fillUp`, `runningProduct`, `finishCell`): what they leave at each level, in terms of the
  records of the level loop (`finishCell_getElem?`).  The correlation of a finished level is its
  own, else that of the nearest level above that has one, else that of the nearest below: the
  top-down fill runs first, so what the bottom-up fill finds below a level is either untouched or
  the value the top-down fill has already handed to that level (`or_findSome_fillDown`).
  `OutBridge` carries these closed forms over to the level-loop model's `finishCell`.

  Core Lean only.
-/
import CTM.Model.Election

namespace CTM.Election

/-! ### `corrAbove`, `corrBelow` -/

/-- correlation of the nearest level above level `k` where a choice was made -/
def corrAbove (recs : List LevelRec) (k : Nat) : Option Rat :=
  (recs.take k).reverse.findSome? (·.avgCorr)

/-- correlation of the nearest level below level `k` where a choice was made -/
def corrBelow (recs : List LevelRec) (k : Nat) : Option Rat :=
  (recs.drop (k + 1)).findSome? (·.avgCorr)

theorem corrAbove_cons_succ (r : LevelRec) (rs : List LevelRec) (k : Nat) :
    corrAbove (r :: rs) (k + 1) = (corrAbove rs k).or r.avgCorr := by
  simp [corrAbove, List.findSome?_append]

theorem corrAbove_succ (recs : List LevelRec) (k : Nat) (hk : k < recs.length) :
    corrAbove recs (k + 1) = recs[k].avgCorr.or (corrAbove recs k) := by
  unfold corrAbove
  rw [List.take_succ_eq_append_getElem hk, List.reverse_append, List.reverse_singleton,
    List.singleton_append, List.findSome?_cons]
  cases recs[k].avgCorr <;> rfl

theorem corrAbove_eq_none {recs : List LevelRec} (h : ∀ r ∈ recs, r.avgCorr = none) (k : Nat) :
    corrAbove recs k = none :=
  List.findSome?_eq_none_iff.2 fun r hr => h r (List.mem_of_mem_take (List.mem_reverse.1 hr))

theorem corrBelow_eq_none {recs : List LevelRec} (h : ∀ r ∈ recs, r.avgCorr = none) (k : Nat) :
    corrBelow recs k = none :=
  List.findSome?_eq_none_iff.2 fun r hr => h r (List.mem_of_mem_drop hr)

/-! ### the top-down fill -/

theorem fillDown_cons (prev : Option Rat) (r : LevelRec) (rs : List LevelRec) :
    fillDown prev (r :: rs) =
      { r with avgCorr := r.avgCorr.or prev } :: fillDown (r.avgCorr.or prev) rs := by
  cases h : r.avgCorr <;> simp [fillDown, h]

theorem fillDown_length : ∀ (prev : Option Rat) (recs : List LevelRec),
    (fillDown prev recs).length = recs.length
  | _, [] => rfl
  | prev, r :: rs => by simp [fillDown_cons, fillDown_length]

theorem fillDown_prob : ∀ (prev : Option Rat) (recs : List LevelRec),
    (fillDown prev recs).map (·.prob) = recs.map (·.prob)
  | _, [] => rfl
  | prev, r :: rs => by simp [fillDown_cons, fillDown_prob]

/-- from level `k` on, the top-down fill runs on the remaining levels with what the levels
    above have handed down -/
theorem drop_fillDown : ∀ (recs : List LevelRec) (prev : Option Rat) (k : Nat),
    (fillDown prev recs).drop k = fillDown ((corrAbove recs k).or prev) (recs.drop k)
  | [], _, _ => by simp [fillDown]
  | r :: rs, prev, 0 => by simp [corrAbove]
  | r :: rs, prev, k + 1 => by
    rw [fillDown_cons, List.drop_succ_cons, List.drop_succ_cons, drop_fillDown rs _ k,
      corrAbove_cons_succ, Option.or_assoc]

theorem fillDown_getElem? (recs : List LevelRec) (prev : Option Rat) (k : Nat) :
    (fillDown prev recs)[k]? = (recs[k]?).map (fun r =>
      { r with avgCorr := (r.avgCorr.or (corrAbove recs k)).or prev }) := by
  rw [← List.head?_drop, drop_fillDown, ← List.head?_drop]
  cases recs.drop k with
  | nil => rfl
  | cons r rs => simp [fillDown_cons, Option.or_assoc]

theorem fillDown_append : ∀ (xs : List LevelRec) (prev : Option Rat) (ys : List LevelRec),
    fillDown prev (xs ++ ys) =
      fillDown prev xs ++ fillDown ((xs.reverse.findSome? (·.avgCorr)).or prev) ys
  | [], _, _ => rfl
  | r :: rs, prev, ys => by
    rw [List.cons_append, fillDown_cons, fillDown_cons, fillDown_append rs, List.cons_append,
      List.reverse_cons, List.findSome?_append, List.findSome?_singleton, Option.or_assoc]

/-- what the bottom-up fill can pick up below a level: if the top-down fill had a value `p`
    to hand down, that value; else the records below are unchanged up to the first that has a
    correlation -/
theorem or_findSome_fillDown (p : Option Rat) (rs : List LevelRec) :
    p.or ((fillDown p rs).findSome? (·.avgCorr)) = p.or (rs.findSome? (·.avgCorr)) := by
  cases p with
  | some c => rfl
  | none =>
    induction rs with
    | nil => rfl
    | cons r rs ih =>
      rw [fillDown_cons, List.findSome?_cons, List.findSome?_cons, Option.or_none]
      cases h : r.avgCorr with
      | some c => rfl
      | none => exact ih

/-! ### the bottom-up fill -/

theorem fillUp_cons (r : LevelRec) (rs : List LevelRec) :
    fillUp (r :: rs) =
      { r with avgCorr := r.avgCorr.or ((fillUp rs).head?.bind (·.avgCorr)) } :: fillUp rs := by
  cases h : r.avgCorr <;> cases h' : fillUp rs <;> simp [fillUp, h, h']

theorem fillUp_length : ∀ (recs : List LevelRec), (fillUp recs).length = recs.length
  | [] => rfl
  | r :: rs => by simp [fillUp_cons, fillUp_length rs]

theorem fillUp_prob : ∀ (recs : List LevelRec), (fillUp recs).map (·.prob) = recs.map (·.prob)
  | [] => rfl
  | r :: rs => by simp [fillUp_cons, fillUp_prob rs]

theorem fillUp_head (rs : List LevelRec) :
    (fillUp rs).head?.bind (·.avgCorr) = rs.findSome? (·.avgCorr) := by
  induction rs with
  | nil => rfl
  | cons r rs ih =>
    rw [fillUp_cons, List.head?_cons, Option.bind_some, ih, List.findSome?_cons]
    cases r.avgCorr <;> rfl

/-- this is how `LevelLoop.fillUp` is written -/
theorem fillUp_eq_reverse : ∀ (rs : List LevelRec),
    fillUp rs = (fillDown none rs.reverse).reverse
  | [] => rfl
  | r :: rs => by
    rw [fillUp_cons, fillUp_head, fillUp_eq_reverse rs, List.reverse_cons, fillDown_append,
      List.reverse_append, List.reverse_reverse, fillDown_cons, Option.or_none]
    rfl

theorem fillUp_getElem? (recs : List LevelRec) (k : Nat) :
    (fillUp recs)[k]? = (recs[k]?).map (fun r =>
      { r with avgCorr := r.avgCorr.or (corrBelow recs k) }) := by
  induction recs generalizing k with
  | nil => rfl
  | cons r rs ih =>
    rw [fillUp_cons]
    cases k with
    | zero => simp [fillUp_head, corrBelow]
    | succ k => exact ih k

/-! ### both fills -/

theorem fillUp_fillDown_getElem? (recs : List LevelRec) (k : Nat) (hk : k < recs.length) :
    (fillUp (fillDown none recs))[k]? = some
      { recs[k] with avgCorr := ((recs[k].avgCorr.or (corrAbove recs k)).or (corrBelow recs k)) } := by
  rw [fillUp_getElem?, corrBelow, fillDown_getElem?, List.getElem?_eq_getElem hk, drop_fillDown,
    corrAbove_succ recs k hk]
  simp only [Option.map_some, Option.or_none]
  rw [or_findSome_fillDown]
  rfl

/-- after both fills a level has a correlation as soon as some level had one -/
theorem or_corrAbove_corrBelow_isSome {recs : List LevelRec} {k : Nat} (hk : k < recs.length)
    (h : ∃ r ∈ recs, r.avgCorr.isSome = true) :
    ((recs[k].avgCorr.or (corrAbove recs k)).or (corrBelow recs k)).isSome = true := by
  obtain ⟨r, hr, hs⟩ := h
  have hr' : r ∈ recs.take k ++ recs[k] :: recs.drop (k + 1) := by
    rwa [← List.drop_eq_getElem_cons hk, List.take_append_drop]
  simp only [Option.isSome_or, Bool.or_eq_true, corrAbove, corrBelow, List.findSome?_isSome_iff]
  rcases List.mem_append.1 hr' with h1 | h1
  · exact Or.inl (Or.inr ⟨r, List.mem_reverse.2 h1, hs⟩)
  · rcases List.mem_cons.1 h1 with rfl | h2
    · exact Or.inl (Or.inl hs)
    · exact Or.inr ⟨r, h2, hs⟩

/-! ### the running product -/

theorem runningProduct_length : ∀ (a : Rat) (ps : List Rat), (runningProduct a ps).length = ps.length
  | _, [] => rfl
  | a, p :: ps => by simp [runningProduct, runningProduct_length]

theorem runningProduct_getElem? (ps : List Rat) (a : Rat) (k : Nat) (h : k < ps.length) :
    (runningProduct a ps)[k]? = some (a * (ps.take (k + 1)).prod) := by
  induction ps generalizing a k with
  | nil => cases h
  | cons p ps ih =>
    cases k with
    | zero => simp [runningProduct]
    | succ k =>
      rw [runningProduct, List.getElem?_cons_succ, ih (a * p) k (Nat.lt_of_succ_lt_succ h),
        List.take_succ_cons, List.prod_cons, Rat.mul_assoc]

/-! ### `finishCell` -/

theorem finishCell_length (recs : List LevelRec) : (finishCell recs).length = recs.length := by
  simp [finishCell, fillUp_length, fillDown_length, runningProduct_length]

theorem finishCell_getElem? (recs : List LevelRec) (k : Nat) (hk : k < recs.length) :
    (finishCell recs)[k]? = some
      { assignment := recs[k].assignment, prob := recs[k].prob,
        avgCorr := ((recs[k].avgCorr.or (corrAbove recs k)).or (corrBelow recs k)),
        aggregate := ((recs.map (·.prob)).take (k + 1)).prod,
        runners := some (recs[k].runnerAssignment, recs[k].runnerCorrelation,
          recs[k].runnerProbability),
        directlyAssigned := true } := by
  have h1 := fillUp_fillDown_getElem? recs k hk
  have hp : (fillUp (fillDown none recs)).map (·.prob) = recs.map (·.prob) := by
    rw [fillUp_prob, fillDown_prob]
  have h2 : (runningProduct 1 ((fillUp (fillDown none recs)).map (·.prob)))[k]? =
      some (((recs.map (·.prob)).take (k + 1)).prod) := by
    rw [hp, runningProduct_getElem? _ _ _ (by simpa using hk), Rat.one_mul]
  unfold finishCell
  simp only [List.getElem?_map]
  rw [List.getElem?_zip_eq_some (z := (_, _)) |>.2 ⟨h1, h2⟩]
  rfl

end CTM.Election
