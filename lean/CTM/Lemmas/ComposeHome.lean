/-
  C18 along the whole path in the composed model: the home step at one node
  (`node_home`, `voteFn_home`), the induction along `walkFrom` over a `HomePath`
  (`walkFrom_home`), the post-loops on a way home (`finishCell_home`), and example parameters
  `exPHome` with a way home in `exTree`.  See design_notes/compose.md.
-/
import CTM.Lemmas.Compose
import CTM.Props.C18
namespace CTM.Compose
open CTM CTM.LevelLoop CTM.OutBridge CTM.Election CTM.Numeric

/-- reference row of a leaf at a node: its mean profile on the node's genes -/
def refRow (P : ElectionParams) (p : Parent) (leaf : Node) : List Rat :=
  pick (P.rcols p) (P.means leaf)

/-- the guard of C18 at one node for the cell `x` and the leaf `l`: the cell's
profile on the node's genes is leaf `l`'s mean profile; on every drawn subset it
is not constant and no other leaf below the node is perfectly correlated with
it; the correlation reported for `l`'s row has signed square 1 -/
structure NodeGuard (P : ElectionParams) (p : Parent) (kl : List (Node × List Node))
    (x : List Rat) (l : Node) : Prop where
  noRaise : NoRaise P p kl x
  query : nodeQuery P p x = refRow P p l
  guard : ∀ s ∈ P.subsets p x, var (pick s (refRow P p l)) ≠ 0 ∧
    ∀ m ∈ (nodeRows kl).1, m ≠ l → corrSsq (pick s (refRow P p m)) (pick s (refRow P p l)) ≠ 1
  corr : ∀ it j, (nodeRows kl).1[j]? = some l →
    P.corrOf p x it j * |P.corrOf p x it j| = 1

/-- C18 at one node of the composed model: under the guard the answer written
back is the type of leaf `lf`'s row with probability 1, correlation 1 and no
runner-up -/
theorem node_home (P : ElectionParams) (htie : TieOK P) (p : Parent)
    (kl : List (Node × List Node)) (x : List Rat) (lf : Node)
    (hmem : lf ∈ (nodeRows kl).1) (hg : NodeGuard P p kl x lf) :
    ∃ j, (nodeRows kl).1[j]? = some lf ∧
      entryOf (electionVote P p kl x) =
        { assignment := (nodeRows kl).2.getD j 0, prob := 1, corr := some 1,
          ru := some ([], [], []) } := by
  obtain ⟨j, hj, hjl⟩ := List.mem_iff_getElem.1 hmem
  have hj? : (nodeRows kl).1[j]? = some lf := by rw [List.getElem?_eq_getElem hj, hjl]
  refine ⟨j, hj?, ?_⟩
  obtain ⟨ch, hch⟩ := nodeChoice_isSome P htie p kl x hg.noRaise
  obtain ⟨tally, ht, hc, _⟩ := nodeChoice_eq_some hch
  have hlen : (nodeRefs P p kl).length = (nodeRows kl).1.length := List.length_map _
  have hrefget : ∀ (i : Nat) (hi : i < (nodeRefs P p kl).length),
      (nodeRefs P p kl)[i] = refRow P p ((nodeRows kl).1[i]'(hlen ▸ hi)) :=
    fun i hi => List.getElem_map _
  obtain ⟨r1, r2, r3, r4⟩ := C18.perfectly_correlated_maps_home (nodeRefs P p kl)
    (nodeQuery P p x) (nodeRows kl).2 (P.subsets p x) (P.corrOf p x) j (hlen ▸ hj)
    (nodeRefs_length P p kl).symm
    hg.noRaise.query_range hg.noRaise.refs_range
    (by
      intro s hs
      obtain ⟨hv, ho⟩ := hg.guard s hs
      rw [hrefget j (hlen ▸ hj), hg.query]
      simp only [hjl]
      refine ⟨corrSsq_self _ hv, fun i hi hne => ?_⟩
      rw [hrefget i hi]
      -- the rows are distinct leaves: another index is another leaf
      exact ho _ (List.getElem_mem _) fun e =>
        hne (((nodeRows_nodup kl).getElem_inj_iff (hi := hlen ▸ hi) (hj := hj)).1 (e.trans hjl.symm)))
    (fun it => hg.corr it j hj?)
    P.nAssign _ ch tally ht (htie _ _ _) hc
  rw [electionVote_of_some hch, entryOf_voteOfChoice, r1, r2, r3, r4]

/-- the way home of leaf `lf` for the cell `x`: `path` lists, top level first,
the ancestors of `lf` (the last one being `lf` itself); each is a child of the
one before (of the root for the first), the only child of that parent whose
leaves contain `lf`; and wherever the parent has a choice the guard of C18
holds for `x` and `lf` -/
def HomePath (P : ElectionParams) (t : RawTree) (x : List Rat) (lf : Node) :
    Parent → List (Level × Node) → Prop
  | _, [] => True
  | p, (l, a) :: rest =>
    (∃ kids, t.children p = .ok kids ∧ a ∈ kids ∧ lf ∈ t.asLeaves l a ∧
      (∀ k ∈ kids, k ≠ a → lf ∉ t.asLeaves l k) ∧
      (2 ≤ kids.length → NodeGuard P p (kidsOf t l kids) x lf)) ∧
    HomePath P t x lf (some (l, a)) rest

theorem voteFn_home (P : ElectionParams) (htie : TieOK P) (t : RawTree) (x : List Rat)
    (lf : Node) {p : Parent} {l : Level} {a : Node} {kids : List Node} (hak : a ∈ kids)
    (hlf : lf ∈ t.asLeaves l a) (huniq : ∀ k ∈ kids, k ≠ a → lf ∉ t.asLeaves l k)
    (hguard : 2 ≤ kids.length → NodeGuard P p (kidsOf t l kids) x lf) :
    entryOf (voteFn t (electionVote P) p l kids x) =
      { assignment := a, prob := 1, corr := if 2 ≤ kids.length then some 1 else none,
        ru := some ([], [], []) } := by
  rcases kids with _ | ⟨k1, _ | ⟨k2, ks⟩⟩
  · cases hak
  · obtain rfl : a = k1 := List.mem_singleton.1 hak
    rfl
  · have h2 : 2 ≤ (k1 :: k2 :: ks).length := Nat.le_add_left 2 _
    obtain ⟨j, hj, hent⟩ := node_home P htie p _ x lf (mem_nodeRows_kidsOf hak hlf) (hguard h2)
    obtain ⟨hjlt, hrow⟩ := List.getElem?_eq_some_iff.1 hj
    obtain ⟨hty, hin⟩ := nodeRows_type _ j hjlt
    rw [map_fst_kidsOf] at hty
    -- the type of `lf`'s row is a child with `lf` below it: `a` is the only one
    have hta : (nodeRows (kidsOf t l (k1 :: k2 :: ks))).2.getD j 0 = a := by
      by_contra hne
      rw [leavesOfKids_kidsOf t l _ _ hty, hrow] at hin
      exact huniq _ hty hne hin
    show entryOf (electionVote P p (kidsOf t l (k1 :: k2 :: ks)) x) = _
    rw [hent, hta, if_pos h2]

/-- some parent on the way has at least two children -/
def ChoiceOnPath (t : RawTree) : Parent → List (Level × Node) → Prop
  | _, [] => False
  | p, (l, a) :: rest =>
    (∃ kids, t.children p = .ok kids ∧ 2 ≤ kids.length) ∨ ChoiceOnPath t (some (l, a)) rest

/-- C18 along the whole path, for the raw walk -/
theorem walkFrom_home (P : ElectionParams) (htie : TieOK P) (t : RawTree) (x : List Rat)
    (lf : Node) (path : List (Level × Node)) : ∀ (p : Parent), HomePath P t x lf p path →
    ∃ es, walkFrom t (electionVote P) x (path.map (·.1)) p = .ok es ∧ assignments es = path ∧
      (∀ le ∈ es, le.2.prob = 1 ∧ le.2.ru = some ([], [], []) ∧
        (le.2.corr = none ∨ le.2.corr = some 1)) ∧
      (ChoiceOnPath t p path → ∃ le ∈ es, le.2.corr = some 1) := by
  induction path with
  | nil => exact fun p _ => ⟨[], rfl, rfl, fun _ h => (nomatch h), fun h => h.elim⟩
  | cons la rest ih =>
    obtain ⟨l, a⟩ := la
    rintro p ⟨⟨kids, hk, hak, hlf, huniq, hguard⟩, hrest⟩
    obtain ⟨tl, htl, i1, i2, i3⟩ := ih _ hrest
    have hv := voteFn_home P htie t x lf hak hlf huniq hguard
    have hasg : (voteFn t (electionVote P) p l kids x).assignment = a := by
      rw [← assignment_entryOf, hv]
    refine ⟨(l, entryOf (voteFn t (electionVote P) p l kids x)) :: tl,
      (walkFrom_cons _ x l _ hk (List.ne_nil_of_mem hak)).trans (by rw [hasg, htl]; rfl),
      ?_, ?_, ?_⟩
    · rw [hv, ← i1]; rfl
    · intro le hle
      rcases List.mem_cons.1 hle with rfl | hle
      · rw [hv]
        exact ⟨rfl, rfl, (ite_eq_or_eq _ _ _).symm⟩
      · exact i2 le hle
    · rintro (⟨kids', hk', h2⟩ | hch)
      · obtain rfl : kids = kids' := Except.ok.inj (hk.symm.trans hk')
        exact ⟨_, List.mem_cons_self, by rw [hv, if_pos h2]⟩
      · obtain ⟨le, hle, hc⟩ := i3 hch
        exact ⟨le, List.mem_cons_of_mem _ hle, hc⟩

/-- the post-loops on a way home: probability 1 at every level makes every
aggregate 1; correlations that are 1 or missing stay so, and are all 1 as soon
as one level had a choice (single-child levels inherit) -/
theorem finishCell_home (es : List (Level × Entry))
    (h : ∀ le ∈ es, le.2.prob = 1 ∧ le.2.ru = some ([], [], []) ∧
      (le.2.corr = none ∨ le.2.corr = some 1)) :
    ∀ le ∈ LevelLoop.finishCell es, le.2.prob = 1 ∧ le.2.agg = some 1 ∧
      le.2.ru = some ([], [], []) ∧ (le.2.corr = none ∨ le.2.corr = some 1) ∧
      ((∃ le' ∈ es, le'.2.corr = some 1) → le.2.corr = some 1) := by
  intro le hle
  obtain ⟨k, hk, hkle⟩ := List.mem_iff_getElem.1 hle
  rw [finishCell_length_eq] at hk
  obtain ⟨e, he, _, hp, hr, hc, hg⟩ := finishCell_entry es k hk
  obtain rfl : (es[k].1, e) = le := by
    rw [List.getElem?_eq_getElem (by rwa [finishCell_length_eq]), hkle] at he
    exact (Option.some.inj he).symm
  obtain ⟨hp1, hr1, _⟩ := h es[k] (List.getElem_mem hk)
  -- a correlation of the finished level is one of the walk's: its own, from above or from below
  have hcorr : e.corr = none ∨ e.corr = some 1 := by
    cases hq : e.corr with
    | none => exact Or.inl rfl
    | some q =>
      obtain ⟨r, hr, hrq⟩ : ∃ r ∈ es.map (fun le => toElectionRec le.2), r.avgCorr = some q := by
        rw [hc, Option.or_eq_some_iff, Option.or_eq_some_iff] at hq
        rcases hq with (h1 | ⟨_, h2⟩) | ⟨_, h3⟩
        · exact ⟨_, List.mem_map_of_mem (List.getElem_mem hk), h1⟩
        · obtain ⟨r, hr, h⟩ := List.exists_of_findSome?_eq_some h2
          exact ⟨r, List.mem_of_mem_take (List.mem_reverse.1 hr), h⟩
        · obtain ⟨r, hr, h⟩ := List.exists_of_findSome?_eq_some h3
          exact ⟨r, List.mem_of_mem_drop hr, h⟩
      obtain ⟨le', hle', rfl⟩ := List.mem_map.1 hr
      replace hrq : le'.2.corr = some q := hrq
      rcases (h le' hle').2.2 with h0 | h1
      · rw [h0] at hrq; cases hrq
      · exact Or.inr (hrq.symm.trans h1)
  refine ⟨hp.trans hp1, ?_, hr.trans hr1, hcorr, ?_⟩
  · rw [hg, List.prod_eq_one]
    intro q hq
    obtain ⟨le', hle', rfl⟩ := List.mem_map.1 (List.mem_of_mem_take hq)
    exact (h le' hle').1
  · rintro ⟨le', hle', hc'⟩
    have hsome := finishCell_corr_isSome es ⟨le', hle', by rw [hc']; rfl⟩ _ hle
    rcases hcorr with h0 | h1
    · rw [h0] at hsome; cases hsome
    · exact h1

/-- `exP` with subsets on which the centroid of leaf 30 is separated from the
other leaves, and reported correlation 1 -/
def exPHome : ElectionParams :=
  { exP with subsets := fun _ _ => [[0, 1, 2], [0, 1]], corrOf := fun _ _ _ _ => 1 }

theorem exPHome_tie : TieOK exPHome := fun _ _ V => stableTie_valid V

theorem exPHome_range (p : Parent) (x : List Rat) : ∀ s ∈ exPHome.subsets p x, ∀ i ∈ s,
    i < (exPHome.qcols p).length ∧ i < (exPHome.rcols p).length := by
  show ∀ s ∈ [[0, 1, 2], [0, 1]], ∀ i ∈ s, i < 3 ∧ i < 3
  decide

/-- the way home of leaf 30 in `exTree` for its centroid written in the
query's gene order -/
theorem exPHome_path :
    HomePath exPHome exTree [2, 4, 1] 30 none [(0, 10), (1, 20), (2, 30)] := by
  refine ⟨⟨[10], rfl, by decide, by decide, by decide, fun h => absurd h (by decide)⟩,
    ⟨[21, 20], rfl, by decide, by decide, by decide, fun _ => ?_⟩,
    ⟨[30], rfl, by decide, by decide, by decide, fun h => absurd h (by decide)⟩, trivial⟩
  exact ⟨⟨List.cons_ne_nil _ _, exPHome_range _ _, by decide, Nat.le_succ 1⟩, by decide +kernel,
    by decide +kernel, fun it j _ => by show (1 : Rat) * |1| = 1; rw [abs_one, mul_one]⟩

end CTM.Compose
