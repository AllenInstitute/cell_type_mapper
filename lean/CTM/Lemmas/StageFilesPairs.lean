/-
  Lemmas for C18 "names consistent", index side (Props/C18/NamesPairs.lean): the name tables
  of the reference-marker file (`gene_names`, `pair_to_idx`, `n_pairs`), `idx_of_pair` /
  `_get_taxonomy_idx`, the marker table written by the selection stage and its acceptance by
  the marker cache (model CTM/Model/StageFiles.lean).  The parts on `geneNamesAt` and
  `markerTable` rest on no `Props` file; `idxToPair_spec` uses `C11.pairs_exact`, the leaf-pair
  lemmas `C10.pairs_exact`, the last section the C08 theorems.
-/
import CTM.Lemmas.StageFiles
import CTM.Lemmas.RefMarkers
import CTM.Lemmas.BridgePairs
import CTM.Props.C08
import CTM.Props.C10
import CTM.Props.C11

namespace CTM.StageFilesPairs
open CTM CTM.Markers CTM.StageFiles

/-! ### list facts -/

theorem mapME_error_of_mem {α β ε} (f : α → Except ε β) (xs : List α) (x : α) (e : ε)
    (hx : x ∈ xs) (he : f x = .error e) : ∃ e', mapME f xs = .error e' := by
  cases hm : mapME f xs with
  | error e' => exact ⟨e', rfl⟩
  | ok ys =>
    obtain ⟨i, hi⟩ := List.getElem?_of_mem hx
    obtain ⟨y, _, hy⟩ := (mapME_ok_getElem? f xs ys hm).2 i x hi
    rw [he] at hy; cases hy

theorem forall₂_map_eq {α β} (g : α → β) (xs : List α) (ys : List β) :
    List.Forall₂ (fun x y => g x = y) xs ys ↔ ys = xs.map g := by
  rw [← List.forall₂_map_left_iff (R := (· = ·)), List.forall₂_eq_eq_eq, eq_comm]

/-! ### the reference-marker file -/

theorem idxToPair_spec (leaves : List Leaf) (h : leaves.Nodup) :
    (idxToPair leaves).Nodup ∧
    (∀ a b, (a, b) ∈ idxToPair leaves ↔ a ∈ leaves ∧ b ∈ leaves ∧ a < b) ∧
    (idxToPair leaves).length = leaves.length * (leaves.length - 1) / 2 := by
  have hs : (RawTree.sortNat leaves).Pairwise (· < ·) :=
    ListAux.pairwise_lt_of_le_of_nodup (RawTree.sortNat_sorted _) (RawTree.sortNat_nodup h)
  obtain ⟨h1, h2, h3⟩ := CTM.C11.pairs_exact (RawTree.sortNat leaves) hs
  refine ⟨h1, ?_, ?_⟩
  · intro a b
    rw [idxToPair, h2, RawTree.mem_sortNat, RawTree.mem_sortNat]
  · rw [idxToPair, h3, (RawTree.sortNat_perm leaves).length_eq]

/-- `idx_of_pair` against the file `_prep_output_file` wrote: the position of the pair in the
finder's `idx_to_pair`, "not a valid taxonomy pair specification" for a pair not listed -/
theorem idxOfPair_prepOutput_eq (leaves : List Leaf) (names : List Gene) (x : Leaf × Leaf) :
    idxOfPair (prepOutput leaves names) x =
      if x ∈ idxToPair leaves then .ok ((idxToPair leaves).idxOf x) else .error .badPair := by
  simp only [idxOfPair, prepOutput, ListAux.lookup_zipIdx, Nat.add_zero]
  by_cases hx : x ∈ idxToPair leaves
  · rw [if_pos hx, if_pos hx]
  · rw [if_neg hx, if_neg hx]

/-- `pair_to_idx` of `_prep_output_file` is the inverse of the finder's `idx_to_pair` -/
theorem idxOfPair_prepOutput (leaves : List Leaf) (names : List Gene) (h : leaves.Nodup)
    (x : Leaf × Leaf) (k : Nat) :
    idxOfPair (prepOutput leaves names) x = .ok k ↔ (idxToPair leaves)[k]? = some x := by
  rw [idxOfPair_prepOutput_eq, ListAux.getElem?_eq_some_iff_idxOf (idxToPair_spec leaves h).1]
  split <;> simp [*]

theorem idxOfPair_error (r : RefFile) (x : Leaf × Leaf) (e : SErr)
    (h : idxOfPair r x = .error e) : e = .badPair := by
  unfold idxOfPair at h
  split at h
  · cases h
  · cases h; rfl

theorem idxOfPair_prepOutput_total (leaves : List Leaf) (names : List Gene) (h : leaves.Nodup)
    (a b : Leaf) (ha : a ∈ leaves) (hb : b ∈ leaves) (hab : a < b) :
    ∃ k, idxOfPair (prepOutput leaves names) (a, b) = .ok k :=
  ⟨_, by rw [idxOfPair_prepOutput_eq, if_pos (((idxToPair_spec leaves h).2.1 a b).2 ⟨ha, hb, hab⟩)]⟩

theorem idxOfPair_prepOutput_error_iff (leaves : List Leaf) (names : List Gene) (h : leaves.Nodup)
    (a b : Leaf) :
    idxOfPair (prepOutput leaves names) (a, b) = .error .badPair ↔ ¬ (a ∈ leaves ∧ b ∈ leaves ∧ a < b) := by
  rw [idxOfPair_prepOutput_eq, ← (idxToPair_spec leaves h).2.1 a b]
  split <;> simp [*]

/-! ### the marker table -/

theorem geneNamesAt_eq_mapM (G : List Gene) (idxs : List Nat) :
    geneNamesAt G idxs = idxs.mapM fun i => ListAux.orRaise .badGeneIndex G[i]? :=
  ListAux.loop_eq_mapM (geneNamesAt G) rfl
    (fun i is => by rw [geneNamesAt]; cases G[i]? <;> cases geneNamesAt G is <;> rfl) idxs

/-- `gene_names[chosen_idx]`: `IndexError` exactly when a position is outside the list -/
theorem geneNamesAt_eq (G : List Gene) (idxs : List Nat) :
    geneNamesAt G idxs =
      if ∀ i ∈ idxs, i < G.length then .ok (idxs.map (G.getD · 0)) else .error .badGeneIndex :=
  (geneNamesAt_eq_mapM G idxs).trans (ListAux.mapM_eq_ite (ListAux.orRaise_getElem? _ 0 G) idxs)

theorem geneNamesAt_ok_iff_forall₂ (G : List Gene) (idxs : List Nat) (names : List Gene) :
    geneNamesAt G idxs = .ok names ↔ List.Forall₂ (fun i g => G[i]? = some g) idxs names := by
  rw [geneNamesAt_eq_mapM, ListAux.mapM_orRaise_eq_ok_iff, ← List.forall₂_eq_eq_eq,
    List.forall₂_map_left_iff, List.forall₂_map_right_iff]

theorem geneNamesAt_ok_iff (G : List Gene) (idxs : List Nat) (names : List Gene) :
    geneNamesAt G idxs = .ok names ↔
      (∀ i ∈ idxs, i < G.length) ∧ names = idxs.map (fun i => G.getD i 0) := by
  rw [geneNamesAt_eq, ListAux.ite_eq_ok_iff]

theorem geneNamesAt_mem (G : List Gene) (idxs : List Nat) (names : List Gene)
    (h : geneNamesAt G idxs = .ok names) : ∀ g ∈ names, g ∈ G := by
  obtain ⟨hlt, rfl⟩ := (geneNamesAt_ok_iff G idxs names).1 h
  intro g hg
  obtain ⟨i, hi, rfl⟩ := List.mem_map.1 hg
  rw [List.getD_eq_getElem?_getD, List.getElem?_eq_getElem (hlt i hi)]
  exact List.getElem_mem _

theorem geneNamesAt_error (G : List Gene) (idxs : List Nat) (e : SErr)
    (h : geneNamesAt G idxs = .error e) : e = .badGeneIndex ∧ ∃ i ∈ idxs, G.length ≤ i := by
  rw [geneNamesAt_eq, ListAux.ite_eq_error_iff] at h
  exact ⟨h.2, (ListAux.not_forall_mem.1 h.1).imp fun i hi => ⟨hi.1, Nat.not_lt.1 hi.2⟩⟩

theorem geneNamesAt_error_iff (G : List Gene) (idxs : List Nat) :
    (∃ e, geneNamesAt G idxs = .error e) ↔ ∃ i ∈ idxs, G.length ≤ i := by
  constructor
  · rintro ⟨e, he⟩
    exact (geneNamesAt_error G idxs e he).2
  · rintro ⟨i, hi, hle⟩
    cases h : geneNamesAt G idxs with
    | error e => exact ⟨e, rfl⟩
    | ok names => exact absurd (((geneNamesAt_ok_iff G idxs names).1 h).1 i hi) (Nat.not_lt.2 hle)

/-- the names the selection stage writes for parent `p` -/
def namesOf (G : List Gene) (chosen : PKey → List Nat) (p : PKey) : List Gene :=
  (chosen p).map (fun i => G.getD i 0)

theorem markerTable_eq (r : RefFile) (order : List PKey) (chosen : PKey → List Nat) :
    markerTable r order chosen =
      if ∀ p ∈ order, ∀ i ∈ chosen p, i < r.geneNames.length
      then .ok (order.map fun p => (p, namesOf r.geneNames chosen p)) else .error .badGeneIndex := by
  rw [markerTable, mapME_eq_mapM]
  refine ListAux.mapM_eq_ite (fun p => ?_) order
  rw [geneNamesAt_eq]
  by_cases h : ∀ i ∈ chosen p, i < r.geneNames.length
  · rw [if_pos h, if_pos h]; rfl
  · rw [if_neg h, if_neg h]

theorem markerTable_ok_iff (r : RefFile) (order : List PKey) (chosen : PKey → List Nat) (lk : Lookup) :
    markerTable r order chosen = .ok lk ↔
      (∀ p ∈ order, ∀ i ∈ chosen p, i < r.geneNames.length) ∧
      lk = order.map (fun p => (p, namesOf r.geneNames chosen p)) := by
  rw [markerTable_eq, ListAux.ite_eq_ok_iff]

theorem markerTable_error (r : RefFile) (order : List PKey) (chosen : PKey → List Nat) (e : SErr)
    (h : markerTable r order chosen = .error e) : e = .badGeneIndex := by
  rw [markerTable_eq, ListAux.ite_eq_error_iff] at h
  exact h.2

theorem get?_map_mk (order : List PKey) (F : PKey → List Gene) (k : PKey) :
    get? (order.map (fun p => (p, F p))) k = if k ∈ order then some (F k) else none := by
  induction order with
  | nil => rfl
  | cons p ps ih =>
    rw [get?, List.map_cons, ListAux.lookup_cons_ite, ← get?, ih]
    by_cases hk : k = p
    · subst hk; rw [beq_self_eq_true, if_pos rfl, if_pos List.mem_cons_self]
    · rw [if_neg (by simpa using hk)]
      simp only [List.mem_cons, hk, false_or]

theorem get?_perm (lk lk' : Lookup) (hp : lk.Perm lk') (hk : KeysNodup lk) (k : PKey) :
    get? lk k = get? lk' k :=
  ListAux.lookup_perm hp hk k

theorem markerTable_keys (r : RefFile) (order : List PKey) (chosen : PKey → List Nat) (lk : Lookup)
    (h : markerTable r order chosen = .ok lk) : lk.map (·.1) = order := by
  obtain ⟨_, rfl⟩ := (markerTable_ok_iff r order chosen lk).1 h
  rw [List.map_map]
  exact List.map_id' _

theorem markerTable_entry (r : RefFile) (order : List PKey) (chosen : PKey → List Nat) (lk : Lookup)
    (h : markerTable r order chosen = .ok lk) (p : PKey) (gs : List Gene) (hm : (p, gs) ∈ lk) :
    p ∈ order ∧ geneNamesAt r.geneNames (chosen p) = .ok gs := by
  obtain ⟨h1, rfl⟩ := (markerTable_ok_iff r order chosen lk).1 h
  obtain ⟨q, hq, he⟩ := List.mem_map.1 hm
  simp only [Prod.mk.injEq] at he
  obtain ⟨rfl, rfl⟩ := he
  exact ⟨hq, (geneNamesAt_ok_iff _ _ _).2 ⟨h1 q hq, rfl⟩⟩

theorem markerTable_genes (r : RefFile) (order : List PKey) (chosen : PKey → List Nat) (lk : Lookup)
    (h : markerTable r order chosen = .ok lk) : ∀ e ∈ lk, ∀ g ∈ e.2, g ∈ r.geneNames := by
  rintro ⟨p, gs⟩ he g hg
  exact geneNamesAt_mem _ _ _ (markerTable_entry r order chosen lk h p gs he).2 g hg

theorem markerTable_keysNodup (r : RefFile) (order : List PKey) (chosen : PKey → List Nat) (lk : Lookup)
    (h : markerTable r order chosen = .ok lk) (hn : order.Nodup) : KeysNodup lk := by
  unfold KeysNodup
  rw [markerTable_keys r order chosen lk h]; exact hn

theorem markerTable_get? (r : RefFile) (order : List PKey) (chosen : PKey → List Nat) (lk : Lookup)
    (h : markerTable r order chosen = .ok lk) (k : PKey) :
    get? lk k = if k ∈ order then some (namesOf r.geneNames chosen k) else none := by
  obtain ⟨_, rfl⟩ := (markerTable_ok_iff r order chosen lk).1 h
  exact get?_map_mk order _ k

/-! ### the pairs a parent's selection asks for -/

section tree
open CTM.RawTree
variable {t : RawTree}

/-- where `children` raises or no child level exists, `leaves_to_compare` is empty -/
theorem leafPairs_nil_or (t : RawTree) (hne : t.hierarchy ≠ []) (parent : Option (Level × Node)) :
    t.leafPairs parent = [] ∨
      ∃ sibs cl, t.children parent = .ok sibs ∧ t.levelUnder parent = some cl := by
  cases parent with
  | none =>
    right
    obtain ⟨l0, rest, hh⟩ := List.exists_cons_of_ne_nil hne
    exact ⟨t.nodesAt l0, l0, by simp [children, hh], by simp [levelUnder, hh]⟩
  | some ln =>
    obtain ⟨l, n⟩ := ln
    cases hcl : t.childLevel l with
    | none => left; simp [leafPairs, hcl]
    | some cl =>
      by_cases h : l ∈ t.levels.map (·.1) ∧ n ∈ t.nodesAt l
      · exact .inr ⟨t.entry l n, cl, children_some_ok_iff.2 ⟨h.1, h.2, rfl⟩, by simp [levelUnder, hcl]⟩
      · left
        -- a node that is no key of its level has no entry: the level is missing or lacks the key
        have hn : n ∉ t.nodesAt l := by
          intro hn
          refine h ⟨?_, hn⟩
          cases hlk : t.levels.lookup l with
          | none => simp [nodesAt, level, hlk] at hn
          | some v => exact List.mem_map.2 ⟨_, ListAux.mem_of_lookup hlk, rfl⟩
        have he : t.entry l n = [] := by
          cases hlk : (t.level l).lookup n with
          | none => simp [entry, hlk]
          | some v => exact absurd (List.mem_map.2 ⟨_, ListAux.mem_of_lookup hlk, rfl⟩) hn
        by_cases hl : (some l == t.leafLevel) = true <;> simp [leafPairs, hcl, he, hl, combos2]

theorem leavesOf_nodup (w : WF t) : (leavesOf t).Nodup := by
  rw [leavesOf_eq t w.hNe]; exact w.dict.nodesAt_nodup _

theorem leafPairs_leaves (w : WF t) (parent : Option (Level × Node)) (a b : Node)
    (h : (a, b) ∈ t.leafPairs parent) : a ∈ leavesOf t ∧ b ∈ leavesOf t ∧ a < b := by
  rcases leafPairs_nil_or t w.hNe parent with h0 | ⟨sibs, cl, hs, hcl⟩
  · rw [h0] at h; cases h
  · have s := strict_of_validate w.valid
    obtain ⟨hlt, s0, s1, h0, h1, _, ha, hb⟩ := ((C10.pairs_exact t w parent sibs cl hs hcl).2 a b).1 h
    obtain ⟨i, hi, rfl, hsub⟩ := children_sub s w.hNe w.hNodup parent sibs cl hs hcl
    rw [leavesOf_eq t w.hNe]
    exact ⟨asLeaves_sub_leaf s w.hNodup hi (hsub s0 h0) ha,
      asLeaves_sub_leaf s w.hNodup hi (hsub s1 h1) hb, hlt⟩

theorem leafPairs_nodup (w : WF t) (parent : Option (Level × Node)) : (t.leafPairs parent).Nodup := by
  rcases leafPairs_nil_or t w.hNe parent with h0 | ⟨sibs, cl, hs, hcl⟩
  · rw [h0]; exact List.nodup_nil
  · exact (C10.pairs_exact t w parent sibs cl hs hcl).1

end tree

/-! ### `_get_taxonomy_idx` -/

theorem leafPairs_sub_idxToPair {t : RawTree} (w : RawTree.WF t) (parent : PKey) :
    ∀ x ∈ t.leafPairs parent, x ∈ idxToPair (leavesOf t) := by
  rintro ⟨a, b⟩ hx
  exact ((idxToPair_spec _ (leavesOf_nodup w)).2.1 a b).2 (leafPairs_leaves w parent a b hx)

/-- `_get_taxonomy_idx` against the file `_prep_output_file` wrote for the same taxonomy never
raises, and returns, sorted and without repetition, exactly the finder's rows of the pairs
`leaves_to_compare(parent)` lists -/
theorem taxonomyIdx_spec {t : RawTree} (w : RawTree.WF t) (names : List Gene) (parent : PKey) :
    ∃ ks, taxonomyIdx (prepOutput (leavesOf t) names) t parent = .ok ks ∧
      ks.Pairwise (· < ·) ∧ ks.length = (t.leafPairs parent).length ∧
      (∀ k, k ∈ ks ↔ ∃ x ∈ t.leafPairs parent, (idxToPair (leavesOf t))[k]? = some x) := by
  have hL := (idxToPair_spec _ (leavesOf_nodup w)).1
  have hsub := leafPairs_sub_idxToPair w parent
  refine ⟨RawTree.sortNat ((t.leafPairs parent).map ((idxToPair (leavesOf t)).idxOf ·)), ?_, ?_, ?_, ?_⟩
  · rw [taxonomyIdx, mapME_ok_map _ ((idxToPair (leavesOf t)).idxOf ·) _ (fun x hx => by
      rw [idxOfPair_prepOutput_eq, if_pos (hsub x hx)])]
  · refine ListAux.pairwise_lt_of_le_of_nodup (RawTree.sortNat_sorted _) (RawTree.sortNat_nodup ?_)
    exact (leafPairs_nodup w parent).map_on (fun x hx y _ h => (List.idxOf_inj (hsub x hx)).1 h)
  · rw [(RawTree.sortNat_perm _).length_eq, List.length_map]
  · intro k
    rw [RawTree.mem_sortNat, List.mem_map]
    refine exists_congr (fun x => and_congr_right (fun hx => ?_))
    rw [ListAux.getElem?_eq_some_iff_idxOf hL, and_iff_right (hsub x hx)]

/-- distinct pairs of one parent have distinct columns (hypothesis of the C12 bridge) -/
theorem idxInjOn_prepOutput {t : RawTree} (w : RawTree.WF t) (names : List Gene) (parent : PKey) :
    Bridge.IdxInjOn (fun x => (idxOfPair (prepOutput (leavesOf t) names) x).toOption.getD 0)
      (t.leafPairs parent) := by
  have hsub := leafPairs_sub_idxToPair w parent
  intro x hx y hy hxy
  simp only [idxOfPair_prepOutput_eq, if_pos (hsub x hx), if_pos (hsub y hy)] at hxy
  exact (List.idxOf_inj (hsub x hx)).1 hxy

/-! ### the delivery order of the workers is immaterial -/

theorem markerTable_perm (r : RefFile) (order order' : List PKey) (chosen : PKey → List Nat)
    (hp : order.Perm order') (lk : Lookup) (h : markerTable r order chosen = .ok lk) :
    ∃ lk', markerTable r order' chosen = .ok lk' ∧ lk.Perm lk' ∧ ∀ k, get? lk k = get? lk' k := by
  obtain ⟨h1, rfl⟩ := (markerTable_ok_iff r order chosen lk).1 h
  refine ⟨_, (markerTable_ok_iff r order' chosen _).2 ⟨fun p hpm => h1 p (hp.mem_iff.2 hpm), rfl⟩,
    hp.map _, ?_⟩
  intro k
  rw [get?_map_mk, get?_map_mk]
  by_cases hk : k ∈ order
  · rw [if_pos hk, if_pos (hp.mem_iff.1 hk)]
  · rw [if_neg hk, if_neg (fun h' => hk (hp.mem_iff.2 h'))]

/-- the validation reads the table by key only -/
theorem errAt_congr (t : RawTree) (lk lk' : Lookup) (Q : List Gene) (m : Nat) (p : PKey)
    (h : ∀ k, get? lk k = get? lk' k) : errAt t lk Q m p ↔ errAt t lk' Q m p := by
  have : get? lk = get? lk' := funext h
  unfold errAt specGenes
  simp only [this]

/-! ### acceptance by the marker cache -/

/-- the next stage never answers "marker genes are not in the reference dataset" to a table
all of whose genes are reference genes -/
theorem createCache_ne_notInReference (t : RawTree) (hT : TreeOK t) (lk : Lookup) (R Q : List Gene)
    (m : Nat) (hR : ∀ e ∈ lk, ∀ g ∈ e.2, g ∈ R) :
    createCache (some t) lk R Q m ≠ .error .notInReference := by
  intro h
  rcases createCache_error_cases t hT lk R Q m _ h with (h | h) | ⟨lk', _, hv, _, ⟨_, h⟩ | ⟨_, hm, _⟩⟩
  · cases h
  · cases h
  · cases h
  · -- validation lists no gene the table did not list
    rw [(missingRef_false_iff R lk').2 fun e he g hg =>
      have ⟨e0, he0, hg0⟩ := validateLookup_genesFrom t hT Q m lk lk' hv e he g hg
      hR e0 he0 g hg0] at hm
    cases hm

theorem not_errAt_of_own (t : RawTree) (lk : Lookup) (Q : List Gene) (m : Nat) (p : PKey)
    (gs : List Gene) (hget : get? lk p = some gs) (g : Gene) (hg : g ∈ gs) (hq : g ∈ Q) :
    ¬ errAt t lk Q m p := by
  rw [errAt_iff]
  intro h
  have := (specGenes_own t lk Q m p g).1 (by rw [hget]; exact hg) hq
  rw [h] at this
  cases this

/-- acceptance of a dict-like table of reference genes is decided by the error condition of the
consulted parents alone -/
theorem createCache_ok_iff_errAt (t : RawTree) (hT : TreeWF t) (lk : Lookup) (R Q : List Gene) (m : Nat)
    (hk : KeysNodup lk) (hR : ∀ e ∈ lk, ∀ g ∈ e.2, g ∈ R) :
    (∃ c, createCache (some t) lk R Q m = .ok c) ↔
      ∀ p ∈ t.allParents, Consulted t p → ¬ errAt t lk Q m p := by
  constructor
  · rintro ⟨c, hc⟩ p hp hcons he
    obtain ⟨e, hee⟩ := createCache_rejects_errAt t (treeOK_of_wf t hT) lk R Q m p hp hcons he
    rw [hc] at hee; cases hee
  · intro h
    exact C08.accepted_otherwise t hT lk R Q m hk h hR

/-- the only refusals a table of reference genes with distinct keys can meet are the two
messages of `validate_marker_lookup` about the QUERY lacking markers -/
theorem createCache_error_query_only (t : RawTree) (hT : TreeWF t) (lk : Lookup) (R Q : List Gene)
    (m : Nat) (hk : KeysNodup lk) (hR : ∀ e ∈ lk, ∀ g ∈ e.2, g ∈ R) (e : MErr)
    (h : createCache (some t) lk R Q m = .error e) : e = .noMarkersAnyLevel ∨ e = .validating := by
  rcases C08.only_documented_errors t hT lk R Q m e h with h1 | h1 | h1 | h1
  · exact Or.inl h1
  · exact Or.inr h1
  · subst h1; exact absurd h (C08.overlap_error_unreachable t hT lk R Q m hk)
  · subst h1; exact absurd h (createCache_ne_notInReference t (treeOK_of_wf t hT) lk R Q m hR)

/-- example taxonomy (the tree of `StageFiles.Ex.tr`): levels 0, 1; nodes 11 ⊃ {33}, 10 ⊃ {31, 30};
leaves 33, 30, 31 -/
def exTr : RawTree :=
  { hierarchy := [0, 1],
    levels := [(0, [(11, [33]), (10, [31, 30])]), (1, [(33, [103, 104]), (30, [100]), (31, [101, 102])])] }

theorem exTr_wf : RawTree.WF exTr :=
  ⟨by decide, by decide, by decide, RawTree.dictOK_of_b (by decide)⟩

end CTM.StageFilesPairs
