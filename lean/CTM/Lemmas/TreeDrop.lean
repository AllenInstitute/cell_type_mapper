import CTM.Lemmas.TreeLeaves
import CTM.Lemmas.TreeValidate

/-!
  `TaxonomyTree.flatten()` and `_drop_level` (`flatten`, `dropLevelRaw`, `dropLevel` of
  `CTM/Model/Tree.lean`): the levels of the result, that a well-formed tree stays well-formed (so the
  validation in the constructor of the new tree passes), that dropping a non-leaf level keeps the leaves
  below every remaining node, and the normal form of `flatten` on a well-formed tree (one level holding the
  leaf dict), by which `flatten` absorbs `dropLevel` of a non-leaf level and itself.

  `reparent`, `dropLevels`, `dropAt` are the branches of `dropLevelRaw` written apart; `dropLevelRaw_eq` and
  `dropLevelRaw_ok_inv` are the only lemmas that go between them and the model, and they are stated at
  `t.hierarchy[i]`: a level given by name is brought there by `levelIdx_of_mem` or `List.mem_iff_getElem`.
-/

namespace CTM.RawTree
variable {t : RawTree}

/-! ### the keys of an association list filtered by key -/

/-- the `fun (k, _) => q k` lambdas of the model are key predicates -/
theorem filter_key_eq {β} (q : Level → Bool) (m : List (Level × β)) :
    m.filter (fun x => match x with | (k, _) => q k) = m.filter (fun kv => q kv.1) := by
  congr 1

theorem lookup_filter_key_false {α β} [BEq α] [LawfulBEq α] (q : α → Bool)
    (m : List (α × β)) {k : α} (hk : q k = false) :
    (m.filter (fun kv => q kv.1)).lookup k = none := by
  rw [ListAux.lookup_filter_key, if_neg (by simp [hk])]

/-! ### `flatten` -/

theorem flatten_eq {leaf : Level} (hl : t.leafLevel = some leaf) :
    t.flatten = { t with hierarchy := [leaf]
                         levels := t.levels.filter
                           (fun kv => !(t.hierarchy.dropLast.contains kv.1)) } := by
  unfold flatten
  rw [hl]

theorem flatten_hierarchy {leaf : Level} (hl : t.leafLevel = some leaf) :
    t.flatten.hierarchy = [leaf] := by
  rw [flatten_eq hl]

theorem flatten_hasHierarchy : t.flatten.hasHierarchy = t.hasHierarchy := by
  unfold flatten; split <;> rfl

theorem flatten_nodesAreStr : t.flatten.nodesAreStr = t.nodesAreStr := by
  unfold flatten; split <;> rfl

theorem flatten_leafLevel {leaf : Level} (hl : t.leafLevel = some leaf) :
    t.flatten.leafLevel = some leaf := by
  unfold leafLevel
  rw [flatten_hierarchy hl]
  rfl

theorem flatten_level_leaf (hn : t.hierarchy.Nodup) {leaf : Level}
    (hl : t.leafLevel = some leaf) : t.flatten.level leaf = t.level leaf := by
  unfold level
  rw [flatten_eq hl]
  simp only
  rw [ListAux.lookup_filter_key (fun k => !(t.hierarchy.dropLast.contains k)), if_pos]
  simpa using leaf_not_mem_dropLast hn hl

theorem flatten_nodesAt_leaf (hn : t.hierarchy.Nodup) {leaf : Level}
    (hl : t.leafLevel = some leaf) : t.flatten.nodesAt leaf = t.nodesAt leaf :=
  nodesAt_congr (flatten_level_leaf hn hl)

theorem flatten_entry_leaf (hn : t.hierarchy.Nodup) {leaf : Level}
    (hl : t.leafLevel = some leaf) (n : Node) : t.flatten.entry leaf n = t.entry leaf n :=
  entry_congr (flatten_level_leaf hn hl) n

theorem flatten_allRows (hn : t.hierarchy.Nodup) : t.flatten.allRows = t.allRows := by
  cases hl : t.leafLevel with
  | none => unfold flatten; rw [hl]
  | some leaf =>
    rw [allRows_of_leaf (flatten_leafLevel hl), allRows_of_leaf hl, flatten_level_leaf hn hl]

theorem flatten_keys {leaf : Level} (hl : t.leafLevel = some leaf) :
    t.flatten.levels.map (·.1) =
      (t.levels.map (·.1)).filter (fun k => !(t.hierarchy.dropLast.contains k)) := by
  rw [flatten_eq hl]
  exact ListAux.map_fst_filter_key (fun k => !(t.hierarchy.dropLast.contains k)) t.levels

theorem flatten_dictOK (d : DictOK t) : DictOK t.flatten := by
  cases hl : t.leafLevel with
  | none => unfold flatten; rw [hl]; exact d
  | some leaf =>
    constructor
    · rw [flatten_keys hl]
      exact d.levelKeys.sublist List.filter_sublist
    · intro l m hm
      rw [flatten_eq hl] at hm
      exact d.nodeKeys l m (List.mem_filter.1 hm).1

theorem flatten_wf (w : WF t) : WF t.flatten := by
  have hl := w.leafLevel_getLast
  have hh := flatten_hierarchy hl
  have s := strict_of_validate w.valid
  have e := hierarchy_eq_dropLast_leaf hl
  have hleaf := leaf_not_mem_dropLast w.hNodup hl
  refine w.transfer (flatten_dictOK w.dict) flatten_hasHierarchy flatten_nodesAreStr ?_ ?_ ?_ ?_ ?_ ?_
  · rw [hh]; exact List.singleton_sublist.2 (List.mem_of_getLast? hl)
  · rw [hh]; simp
  · intro k
    rw [flatten_keys hl, hh, List.mem_filter, List.mem_singleton, s.keys k]
    constructor
    · rintro ⟨hk1, hk2⟩
      rw [e, List.mem_append, List.mem_singleton] at hk1
      exact hk1.resolve_left (by simpa using hk2)
    · rintro rfl
      exact ⟨List.mem_of_getLast? hl, by simpa using hleaf⟩
  · intro l hl' n
    rw [hh, List.mem_singleton] at hl'
    rw [hl', flatten_nodesAt_leaf w.hNodup hl]
  · -- one level, so no pair of adjacent levels
    intro pl cl hm
    rw [hh] at hm
    cases hm
  · rw [flatten_allRows w.hNodup]; exact s.rowsNodup

theorem flatten_validate (w : WF t) : t.flatten.validate = .ok () := (flatten_wf w).valid

theorem flatten_asLeaves {leaf : Level} (hl : t.leafLevel = some leaf) (n : Node) :
    t.flatten.asLeaves leaf n = [n] := by
  unfold asLeaves levelsBelow levelIdx
  rw [flatten_hierarchy hl]
  simp [List.idxOf?, leavesFrom]

/-! #### the normal form: one level, holding the leaf dict -/

theorem flatten_levels_of_leaf (w : WF t) {leaf : Level} (hl : t.leafLevel = some leaf) :
    t.flatten.levels = [(leaf, t.level leaf)] := by
  have s := strict_of_validate w.valid
  have e := hierarchy_eq_dropLast_leaf hl
  have hleafH : leaf ∈ t.hierarchy := by rw [e]; simp
  have hmem : (leaf, t.level leaf) ∈ t.levels := by
    rcases level_mem_or_nil t leaf with h | h
    · exact h
    · obtain ⟨⟨k, m⟩, hm, hk⟩ := List.mem_map.1 (s.hierSub leaf hleafH)
      simp only at hk
      subst hk
      rw [level_of_mem w.dict.levelKeys hm]
      exact hm
  rw [flatten_eq hl]
  simp only
  apply ListAux.filter_eq_singleton_of_nodup_keys (fun k => !(t.hierarchy.dropLast.contains k))
    w.dict.levelKeys hmem
  intro k hk
  have hkH := s.keysSub k hk
  constructor
  · intro hq
    have hq' : k ∉ t.hierarchy.dropLast := by simpa using hq
    rw [e, List.mem_append] at hkH
    rcases hkH with h | h
    · exact absurd h hq'
    · simpa using h
  · rintro rfl
    simpa using leaf_not_mem_dropLast w.hNodup hl

theorem flatten_levels_eq (w : WF t) :
    t.flatten.levels = [(t.hierarchy.getLast w.hNe, t.level (t.hierarchy.getLast w.hNe))] :=
  flatten_levels_of_leaf w w.leafLevel_getLast

theorem flatten_eq_of_leaf (w : WF t) {leaf : Level} (hl : t.leafLevel = some leaf) :
    t.flatten = { hasHierarchy := t.hasHierarchy, hierarchy := [leaf],
                  levels := [(leaf, t.level leaf)], nodesAreStr := t.nodesAreStr } := by
  have h := flatten_levels_of_leaf w hl
  rw [flatten_eq hl] at h ⊢
  simp only at h
  rw [h]

theorem flatten_eq_of_wf (w : WF t) :
    t.flatten = { hasHierarchy := t.hasHierarchy, hierarchy := [t.hierarchy.getLast w.hNe],
                  levels := [(t.hierarchy.getLast w.hNe, t.level (t.hierarchy.getLast w.hNe))],
                  nodesAreStr := t.nodesAreStr } :=
  flatten_eq_of_leaf w w.leafLevel_getLast

theorem flatten_congr {t₁ t₂ : RawTree} (w₁ : WF t₁) (w₂ : WF t₂) {leaf : Level}
    (h₁ : t₁.leafLevel = some leaf) (h₂ : t₂.leafLevel = some leaf)
    (hlev : t₁.level leaf = t₂.level leaf) (hh : t₁.hasHierarchy = t₂.hasHierarchy)
    (hs : t₁.nodesAreStr = t₂.nodesAreStr) : t₁.flatten = t₂.flatten := by
  rw [flatten_eq_of_leaf w₁ h₁, flatten_eq_of_leaf w₂ h₂, hlev, hh, hs]

theorem flatten_flatten (w : WF t) : t.flatten.flatten = t.flatten := by
  have hl := w.leafLevel_getLast
  have w' := flatten_wf w
  rw [flatten_eq_of_leaf w' (flatten_leafLevel hl), flatten_level_leaf w.hNodup hl,
    flatten_hasHierarchy, flatten_nodesAreStr]
  exact (flatten_eq_of_leaf w hl).symm

/-! ### `_drop_level` written apart: `reparent`, `dropLevels`, `dropAt` -/

/-- `new_parent` of `_drop_level`: every node of the level above the dropped one
gets its grandchildren -/
def reparent (t : RawTree) (pl l : Level) : LevelMap :=
  (t.level pl).map (fun (n, cs) => (n, cs.flatMap (fun c => t.entry l c)))

theorem reparent_eq (t : RawTree) (pl l : Level) :
    t.reparent pl l = (t.level pl).map (fun kv => (kv.1, kv.2.flatMap (t.entry l))) := rfl

theorem mem_reparent {pl l : Level} {n : Node} {cs' : List Nat} :
    (n, cs') ∈ t.reparent pl l ↔ ∃ cs, (n, cs) ∈ t.level pl ∧ cs' = cs.flatMap (t.entry l) := by
  rw [reparent_eq, List.mem_map]
  constructor
  · rintro ⟨⟨n0, cs⟩, hm, he⟩
    simp only [Prod.mk.injEq] at he
    obtain ⟨rfl, rfl⟩ := he
    exact ⟨cs, hm, rfl⟩
  · rintro ⟨cs, hm, rfl⟩
    exact ⟨(n, cs), hm, rfl⟩

/-- the `levels` of the result of `_drop_level` on the level of index `i` -/
def dropLevels (t : RawTree) (i : Nat) (hi : i < t.hierarchy.length) : List (Level × LevelMap) :=
  if i = 0 then t.levels.filter (fun kv => kv.1 != t.hierarchy[i])
  else setLevel (t.levels.filter (fun kv => kv.1 != t.hierarchy[i]))
    (t.hierarchy[i-1]'(by omega)) (t.reparent (t.hierarchy[i-1]'(by omega)) t.hierarchy[i])

/-- the tree that `_drop_level` on the level of index `i` hands to the constructor -/
def dropAt (t : RawTree) (i : Nat) (hi : i < t.hierarchy.length) : RawTree :=
  { t with hierarchy := t.hierarchy.eraseIdx i, levels := t.dropLevels i hi }

theorem dropLevels_keys {i : Nat} (hi : i < t.hierarchy.length) :
    (t.dropLevels i hi).map (·.1) = (t.levels.map (·.1)).filter (· != t.hierarchy[i]) := by
  unfold dropLevels
  split
  · exact ListAux.map_fst_filter_key (· != t.hierarchy[i]) t.levels
  · rw [setLevel_keys]
    exact ListAux.map_fst_filter_key (· != t.hierarchy[i]) t.levels

theorem dropLevels_lookup_dropped {i : Nat} (hi : i < t.hierarchy.length) :
    (t.dropLevels i hi).lookup t.hierarchy[i] = none := by
  rw [ListAux.lookup_eq_none_iff_keys, dropLevels_keys, List.mem_filter]
  simp

theorem dropLevels_lookup_other {i : Nat} (hi : i < t.hierarchy.length) {k : Level}
    (hk : k ≠ t.hierarchy[i]) (hp : (k, t.hierarchy[i]) ∉ levelPairs t.hierarchy) :
    (t.dropLevels i hi).lookup k = t.levels.lookup k := by
  have hq : (fun x => x != t.hierarchy[i]) k = true := by simpa using hk
  unfold dropLevels
  split
  · exact (ListAux.lookup_filter_key (· != t.hierarchy[i]) t.levels k).trans (if_pos hq)
  · have hne : k ≠ t.hierarchy[i-1]'(by omega) :=
      fun e => hp (e ▸ mem_levelPairs_pred hi (by omega))
    rw [lookup_setLevel_ne _ hne]
    exact (ListAux.lookup_filter_key (· != t.hierarchy[i]) t.levels k).trans (if_pos hq)

theorem dropLevels_lookup_parent (hn : t.hierarchy.Nodup) {i : Nat} (hi : i < t.hierarchy.length)
    {P : Level} (hP : (P, t.hierarchy[i]) ∈ levelPairs t.hierarchy) :
    (t.dropLevels i hi).lookup P =
      (t.levels.lookup P).map (fun _ => t.reparent P t.hierarchy[i]) := by
  obtain ⟨h0, rfl⟩ := eq_pred_of_mem_levelPairs hn hi hP
  have hne : t.hierarchy[i-1]'(by omega) ≠ t.hierarchy[i] :=
    ListAux.getElem_ne_of_nodup hn (Nat.ne_of_lt (Nat.sub_lt h0 Nat.one_pos))
  have hq : (fun x => x != t.hierarchy[i]) (t.hierarchy[i-1]'(by omega)) = true := by
    simpa using hne
  unfold dropLevels
  rw [if_neg (by omega), lookup_setLevel, if_pos rfl]
  rw [ListAux.lookup_filter_key (· != t.hierarchy[i]) t.levels, if_pos hq]

/-! ### the levels of `dropAt`

`P` is the level right above the dropped one, `(P, t.hierarchy[i]) ∈ levelPairs t.hierarchy`. -/

section dropAt
variable {i : Nat} {P : Level}

theorem dropAt_hierarchy (hi : i < t.hierarchy.length) :
    (t.dropAt i hi).hierarchy = t.hierarchy.eraseIdx i := rfl

theorem dropAt_levels (hi : i < t.hierarchy.length) :
    (t.dropAt i hi).levels = t.dropLevels i hi := rfl

theorem dropAt_keys (hi : i < t.hierarchy.length) :
    (t.dropAt i hi).levels.map (·.1) = (t.levels.map (·.1)).filter (· != t.hierarchy[i]) :=
  dropLevels_keys hi

theorem dropAt_level_other (hi : i < t.hierarchy.length) {k : Level}
    (hk : k ≠ t.hierarchy[i]) (hp : (k, t.hierarchy[i]) ∉ levelPairs t.hierarchy) :
    (t.dropAt i hi).level k = t.level k :=
  congrArg (·.getD []) (dropLevels_lookup_other hi hk hp)

theorem dropAt_level_reparent (hn : t.hierarchy.Nodup) (hi : i < t.hierarchy.length)
    (hP : (P, t.hierarchy[i]) ∈ levelPairs t.hierarchy) :
    (t.dropAt i hi).level P = t.reparent P t.hierarchy[i] := by
  unfold level
  rw [dropAt_levels, dropLevels_lookup_parent hn hi hP]
  cases h : t.levels.lookup P with
  | none => simp [reparent, level, h]
  | some m => rfl

theorem dropAt_nodesAt (hn : t.hierarchy.Nodup) (hi : i < t.hierarchy.length) {k : Level}
    (hk : k ≠ t.hierarchy[i]) : (t.dropAt i hi).nodesAt k = t.nodesAt k := by
  by_cases hP : (k, t.hierarchy[i]) ∈ levelPairs t.hierarchy
  · unfold nodesAt
    rw [dropAt_level_reparent hn hi hP, reparent_eq, List.map_map]
    rfl
  · exact nodesAt_congr (dropAt_level_other hi hk hP)

theorem dropAt_entry_parent (hn : t.hierarchy.Nodup) (hi : i < t.hierarchy.length)
    (hP : (P, t.hierarchy[i]) ∈ levelPairs t.hierarchy) (n : Node) :
    (t.dropAt i hi).entry P n = (t.entry P n).flatMap (t.entry t.hierarchy[i]) := by
  unfold entry
  rw [dropAt_level_reparent hn hi hP, reparent_eq,
    ListAux.lookup_map_snd (fun cs : List Nat => cs.flatMap (t.entry t.hierarchy[i]))]
  cases (t.level P).lookup n <;> rfl

theorem dropAt_entry_other (hi : i < t.hierarchy.length) {k : Level}
    (hk : k ≠ t.hierarchy[i]) (hp : (k, t.hierarchy[i]) ∉ levelPairs t.hierarchy) (n : Node) :
    (t.dropAt i hi).entry k n = t.entry k n :=
  entry_congr (dropAt_level_other hi hk hp) n

end dropAt

/-! ### `dropLevelRaw` returns `dropAt` -/

theorem dropLevelRaw_eq (hn : t.hierarchy.Nodup) {i : Nat} (hi : i < t.hierarchy.length)
    (h2 : t.hierarchy.length ≠ 1) {allowLeaf : Bool}
    (hl : allowLeaf = true ∨ i + 1 < t.hierarchy.length) :
    t.dropLevelRaw t.hierarchy[i] allowLeaf = .ok (t.dropAt i hi) := by
  have hleaf : (!allowLeaf && some t.hierarchy[i] == t.leafLevel) = false := by
    rcases hl with h | h
    · simp [h]
    · have : ¬ t.leafLevel = some t.hierarchy[i] := by
        rw [leafLevel_getElem_iff hn hi]; omega
      have : (some t.hierarchy[i] == t.leafLevel) = false := by
        apply beq_false_of_ne
        intro e; exact this e.symm
      simp [this]
  unfold dropLevelRaw
  have h1 : (t.hierarchy.length == 1) = false := beq_false_of_ne h2
  simp only [h1, Bool.false_eq_true, if_false, levelIdx_getElem hn hi, hleaf]
  unfold dropAt dropLevels
  by_cases h0 : i = 0
  · subst h0
    simp only [beq_self_eq_true, if_true, List.drop_one, List.eraseIdx_zero]
  · have h0' : (i == 0) = false := beq_false_of_ne h0
    have hp : t.hierarchy[i-1]? = some (t.hierarchy[i-1]'(by omega)) :=
      List.getElem?_eq_getElem (by omega)
    simp only [h0', Bool.false_eq_true, if_false, hp, h0]
    rfl

theorem dropLevelRaw_flat {l : Level} {a : Bool} (h : t.hierarchy.length = 1) :
    t.dropLevelRaw l a = .error .flatTree := by
  simp [dropLevelRaw, h]

theorem dropLevelRaw_not_in {l : Level} {a : Bool} (h : t.hierarchy.length ≠ 1)
    (hl : l ∉ t.hierarchy) : t.dropLevelRaw l a = .error .levelNotInTree := by
  have h1 : (t.hierarchy.length == 1) = false := beq_false_of_ne h
  simp [dropLevelRaw, h1, levelIdx_none_of_not_mem hl]

theorem dropLevelRaw_leaf {l : Level} (h : t.hierarchy.length ≠ 1) (hl : l ∈ t.hierarchy)
    (hleaf : t.leafLevel = some l) : t.dropLevelRaw l false = .error .isLeafLevel := by
  have h1 : (t.hierarchy.length == 1) = false := beq_false_of_ne h
  obtain ⟨i, hi, _, hidx⟩ := levelIdx_of_mem hl
  simp [dropLevelRaw, h1, hidx, hleaf]

/-- A call of `_drop_level` that succeeds returned `dropAt`: what holds of `t.dropAt i hi` holds
of its result. -/
theorem dropLevelRaw_ok_inv (hn : t.hierarchy.Nodup) {i : Nat} (hi : i < t.hierarchy.length)
    {allowLeaf : Bool} {t' : RawTree}
    (ht' : t.dropLevelRaw t.hierarchy[i] allowLeaf = .ok t') :
    t.hierarchy.length ≠ 1 ∧ (allowLeaf = true ∨ i + 1 < t.hierarchy.length) ∧
      t' = t.dropAt i hi := by
  have h2 : t.hierarchy.length ≠ 1 := by
    intro h; rw [dropLevelRaw_flat h] at ht'; cases ht'
  have hl : allowLeaf = true ∨ i + 1 < t.hierarchy.length := by
    cases allowLeaf with
    | true => exact Or.inl rfl
    | false =>
      right
      rcases Nat.lt_or_ge (i+1) t.hierarchy.length with h | h
      · exact h
      · have : t.leafLevel = some t.hierarchy[i] := by
          rw [leafLevel_getElem_iff hn hi]; omega
        rw [dropLevelRaw_leaf h2 (List.getElem_mem hi) this] at ht'
        cases ht'
  refine ⟨h2, hl, ?_⟩
  rw [dropLevelRaw_eq hn hi h2 hl] at ht'
  exact (Except.ok.inj ht').symm

/-! ### the dropped level and the level above it in the result `t'` of a call that succeeded -/

section result
variable {i : Nat} {allowLeaf : Bool} {t' : RawTree}

theorem drop_level_dropped (hn : t.hierarchy.Nodup) (hi : i < t.hierarchy.length)
    (ht' : t.dropLevelRaw t.hierarchy[i] allowLeaf = .ok t') :
    t'.level t.hierarchy[i] = [] ∧ t.hierarchy[i] ∉ t'.levels.map (·.1) := by
  obtain ⟨-, -, rfl⟩ := dropLevelRaw_ok_inv hn hi ht'
  have : t.hierarchy[i] ∉ (t.dropAt i hi).levels.map (·.1) := by
    rw [dropAt_keys, List.mem_filter]; simp
  exact ⟨level_eq_nil_of_not_mem this, this⟩

theorem drop_level_parent (hn : t.hierarchy.Nodup) (hi : i < t.hierarchy.length)
    (ht' : t.dropLevelRaw t.hierarchy[i] allowLeaf = .ok t') (h0 : 0 < i) :
    t'.level (t.hierarchy[i-1]'(by omega)) =
      (t.level (t.hierarchy[i-1]'(by omega))).map
        (fun (n, cs) => (n, cs.flatMap (fun c => t.entry t.hierarchy[i] c))) := by
  obtain ⟨-, -, rfl⟩ := dropLevelRaw_ok_inv hn hi ht'
  exact dropAt_level_reparent hn hi (mem_levelPairs_pred hi h0)

end result

/-! ### `dropAt` keeps well-formedness -/

section wf
variable {i : Nat}

theorem dropAt_leafLevel_nonleaf (hi : i < t.hierarchy.length) (hnl : i + 1 < t.hierarchy.length) :
    (t.dropAt i hi).leafLevel = t.leafLevel := by
  unfold leafLevel
  rw [dropAt_hierarchy, List.getLast?_eq_getElem?, List.getLast?_eq_getElem?,
    List.getElem?_eraseIdx, List.length_eraseIdx, if_pos hi, if_neg (by omega)]
  congr 1
  omega

theorem dropAt_leafLevel_leaf (hn : t.hierarchy.Nodup) (hi : i < t.hierarchy.length)
    (hlf : i + 1 = t.hierarchy.length) {P : Level}
    (hP : (P, t.hierarchy[i]) ∈ levelPairs t.hierarchy) : (t.dropAt i hi).leafLevel = some P := by
  obtain ⟨h0, rfl⟩ := eq_pred_of_mem_levelPairs hn hi hP
  unfold leafLevel
  rw [dropAt_hierarchy, List.getLast?_eq_getElem?,
    List.getElem?_eraseIdx, List.length_eraseIdx, if_pos hi, if_pos (by omega)]
  have e : t.hierarchy.length - 1 - 1 = i - 1 := by omega
  rw [e]
  exact List.getElem?_eq_getElem _

theorem dropAt_level_leafLevel_nonleaf (hn : t.hierarchy.Nodup) (hi : i < t.hierarchy.length)
    (hnl : i + 1 < t.hierarchy.length) :
    (t.dropAt i hi).level (t.hierarchy[t.hierarchy.length - 1]'(by omega)) =
      t.level (t.hierarchy[t.hierarchy.length - 1]'(by omega)) :=
  dropAt_level_other hi (ListAux.getElem_ne_of_nodup hn (by omega))
    (fun hm => let ⟨_, e⟩ := eq_pred_of_mem_levelPairs hn hi hm
      ListAux.getElem_ne_of_nodup hn (by omega) e)

theorem dropAt_allRows_nonleaf (hn : t.hierarchy.Nodup) (hi : i < t.hierarchy.length)
    (hnl : i + 1 < t.hierarchy.length) : (t.dropAt i hi).allRows = t.allRows := by
  have hl := leafLevel_eq (t := t) (List.ne_nil_of_length_pos (by omega))
  rw [allRows_of_leaf ((dropAt_leafLevel_nonleaf hi hnl).trans hl), allRows_of_leaf hl,
    dropAt_level_leafLevel_nonleaf hn hi hnl]

theorem dropAt_allRows_leaf (hn : t.hierarchy.Nodup) (hi : i < t.hierarchy.length)
    (hlf : i + 1 = t.hierarchy.length) {P : Level}
    (hP : (P, t.hierarchy[i]) ∈ levelPairs t.hierarchy) :
    (t.dropAt i hi).allRows = ((t.level P).flatMap (·.2)).flatMap (t.entry t.hierarchy[i]) := by
  rw [allRows_of_leaf (dropAt_leafLevel_leaf hn hi hlf hP), dropAt_level_reparent hn hi hP,
    reparent_eq, List.flatMap_map, List.flatMap_assoc]

theorem dropAt_allRows_perm (s : Strict t) (d : DictOK t) (hn : t.hierarchy.Nodup)
    (hi : i < t.hierarchy.length) (h2 : t.hierarchy.length ≠ 1) :
    (t.dropAt i hi).allRows.Perm t.allRows := by
  rcases Nat.lt_or_ge (i+1) t.hierarchy.length with hnl | hge
  · rw [dropAt_allRows_nonleaf hn hi hnl]
  · have hlf : i + 1 = t.hierarchy.length := by omega
    obtain ⟨j, rfl⟩ : ∃ j, i = j + 1 := ⟨i - 1, by omega⟩
    rw [dropAt_allRows_leaf hn hi hlf (mem_levelPairs_of_idx hi),
      allRows_of_leaf ((leafLevel_getElem_iff hn hi).2 hlf), ← flatMap_entry_nodesAt d t.hierarchy[j+1]]
    refine List.Perm.flatMap_right _ ?_
    have := s.entries_perm_next d (i := j) hi
    rw [flatMap_entry_nodesAt d] at this
    exact this

theorem dropAt_dictOK (d : DictOK t) (hi : i < t.hierarchy.length) : DictOK (t.dropAt i hi) := by
  constructor
  · rw [dropAt_keys]
    exact d.levelKeys.sublist List.filter_sublist
  · intro l m hm
    rw [dropAt_levels] at hm
    unfold dropLevels at hm
    split at hm
    · exact d.nodeKeys l m (List.mem_filter.1 hm).1
    · rcases mem_setLevel hm with ⟨_, h⟩ | ⟨_, rfl, _⟩
      · exact d.nodeKeys l m (List.mem_filter.1 h).1
      · rw [reparent_eq, List.map_map]
        exact d.nodesAt_nodup _

/-- the link from `P` down to `D` and the link from `D` down compose: the nodes of `P` with their
grandchildren are linked to what lies below `D` -/
theorem Link.comp {P D : Level} {kids : List Node} (lP : Link (t.level P) (t.nodesAt D))
    (d : DictOK t) (lD : Link (t.level D) kids) : Link (t.reparent P D) kids := by
  have hmid : ∀ {n cs}, (n, cs) ∈ t.level P → ∀ m, m ∈ cs → (m, t.entry D m) ∈ t.level D :=
    fun hcs m hm => mem_level_entry (lP.childExists _ _ hcs m hm)
  refine ⟨?_, ?_, ?_, ?_, ?_⟩
  · intro n cs' hm' c hc
    obtain ⟨cs, hcs, rfl⟩ := mem_reparent.1 hm'
    obtain ⟨m, hmcs, hcm⟩ := List.mem_flatMap.1 hc
    exact lD.childExists m _ (hmid hcs m hmcs) c hcm
  · intro c hc
    obtain ⟨m, cs2, hm2, hc2⟩ := lD.hasParent c hc
    obtain ⟨n, cs, hn', hmcs⟩ := lP.hasParent m (mem_nodesAt.2 ⟨cs2, hm2⟩)
    refine ⟨n, cs.flatMap (t.entry D), mem_reparent.2 ⟨cs, hn', rfl⟩, ?_⟩
    exact List.mem_flatMap.2 ⟨m, hmcs, by rw [entry_of_mem d hm2]; exact hc2⟩
  · intro n₁ cs₁' n₂ cs₂' hm₁ hm₂ c hc₁ hc₂
    obtain ⟨cs₁, hcs₁, rfl⟩ := mem_reparent.1 hm₁
    obtain ⟨cs₂, hcs₂, rfl⟩ := mem_reparent.1 hm₂
    obtain ⟨m₁, hm₁cs, hcm₁⟩ := List.mem_flatMap.1 hc₁
    obtain ⟨m₂, hm₂cs, hcm₂⟩ := List.mem_flatMap.1 hc₂
    obtain rfl : m₁ = m₂ :=
      lD.oneParent m₁ _ m₂ _ (hmid hcs₁ m₁ hm₁cs) (hmid hcs₂ m₂ hm₂cs) c hcm₁ hcm₂
    exact lP.oneParent n₁ cs₁ n₂ cs₂ hcs₁ hcs₂ m₁ hm₁cs hm₂cs
  · -- a child of `n` has a child of its own
    intro n cs' hm'
    obtain ⟨cs, hcs, rfl⟩ := mem_reparent.1 hm'
    obtain ⟨m, hm⟩ := List.exists_mem_of_ne_nil _ (lP.childNe n cs hcs)
    obtain ⟨c, hc⟩ := List.exists_mem_of_ne_nil _ (lD.childNe m _ (hmid hcs m hm))
    exact List.ne_nil_of_mem (List.mem_flatMap.2 ⟨m, hm, hc⟩)
  · intro n cs' hm'
    obtain ⟨cs, hcs, rfl⟩ := mem_reparent.1 hm'
    exact ListAux.nodup_flatMap_of_eq (lP.childNodup n cs hcs)
      (fun m hm => lD.childNodup m _ (hmid hcs m hm))
      (fun m hm m' hm' c hc hc' =>
        lD.oneParent m _ m' _ (hmid hcs m hm) (hmid hcs m' hm') c hc hc')

/-- adjacent levels of the result: an old pair away from the dropped level, or the pair across
the gap, linked by the composition of the two old links -/
theorem dropAt_link (s : Strict t) (d : DictOK t) (hn : t.hierarchy.Nodup)
    (hi : i < t.hierarchy.length) {pl cl : Level}
    (hm : (pl, cl) ∈ levelPairs (t.dropAt i hi).hierarchy) :
    Link ((t.dropAt i hi).level pl) ((t.dropAt i hi).nodesAt cl) := by
  rw [dropAt_hierarchy] at hm
  rcases mem_levelPairs_eraseIdx hn hi hm with ⟨hold, hpl, hcl⟩ | ⟨hP, hC⟩
  · rw [dropAt_level_other hi hpl (fun hp => hcl (levelPairs_fst_unique hn hold hp)),
      dropAt_nodesAt hn hi hcl]
    exact s.link hold
  · have hcl : cl ≠ t.hierarchy[i] := by
      obtain ⟨j, _, e, rfl⟩ := mem_levelPairs.1 hC
      obtain rfl : i = j := (List.getElem_inj hn).1 e.symm
      exact ListAux.getElem_ne_of_nodup hn (Nat.succ_ne_self i)
    rw [dropAt_level_reparent hn hi hP, dropAt_nodesAt hn hi hcl]
    exact (s.link hP).comp d (s.link hC)

theorem dropAt_mem_hierarchy (hn : t.hierarchy.Nodup) (hi : i < t.hierarchy.length) {l : Level} :
    l ∈ (t.dropAt i hi).hierarchy ↔ l ∈ t.hierarchy ∧ l ≠ t.hierarchy[i] := by
  rw [dropAt_hierarchy, List.mem_eraseIdx_iff_getElem]
  constructor
  · rintro ⟨j, hj, hji, rfl⟩
    exact ⟨List.getElem_mem hj, ListAux.getElem_ne_of_nodup hn hji⟩
  · rintro ⟨hl, hne⟩
    obtain ⟨j, hj, rfl⟩ := List.getElem_of_mem hl
    exact ⟨j, hj, fun e => hne (by subst e; rfl), rfl⟩

theorem dropAt_wf (w : WF t) (hi : i < t.hierarchy.length) (h2 : t.hierarchy.length ≠ 1) :
    WF (t.dropAt i hi) := by
  have hn := w.hNodup
  have s := strict_of_validate w.valid
  refine w.transfer (dropAt_dictOK w.dict hi) rfl rfl (List.eraseIdx_sublist _ _) ?_ ?_ ?_
    (fun pl cl hm => dropAt_link s w.dict hn hi hm)
    ((dropAt_allRows_perm s w.dict hn hi h2).symm.nodup s.rowsNodup)
  · intro e
    have hlen : (t.dropAt i hi).hierarchy.length = 0 := by rw [e]; rfl
    rw [dropAt_hierarchy, List.length_eraseIdx, if_pos hi] at hlen
    omega
  · intro k
    rw [dropAt_keys, List.mem_filter, dropAt_mem_hierarchy hn hi, s.keys k]
    simp
  · intro l hl n
    rw [dropAt_nodesAt hn hi ((dropAt_mem_hierarchy hn hi).1 hl).2]

theorem dropLevelRaw_wf (w : WF t) (hi : i < t.hierarchy.length) {allowLeaf : Bool} {t' : RawTree}
    (ht' : t.dropLevelRaw t.hierarchy[i] allowLeaf = .ok t') : WF t' := by
  obtain ⟨h2, -, rfl⟩ := dropLevelRaw_ok_inv w.hNodup hi ht'
  exact dropAt_wf w hi h2

end wf

/-- `_drop_level` on a well-formed tree: the re-validation in the constructor of
the new tree never fails -/
theorem dropLevel_eq_ok (w : WF t) {i : Nat} (hi : i < t.hierarchy.length)
    (h2 : 2 ≤ t.hierarchy.length) {allowLeaf : Bool}
    (hl : allowLeaf = true ∨ i + 1 < t.hierarchy.length) :
    t.dropLevel t.hierarchy[i] allowLeaf = .ok (t.dropAt i hi) ∧ WF (t.dropAt i hi) := by
  have w' := dropAt_wf w hi (Nat.ne_of_gt h2)
  exact ⟨dropLevel_eq_ok_iff.2 ⟨dropLevelRaw_eq w.hNodup hi (Nat.ne_of_gt h2) hl, w'.valid⟩, w'⟩

/-! ### `flatten` after `dropLevel` of a non-leaf level -/

theorem flatten_drop_eq (w : WF t) {i : Nat} (hi : i + 1 < t.hierarchy.length)
    {allowLeaf : Bool} {t' : RawTree}
    (ht' : t.dropLevel (t.hierarchy[i]'(by omega)) allowLeaf = .ok t') :
    t'.flatten = t.flatten := by
  have hi' : i < t.hierarchy.length := by omega
  obtain ⟨h2, -, rfl⟩ := dropLevelRaw_ok_inv w.hNodup hi' (dropLevelRaw_of_dropLevel ht')
  have hl := leafLevel_eq w.hNe
  exact flatten_congr (dropAt_wf w hi' h2) w ((dropAt_leafLevel_nonleaf hi' hi).trans hl) hl
    (dropAt_level_leafLevel_nonleaf w.hNodup hi' hi) rfl rfl

/-! ### `dropAt` of a non-leaf level keeps the leaves -/

/-- Level `D` of the hierarchy `h` is taken out of the levels walked through: the entries of the
level right above it become the grandchildren, every other level dict stays, and the leaves stay.
(`flatMap_assoc` at the level above `D`, congruence elsewhere.) -/
theorem leavesSpec_skip {t t' : RawTree} {h : List Level} (hn : h.Nodup) {D : Level}
    (hP : ∀ P, (P, D) ∈ levelPairs h → ∀ n, t'.entry P n = (t.entry P n).flatMap (t.entry D))
    (hlev : ∀ x, x ≠ D → (x, D) ∉ levelPairs h → t'.level x = t.level x) {c : Level}
    {B : List Level} (A : List Level) : ∀ (pre : List Level) (l : Level) (n : Node),
      h = pre ++ l :: (A ++ D :: c :: B) →
      leavesSpec t' (A ++ c :: B) l n = leavesSpec t (A ++ D :: c :: B) l n := by
  induction A with
  | nil =>
    intro pre l n hs
    have hl : (l, D) ∈ levelPairs h := mem_levelPairs_iff_split.2 ⟨pre, c :: B, hs⟩
    have hnd := (List.nodup_append.1 (hs ▸ hn)).2.1
    simp only [List.nil_append, List.nodup_cons] at hnd
    rw [List.nil_append, List.nil_append, leavesSpec, leavesSpec, hP l hl, List.flatMap_assoc]
    congr 1
    funext x
    rw [leavesSpec]
    congr 1
    funext y
    refine leavesSpec_congr B c y (fun z hz => hlev z ?_ (fun hz' => ?_))
    · rintro rfl; exact hnd.2.1 hz
    · obtain rfl := levelPairs_snd_unique hn hz' hl
      exact hnd.1 (List.mem_cons_of_mem _ hz)
  | cons a A ih =>
    intro pre l n hs
    have hla : (l, a) ∈ levelPairs h := mem_levelPairs_iff_split.2 ⟨pre, A ++ D :: c :: B, hs⟩
    have hnd := (List.nodup_append.1 (hs ▸ hn)).2.1
    rw [List.cons_append, List.nodup_cons, List.nodup_cons] at hnd
    have hlD : l ≠ D := by rintro rfl; exact hnd.1 (by simp)
    have hlP : (l, D) ∉ levelPairs h := by
      intro hm
      obtain rfl := levelPairs_fst_unique hn hla hm
      exact hnd.2.1 (by simp)
    rw [List.cons_append, List.cons_append, leavesSpec, leavesSpec, entry_congr (hlev l hlD hlP)]
    congr 1
    funext c'
    exact ih (pre ++ [l]) a c' (hs.trans (List.append_cons pre l _))

section leaves
variable {i : Nat}

theorem dropAt_leavesSpec (hn : t.hierarchy.Nodup) (hi : i < t.hierarchy.length)
    (hnl : i + 1 < t.hierarchy.length)
    {x : Level} (hx : x ∈ t.hierarchy) (hxi : x ≠ t.hierarchy[i]) (n : Node) :
    leavesSpec (t.dropAt i hi) ((t.dropAt i hi).levelsBelow x) x n =
      leavesSpec t (t.levelsBelow x) x n := by
  have hh := dropAt_hierarchy (t := t) hi
  have hn' : (t.dropAt i hi).hierarchy.Nodup := hn.sublist (List.eraseIdx_sublist _ _)
  -- the hierarchy is `pre ++ D :: c :: B`, the new one `pre ++ c :: B`
  have hsplit := ListAux.split_at_idx t.hierarchy hnl
  rw [List.eraseIdx_eq_take_drop_succ, List.drop_eq_getElem_cons hnl] at hh
  generalize t.hierarchy.take i = pre at hsplit hh
  generalize t.hierarchy.drop (i+2) = B at hsplit hh
  rw [hsplit, List.mem_append, List.mem_cons] at hx
  rcases hx with hx | hx | hx
  · obtain ⟨s, A, rfl⟩ := List.append_of_mem hx
    rw [List.append_assoc, List.cons_append] at hsplit hh
    rw [levelsBelow_of_append hn hsplit, levelsBelow_of_append hn' hh]
    exact leavesSpec_skip hn (fun P hP => dropAt_entry_parent hn hi hP)
      (fun z => dropAt_level_other hi) A s x n hsplit
  · exact absurd hx hxi
  · obtain ⟨s, r, hcb⟩ := List.append_of_mem hx
    have h1 : t.hierarchy = (pre ++ t.hierarchy[i] :: s) ++ x :: r :=
      hsplit.trans (by rw [hcb]; simp)
    have h2 : (t.dropAt i hi).hierarchy = (pre ++ s) ++ x :: r := hh.trans (by rw [hcb]; simp)
    rw [levelsBelow_of_append hn h1, levelsBelow_of_append hn' h2]
    obtain ⟨_, hDcB, hdis⟩ := List.nodup_append.1 (hsplit ▸ hn)
    refine leavesSpec_congr r x n (fun z hz => ?_)
    have hz' : z ∈ t.hierarchy[i+1] :: B := hcb ▸ List.mem_append_right _ hz
    refine dropAt_level_other hi ?_ (fun hm => ?_)
    · rintro rfl; exact (List.nodup_cons.1 hDcB).1 hz'
    · -- the level right above `D` stands in `pre`
      obtain ⟨a, b, e⟩ := mem_levelPairs_iff_split.1 hm
      have e' := e.trans (List.append_cons a z _)
      have hpre := (ListAux.split_unique _ _ _ _ _ (e' ▸ hn) (e'.symm.trans hsplit)).1
      exact hdis z (hpre ▸ by simp) z (List.mem_cons_of_mem _ hz') rfl

/-- `as_leaves` of every remaining node: the same leaves (the order may differ:
the Python sorts children at each step, and one step has gone) -/
theorem dropAt_asLeaves (hn : t.hierarchy.Nodup) (hi : i < t.hierarchy.length)
    (hnl : i + 1 < t.hierarchy.length) {l : Level} (hl : l ∈ (t.dropAt i hi).hierarchy) (n : Node) :
    ((t.dropAt i hi).asLeaves l n).Perm (t.asLeaves l n) := by
  obtain ⟨hlt, hli⟩ := (dropAt_mem_hierarchy hn hi).1 hl
  refine (asLeaves_perm_spec _ _ n).trans ?_
  rw [dropAt_leavesSpec hn hi hnl hlt hli n]
  exact (asLeaves_perm_spec t _ n).symm

end leaves

end CTM.RawTree
