/-
  Gathering major slices (`gatherMajors`).  What the copy loop shared by `_load_disjoint_csr`,
  `shuffle_csr_h5ad_rows` and `subset_csc_h5ad_columns` writes is `ofSegs` of the requested slices
  in the requested order (`gather_eq_ofSegs`), and that matrix denotes those rows
  (`toDense_ofSegs_map_segOf`); hence `_load_disjoint_csr`, `CSRRowIterator.get_batch`, the row shuffle and
  the column subset.
-/
import CTM.Lemmas.SparseConcat

namespace CTM.Sparse
open CTM.Chunking

/-! ### `gatherMajors` -/

/-- each of the three callers of the copy loop closes the pointer array with its own expression `t`
for the number of entries written -/
theorem gather_eq_ofSegs {α} (M : Mat α) (order : List Nat) (t : Nat)
    (ht : t = (order.map fun o => (segOf M o).1.length).sum) :
    (⟨(gatherMajors M order).1 ++ [t], (gatherMajors M order).2.1, (gatherMajors M order).2.2⟩ : Mat α)
      = ofSegs (order.map (segOf M)) := by
  unfold gatherMajors ofSegs
  simp only [List.length_map]
  congr 1
  rw [List.range_succ, List.map_append, List.map_cons, List.map_nil, ht]
  congr 1
  unfold segPrefix
  rw [List.take_of_length_le (by simp), List.map_map]
  rfl

theorem gather_data_length {α} (M : Mat α) (order : List Nat)
    (hok : SegsOK (order.map (segOf M))) :
    (gatherMajors M order).2.2.length = (order.map fun o => (segOf M o).1.length).sum := by
  have h1 : (gatherMajors M order).2.2 = (order.map (segOf M)).flatMap (·.2) := rfl
  rw [h1, SegsOK.flatMap_length _ hok, List.flatMap_def, List.length_flatten, List.map_map, List.map_map]
  rfl

theorem toDense_ofSegs_map_segOf {α} (zero : α) (M : Mat α) (nRows nCols : Nat)
    (w : WFptr M.indptr nRows M.indices.length) (hlen : M.data.length = M.indices.length)
    (l : List Nat) (hl : ∀ o ∈ l, o < nRows) :
    toDense zero (ofSegs (l.map (segOf M))) l.length nCols = l.map (rowSpec zero M nCols) := by
  have hd := toDense_ofSegs zero (l.map (segOf M)) (segsOK_map_segOf M nRows w hlen l hl) nCols
  rw [List.length_map, List.map_map] at hd
  exact hd

theorem csrToDense_ofSegs_map_segOf {α} (zero : α) (M : Mat α) (nRows nCols : Nat)
    (w : WFptr M.indptr nRows M.indices.length) (hlen : M.data.length = M.indices.length)
    (hc : ∀ x ∈ M.indices, x < nCols) (l : List Nat) (hl : ∀ o ∈ l, o < nRows) :
    csrToDense zero (ofSegs (l.map (segOf M))) l.length nCols
      = .ok (l.map (rowSpec zero M nCols)) := by
  have w2 := ofSegs_wf (l.map (segOf M))
  have hc2 : ∀ x ∈ (ofSegs (l.map (segOf M))).indices, x < nCols := by
    intro x hx
    simp only [ofSegs, List.mem_flatMap, List.mem_map] at hx
    obtain ⟨s, ⟨o, _, rfl⟩, hx⟩ := hx
    exact hc x ((slice_sublist _ _ _).subset hx)
  rw [List.length_map] at w2
  rw [csrToDense_ok zero _ l.length nCols w2 hc2, toDense_ofSegs_map_segOf zero M nRows nCols w hlen l hl]

/-! ### `_load_disjoint_csr`, `CSRRowIterator.get_batch` -/

theorem loadRuns_ok {α} (M : Mat α) (nRows : Nat)
    (w : WFptr M.indptr nRows M.indices.length) (hlen : M.data.length = M.indices.length)
    (runs : List (Nat × Nat)) (h : ∀ p ∈ runs, p.1 ≤ p.2 ∧ p.2 ≤ nRows) :
    (runs.mapM fun p => loadSparse M p.1 p.2)
      = .ok (runs.map fun p => ofSegs ((rangeOf p).map (segOf M))) :=
  ListAux.mapM_eq_ok_map fun p hp => by
    rw [loadSparse_ok M nRows w p.1 p.2 (h p hp).1 (h p hp).2,
      rowsPart_eq_ofSegs M nRows w hlen p.1 p.2 (h p hp).1 (h p hp).2]

theorem mergeCsr_runs {α} (M : Mat α) (nRows : Nat)
    (w : WFptr M.indptr nRows M.indices.length) (hlen : M.data.length = M.indices.length)
    (runs : List (Nat × Nat)) (h : ∀ p ∈ runs, p.2 ≤ nRows) :
    mergeCsr (runs.map fun p => ofSegs ((rangeOf p).map (segOf M)))
      = ofSegs ((runs.flatMap rangeOf).map (segOf M)) := by
  rw [show (runs.map fun p => ofSegs ((rangeOf p).map (segOf M)))
      = (runs.map fun p => (rangeOf p).map (segOf M)).map ofSegs from (List.map_map (g := ofSegs)).symm,
    mergeCsr_ofSegs, ← List.flatMap_def, List.map_flatMap]
  intro L hL
  obtain ⟨p, hp, rfl⟩ := List.mem_map.mp hL
  exact segsOK_map_segOf M nRows w hlen _ fun o ho =>
    Nat.lt_of_lt_of_le (mem_rangeOf.mp ho).2 (h p hp)

theorem loadDisjoint_ok {α} (M : Mat α) (nRows : Nat)
    (w : WFptr M.indptr nRows M.indices.length) (hlen : M.data.length = M.indices.length)
    (rows : List Nat) (hne : rows ≠ []) (hn : rows.Nodup) (hr : ∀ r ∈ rows, r < nRows) :
    loadDisjoint M rows = .ok (ofSegs (rows.map (segOf M))) := by
  have hs := argsort_map_getD_strict rows hn
  have hperm := argsort_map_getD_perm rows
  have hsegok := segsOK_map_segOf M nRows w hlen
  unfold loadDisjoint
  simp only [bind, Except.bind]
  generalize hsd : (argsort rows).map (rows.getD · 0) = s at hs hperm
  have hsr : ∀ o ∈ s, o < nRows := fun o ho => hr o (hperm.subset ho)
  -- (1) the sorted rows strictly increase, so `np.unique` keeps them and `merge_index_list`
  -- returns runs of consecutive rows that list them in order
  obtain ⟨rs, hmi, hcover, _, _, _, hpos⟩ :=
    mergeIndexList_ok s fun h => hne (List.eq_nil_of_length_eq_zero (h ▸ hperm.length_eq).symm)
  rw [npUnique_of_strict s hs] at hcover
  have hin : ∀ p ∈ rs, p.1 ≤ p.2 ∧ p.2 ≤ nRows := fun p hp => by
    have h1 := hpos p hp
    have := hsr (p.2 - 1) (hcover ▸ List.mem_flatMap.mpr ⟨p, hp, mem_rangeOf.mpr (by omega)⟩)
    omega
  -- (2) loading the runs and merging the pieces gives the canonical matrix of the sorted rows
  rw [hmi]
  simp only
  rw [loadRuns_ok M nRows w hlen rs hin]
  simp only
  rw [mergeCsr_runs M nRows w hlen rs fun p hp => (hin p hp).2, hcover]
  have c : ((ofSegs (s.map (segOf M))).indptr.length != rows.length + 1) = false := by
    simp [ofSegs, hperm.length_eq]
  rw [c]
  simp only [Bool.false_eq_true, if_false, pure, Except.pure]
  congr 1
  -- (3) the step that carries the theorem: slice `(argsort rows).idxOf ii` of the merged matrix
  -- is slice `ii` of the request (`argsort_map_idxOf`): reading in that order undoes the sort
  have hordermap : ((List.range rows.length).map fun ii => (argsort rows).idxOf ii).map
        (segOf (ofSegs (s.map (segOf M))))
      = rows.map (segOf M) := by
    apply List.ext_getElem
    · simp
    · intro ii _ h2
      have hii : ii < rows.length := by simpa using h2
      have e := argsort_map_idxOf rows (rows.getD · 0) hii
      rw [hsd, List.getD_eq_getElem?_getD, List.getElem?_eq_getElem hii, Option.getD_some,
        List.getElem?_eq_some_iff] at e
      obtain ⟨hpos, e⟩ := e
      simp only [List.getElem_map, List.getElem_range]
      rw [segOf_ofSegs _ (hsegok _ hsr) _ (by rwa [List.length_map]), List.getElem_map, e]
  rw [← hordermap]
  exact gather_eq_ofSegs _ _ _ (gather_data_length _ _ (by rw [hordermap]; exact hsegok rows hr))

theorem csrGetBatch_ok {α} (zero : α) (M : Mat α) (nRows nCols : Nat)
    (w : WFptr M.indptr nRows M.indices.length) (hlen : M.data.length = M.indices.length)
    (hc : ∀ x ∈ M.indices, x < nCols)
    (rows : List Nat) (hne : rows ≠ []) (hn : rows.Nodup) (hr : ∀ r ∈ rows, r < nRows) :
    csrGetBatch zero M nCols rows
      = .ok (rows.map fun r => (toDense zero M nRows nCols).getD r []) := by
  unfold csrGetBatch
  rw [loadDisjoint_ok M nRows w hlen rows hne hn hr]
  rw [List.map_congr_left (fun r hr' => toDense_getD zero M nRows nCols (hr r hr'))]
  exact csrToDense_ofSegs_map_segOf zero M nRows nCols w hlen hc rows hr

/-! ### `shuffle_csr_h5ad_rows`, `subset_csc_h5ad_columns` -/

theorem shuffleRows_toDense {α} (zero : α) (M : Mat α) (nRows nCols : Nat)
    (w : WFptr M.indptr nRows M.indices.length) (hlen : M.data.length = M.indices.length)
    (order : List Nat) (hp : order.Perm (List.range nRows)) :
    toDense zero (shuffleRows M order) nRows nCols
      = order.map fun o => (toDense zero M nRows nCols).getD o [] := by
  have ho : ∀ o ∈ order, o < nRows := fun o h => List.mem_range.mp (hp.subset h)
  have hlen2 : order.length = nRows := by rw [hp.length_eq]; simp
  -- the loop closes the pointer array with the source's last pointer: the slice lengths along a
  -- permutation of the rows sum to it
  have ht : (order.map fun o => (segOf M o).1.length).sum = M.indptr.getLast?.getD 0 := by
    rw [w.getLast]
    have h1 : (order.map fun o => (segOf M o).1.length)
        = order.map fun o => ptr M.indptr (o + 1) - ptr M.indptr o := by
      apply List.map_congr_left
      intro o h
      exact (segOf_lengths M nRows w hlen o (ho o h)).1
    rw [h1, (hp.map _).sum_nat, ← rangeOf_zero,
      w.sum_widths (Nat.zero_le _) (Nat.le_refl nRows), w.first, w.last, Nat.sub_zero]
  have hs : shuffleRows M order = ofSegs (order.map (segOf M)) :=
    gather_eq_ofSegs M order _ ht.symm
  subst hlen2
  rw [hs, toDense_ofSegs_map_segOf zero M _ nCols w hlen order ho]
  exact List.map_congr_left fun o h => (toDense_getD zero M _ nCols (ho o h)).symm

theorem subsetColumns_toDense {α} (zero : α) (M : Mat α) (nMajor nMinor : Nat)
    (w : WFptr M.indptr nMajor M.indices.length) (hlen : M.data.length = M.indices.length)
    (chosen : List Nat) (hc : ∀ c ∈ chosen, c < nMajor) :
    toDense zero (subsetColumns M chosen) chosen.length nMinor
      = (isort (fun a b => decide (a ≤ b)) chosen).map (rowSpec zero M nMinor) := by
  have hperm := isort_perm (fun a b : Nat => decide (a ≤ b)) chosen
  have ho : ∀ o ∈ isort (fun a b => decide (a ≤ b)) chosen, o < nMajor :=
    fun o h => hc o (hperm.subset h)
  have ht : ((isort (fun a b => decide (a ≤ b)) chosen).map
        fun c => ptr M.indptr (c + 1) - ptr M.indptr c).sum
      = ((isort (fun a b => decide (a ≤ b)) chosen).map fun o => (segOf M o).1.length).sum := by
    congr 1
    apply List.map_congr_left
    intro o h
    exact (segOf_lengths M nMajor w hlen o (ho o h)).1.symm
  have hs : subsetColumns M chosen
      = ofSegs ((isort (fun a b => decide (a ≤ b)) chosen).map (segOf M)) :=
    gather_eq_ofSegs M _ _ ht
  rw [hs, ← hperm.length_eq]
  exact toDense_ofSegs_map_segOf zero M nMajor nMinor w hlen _ ho

end CTM.Sparse
