import CTM.Lemmas.Tree

/-!
  Every unordered pair of distinct leaves is listed by `leaves_to_compare` (`leafPairs`) under exactly one
  parent of `all_parents` (`leafPairs_cover`, `leafPairs_cover_unique`).  `mem_leafPairs_node_iff` and
  `mem_leafPairs_root_iff` say which: the node that is the ancestor of both while their ancestors one level
  down differ, or the root when their top-level ancestors differ.
-/

namespace CTM.RawTree
variable {t : RawTree}

/-! ### equal ancestors stay equal further up -/

theorem ancestorAt_eq_up (w : WF t) {leaf : Level} (hleaf : t.leafLevel = some leaf) {i : Nat}
    (hi : i + 1 < t.hierarchy.length) {a b : Node}
    (ha : a ∈ t.nodesAt leaf) (hb : b ∈ t.nodesAt leaf)
    (he : t.ancestorAt leaf a t.hierarchy[i+1] = t.ancestorAt leaf b t.hierarchy[i+1]) :
    t.ancestorAt leaf a (t.hierarchy[i]'(by omega)) =
      t.ancestorAt leaf b (t.hierarchy[i]'(by omega)) := by
  obtain rfl := leaf_eq_getElem w hleaf
  have s := strict_of_validate w.valid
  rw [ancestorAt_eq_bind_childToParent s w.hNodup (i := i) (by omega) (by omega) ha,
    ancestorAt_eq_bind_childToParent s w.hNodup (i := i) (by omega) (by omega) hb, he]

theorem ancestorAt_eq_mono (w : WF t) {leaf : Level} (hleaf : t.leafLevel = some leaf) {i j : Nat}
    (hij : i ≤ j) (hj : j < t.hierarchy.length)
    {a b : Node} (ha : a ∈ t.nodesAt leaf) (hb : b ∈ t.nodesAt leaf)
    (he : t.ancestorAt leaf a t.hierarchy[j] = t.ancestorAt leaf b t.hierarchy[j]) :
    t.ancestorAt leaf a (t.hierarchy[i]'(by omega)) =
      t.ancestorAt leaf b (t.hierarchy[i]'(by omega)) := by
  induction j with
  | zero =>
    obtain rfl : i = 0 := by omega
    exact he
  | succ j ih =>
    rcases Nat.eq_or_lt_of_le hij with rfl | hlt
    · exact he
    · exact ih (by omega) (by omega) (ancestorAt_eq_up w hleaf hj ha hb he)

/-- different ancestors stay different further down (parents are functions of children) -/
theorem ancestorAt_ne_mono (w : WF t) {leaf : Level} (hleaf : t.leafLevel = some leaf) {i j : Nat}
    (hij : i ≤ j) (hj : j < t.hierarchy.length)
    {a b : Node} (ha : a ∈ t.nodesAt leaf) (hb : b ∈ t.nodesAt leaf)
    (hne : t.ancestorAt leaf a (t.hierarchy[i]'(by omega)) ≠
      t.ancestorAt leaf b (t.hierarchy[i]'(by omega))) :
    t.ancestorAt leaf a t.hierarchy[j] ≠ t.ancestorAt leaf b t.hierarchy[j] :=
  fun he => hne (ancestorAt_eq_mono w hleaf hij hj ha hb he)

/-! ### the pairs listed under one parent -/

/-- the pairs listed under a list of siblings at level `cl`: the two leaves' ancestors at `cl`
are two different siblings -/
theorem mem_crossPairs_asLeaves (w : WF t) {leaf cl : Level} (hleaf : t.leafLevel = some leaf)
    (hcl : cl ∈ t.hierarchy) {sibs : List Node} (hnd : sibs.Nodup)
    (hsub : ∀ c, c ∈ sibs → c ∈ t.nodesAt cl) {a b : Node}
    (ha : a ∈ t.nodesAt leaf) (hb : b ∈ t.nodesAt leaf) :
    (a, b) ∈ crossPairs (t.asLeaves cl) sibs ↔
      a < b ∧ (∃ c, t.ancestorAt leaf a cl = some c ∧ c ∈ sibs) ∧
      (∃ c, t.ancestorAt leaf b cl = some c ∧ c ∈ sibs) ∧
      t.ancestorAt leaf a cl ≠ t.ancestorAt leaf b cl := by
  have s := strict_of_validate w.valid
  have key : ∀ {c x : Node}, c ∈ sibs → x ∈ t.nodesAt leaf →
      (x ∈ t.asLeaves cl c ↔ t.ancestorAt leaf x cl = some c) :=
    fun hc hx => mem_asLeaves_iff_ancestorAt_lv s w.dict w.hNodup hcl hleaf (hsub _ hc) hx
  obtain ⟨i, hi, rfl⟩ := List.mem_iff_getElem.1 hcl
  rw [mem_crossPairs _ _ (asLeaves_flatMap_nodup s w.hNodup hi hnd hsub)]
  refine and_congr_right fun _ => ⟨?_, ?_⟩
  · rintro ⟨s0, s1, h0, h1, hne, ha0, hb1⟩
    have e0 := (key h0 ha).1 ha0
    have e1 := (key h1 hb).1 hb1
    exact ⟨⟨s0, e0, h0⟩, ⟨s1, e1, h1⟩,
      fun h => hne (Option.some.inj (e0.symm.trans (h.trans e1)))⟩
  · rintro ⟨⟨s0, e0, h0⟩, ⟨s1, e1, h1⟩, hne⟩
    exact ⟨s0, s1, h0, h1, fun h => hne (by rw [e0, e1, h]), (key h0 ha).2 e0, (key h1 hb).2 e1⟩

theorem mem_leafPairs_node_iff (w : WF t) {leaf : Level} (hleaf : t.leafLevel = some leaf) {i : Nat}
    (hi : i + 1 < t.hierarchy.length) {p : Node}
    (hp : p ∈ t.nodesAt (t.hierarchy[i]'(by omega))) {a b : Node}
    (ha : a ∈ t.nodesAt leaf) (hb : b ∈ t.nodesAt leaf) :
    (a, b) ∈ t.leafPairs (some (t.hierarchy[i]'(by omega), p)) ↔
      a < b ∧ t.ancestorAt leaf a (t.hierarchy[i]'(by omega)) = some p ∧
      t.ancestorAt leaf b (t.hierarchy[i]'(by omega)) = some p ∧
      t.ancestorAt leaf a t.hierarchy[i+1] ≠ t.ancestorAt leaf b t.hierarchy[i+1] := by
  obtain rfl := leaf_eq_getElem w hleaf
  have s := strict_of_validate w.valid
  have hn := w.hNodup
  have hL : t.hierarchy.length - 1 < t.hierarchy.length := by omega
  rw [leafPairs_node p (hierarchy_ne_leafLevel w hi)
      (by rw [childLevel_getElem hn (by omega)]; exact List.getElem?_eq_getElem hi),
    mem_crossPairs_asLeaves w hleaf (List.getElem_mem hi) (s.entry_nodup hi hp)
      (fun c hc => s.entry_sub hi hp hc) ha hb,
    ancestorAt_eq_bind_childToParent s hn (i := i) (by omega) hL ha, ancestorAt_eq_bind_childToParent s hn (i := i) (by omega) hL hb]
  simp only [Option.bind_eq_some_iff, childToParent_eq_some_iff s hn hi, isChild_iff w.dict, hp,
    true_and]

theorem mem_leafPairs_root_iff (w : WF t) {leaf : Level} (hleaf : t.leafLevel = some leaf)
    {a b : Node}
    (ha : a ∈ t.nodesAt leaf) (hb : b ∈ t.nodesAt leaf) :
    (a, b) ∈ t.leafPairs none ↔
      a < b ∧
      t.ancestorAt leaf a (t.hierarchy[0]'(by have := List.length_pos_iff.2 w.hNe; omega)) ≠
      t.ancestorAt leaf b (t.hierarchy[0]'(by have := List.length_pos_iff.2 w.hNe; omega)) := by
  have s := strict_of_validate w.valid
  have hlen := List.length_pos_iff.2 w.hNe
  have h0 : t.hierarchy.head? = some t.hierarchy[0] := by
    rw [List.head?_eq_getElem?]; exact List.getElem?_eq_getElem hlen
  have h0m := List.getElem_mem hlen
  rw [leafPairs_root _ h0, mem_crossPairs_asLeaves w hleaf h0m (w.dict.nodesAt_nodup _)
    (fun _ h => h) ha hb, and_iff_right (exists_ancestorAt_lv s w.hNodup h0m hleaf ha),
    and_iff_right (exists_ancestorAt_lv s w.hNodup h0m hleaf hb)]

/-! ### `allParents` -/

/-- `mem_allParents` with the non-leaf level given by its index -/
theorem mem_allParents_some {l : Level} {n : Node} :
    some (l, n) ∈ t.allParents ↔
      ∃ (i : Nat) (hi : i + 1 < t.hierarchy.length),
        t.hierarchy[i]'(by omega) = l ∧ n ∈ t.nodesAt l := by
  rw [mem_allParents, mem_dropLast_hierarchy]
  exact ⟨fun ⟨⟨i, hi, e⟩, hn⟩ => ⟨i, hi, e, hn⟩, fun ⟨i, hi, e, hn⟩ => ⟨⟨i, hi, e⟩, hn⟩⟩

/-! ### every pair under exactly one parent -/

theorem leafPairs_cover (w : WF t) {leaf : Level} (hleaf : t.leafLevel = some leaf) {a b : Node}
    (ha : a ∈ t.nodesAt leaf) (hb : b ∈ t.nodesAt leaf) (hab : a < b) :
    ∃ parent, parent ∈ t.allParents ∧ (a, b) ∈ t.leafPairs parent := by
  have s := strict_of_validate w.valid
  -- walk up from the leaf level to the first level where the ancestors agree
  have key : ∀ k (hk : k < t.hierarchy.length),
      t.ancestorAt leaf a t.hierarchy[k] ≠ t.ancestorAt leaf b t.hierarchy[k] →
      ∃ parent, parent ∈ t.allParents ∧ (a, b) ∈ t.leafPairs parent := by
    intro k
    induction k with
    | zero =>
      intro hk hne
      exact ⟨none, none_mem_allParents, (mem_leafPairs_root_iff w hleaf ha hb).2 ⟨hab, hne⟩⟩
    | succ k ih =>
      intro hk hne
      have hk' := Nat.lt_of_succ_lt hk
      by_cases hd : t.ancestorAt leaf a t.hierarchy[k] = t.ancestorAt leaf b t.hierarchy[k]
      · obtain ⟨p, hpa, hpm⟩ := exists_ancestorAt_lv s w.hNodup (List.getElem_mem hk') hleaf ha
        exact ⟨some (t.hierarchy[k], p), mem_allParents_some.2 ⟨k, hk, rfl, hpm⟩,
          (mem_leafPairs_node_iff w hleaf hk hpm ha hb).2 ⟨hab, hpa, by rw [← hd]; exact hpa, hne⟩⟩
      · exact ih hk' hd
  have e := leaf_eq_getElem w hleaf
  refine key (t.hierarchy.length - 1) (Nat.sub_one_lt (mt List.length_eq_zero_iff.1 w.hNe)) ?_
  rw [← e, ancestorAt_self, ancestorAt_self]
  intro h
  cases h
  exact Nat.lt_irrefl _ hab

theorem leafPairs_cover_unique (w : WF t) {leaf : Level} (hleaf : t.leafLevel = some leaf) {a b : Node}
    (ha : a ∈ t.nodesAt leaf) (hb : b ∈ t.nodesAt leaf)
    {P Q : Option (Level × Node)} (hP : P ∈ t.allParents) (hQ : Q ∈ t.allParents)
    (h1 : (a, b) ∈ t.leafPairs P) (h2 : (a, b) ∈ t.leafPairs Q) : P = Q := by
  -- the root and a node cannot both list the pair
  have rootnode : ∀ {l : Level} {n : Node}, some (l, n) ∈ t.allParents →
      (a, b) ∈ t.leafPairs none → (a, b) ∈ t.leafPairs (some (l, n)) → False := by
    intro l n hm hr hnode
    obtain ⟨i, hi, rfl, hnm⟩ := mem_allParents_some.1 hm
    have r := (mem_leafPairs_root_iff w hleaf ha hb).1 hr
    have nd := (mem_leafPairs_node_iff w hleaf hi hnm ha hb).1 hnode
    exact ancestorAt_ne_mono w hleaf (Nat.zero_le i) (by omega) ha hb r.2 (by rw [nd.2.1, nd.2.2.1])
  -- nor two nodes of different levels
  have nodenode : ∀ {i j : Nat} (hi : i + 1 < t.hierarchy.length) (hj : j + 1 < t.hierarchy.length)
      {p q : Node}, p ∈ t.nodesAt (t.hierarchy[i]'(by omega)) →
      q ∈ t.nodesAt (t.hierarchy[j]'(by omega)) → i < j →
      (a, b) ∈ t.leafPairs (some (t.hierarchy[i]'(by omega), p)) →
      (a, b) ∈ t.leafPairs (some (t.hierarchy[j]'(by omega), q)) → False := by
    intro i j hi hj p q hp hq hij hpi hqj
    have n1 := (mem_leafPairs_node_iff w hleaf hi hp ha hb).1 hpi
    have n2 := (mem_leafPairs_node_iff w hleaf hj hq ha hb).1 hqj
    exact ancestorAt_ne_mono w hleaf (i := i+1) (j := j) (by omega) (by omega) ha hb n1.2.2.2
      (by rw [n2.2.1, n2.2.2.1])
  cases P with
  | none =>
    cases Q with
    | none => rfl
    | some q => exact (rootnode hQ h1 h2).elim
  | some p =>
    cases Q with
    | none => exact (rootnode hP h2 h1).elim
    | some q =>
      obtain ⟨lp, np⟩ := p
      obtain ⟨lq, nq⟩ := q
      obtain ⟨i, hi, rfl, hpm⟩ := mem_allParents_some.1 hP
      obtain ⟨j, hj, rfl, hqm⟩ := mem_allParents_some.1 hQ
      rcases Nat.lt_trichotomy i j with hij | rfl | hij
      · exact (nodenode hi hj hpm hqm hij h1 h2).elim
      · have n1 := (mem_leafPairs_node_iff w hleaf hi hpm ha hb).1 h1
        have n2 := (mem_leafPairs_node_iff w hleaf hi hqm ha hb).1 h2
        have := n1.2.1.symm.trans n2.2.1
        cases this
        rfl
      · exact (nodenode hj hi hqm hpm hij h2 h1).elim

end CTM.RawTree
