/-
  Lemmas for C20 (the path sanitiser): parsed paths, the replacement `safeName`, `is_exposed`,
  and the walk of `sanitize_paths` over a configuration.
-/
import CTM.Model.Sanitize

namespace CTM.Sanitize

/-! ### parsed paths -/

theorem splitOnGo_forall (P : Char → Prop) (sep : Char) (s cur : Str)
    (hc : ∀ c ∈ cur, P c) (hs : ∀ c ∈ s, c ≠ sep → P c) :
    ∀ x ∈ splitOnGo sep cur s, ∀ c ∈ x, P c := by
  induction s generalizing cur with
  | nil =>
    intro x hx
    rw [splitOnGo, List.mem_singleton] at hx
    exact hx ▸ hc
  | cons y ys ih =>
    have hys : ∀ c ∈ ys, c ≠ sep → P c := fun c h => hs c (List.mem_cons_of_mem _ h)
    intro x hx
    rw [splitOnGo] at hx
    split at hx
    · rcases List.mem_cons.mp hx with rfl | hx
      · exact hc
      · exact ih [] (fun _ h => nomatch h) hys x hx
    · rename_i hne
      refine ih (cur ++ [y]) (fun c h => ?_) hys x hx
      rcases List.mem_append.mp h with h | h
      · exact hc c h
      · rw [List.mem_singleton.mp h]
        exact hs y (List.mem_cons_self ..) (by simpa using hne)

theorem parsePath_parts (s : Str) :
    ∀ x ∈ (parsePath s).parts, x ≠ [] ∧ ∀ c ∈ x, c ≠ '/' ∧ c ∈ s := by
  intro x hx
  simp only [parsePath, splitOn, List.mem_filter, Bool.and_eq_true, Bool.not_eq_true',
    List.isEmpty_eq_false_iff] at hx
  exact ⟨hx.2.1, splitOnGo_forall (fun c => c ≠ '/' ∧ c ∈ s) '/' s [] (fun _ h => nomatch h)
    (fun c hc hne => ⟨hne, hc⟩) x hx.1⟩

/-- well-formed path: what `pathlib` guarantees of `parts` -/
def Path.WF (p : Path) : Prop := ∀ x ∈ p.parts, x ≠ [] ∧ '/' ∉ x

theorem parsePath_wf (s : Str) : (parsePath s).WF := fun x hx =>
  ⟨(parsePath_parts s x hx).1, fun h => ((parsePath_parts s x hx).2 _ h).1 rfl⟩

/-- `hc` only says that the name is not empty (without parts the name is `[]`); both callers have a
character of it at hand -/
theorem name_mem_parts {p : Path} {c : Char} (hc : c ∈ p.name) : p.name ∈ p.parts := by
  unfold Path.name at hc ⊢
  cases hl : p.parts.getLast? with
  | none => simp [hl] at hc
  | some x => simpa [hl] using List.mem_of_getLast? hl

theorem name_no_slash (p : Path) (h : p.WF) : '/' ∉ p.name :=
  fun hc => (h _ (name_mem_parts hc)).2 hc

theorem head?_ne_of_not_mem {α} {c : α} {v : List α} (h : c ∉ v) : v.head? ≠ some c :=
  fun e => h (List.mem_of_mem_head? e)

/-! ### `joinSlash` -/

theorem joinSlash_cons (p : Str) (ps : List Str) : ∃ t, joinSlash (p :: ps) = p ++ t := by
  cases ps with
  | nil => exact ⟨[], (List.append_nil p).symm⟩
  | cons q rest => exact ⟨_, rfl⟩

theorem joinSlash_head?_ne_slash (ps : List Str) (h : ∀ x ∈ ps, x ≠ [] ∧ '/' ∉ x) :
    (joinSlash ps).head? ≠ some '/' := by
  cases ps with
  | nil => simp [joinSlash]
  | cons p ps =>
    obtain ⟨t, ht⟩ := joinSlash_cons p ps
    obtain ⟨hne, hns⟩ := h p (List.mem_cons_self ..)
    rw [ht]
    cases p with
    | nil => exact absurd rfl hne
    | cons c cs => exact fun e => hns (Option.some.inj e ▸ List.mem_cons_self ..)

theorem joinSlash_chars (ps : List Str) : ∀ c ∈ joinSlash ps, c = '/' ∨ ∃ p ∈ ps, c ∈ p := by
  intro c hc
  match ps with
  | [] => cases hc
  | [p] => exact Or.inr ⟨p, List.mem_singleton_self p, hc⟩
  | p :: q :: rest =>
    simp only [joinSlash, List.mem_append, List.mem_cons] at hc
    rcases hc with h | h | h
    · exact Or.inr ⟨p, List.mem_cons_self .., h⟩
    · exact Or.inl h
    · exact (joinSlash_chars (q :: rest) c h).imp_right
        fun ⟨p', hp', hc'⟩ => ⟨p', List.mem_cons_of_mem _ hp', hc'⟩

/-! ### `safeName` -/

/-- the outcomes of `safeName`: the bare file name outside the package; inside it `.` for
the package root itself, else trailing components of the resolved path joined by '/' -/
theorem safeName_cases {h : Host} {p : Path} {v : Str} (hv : safeName h p = .ok v) :
    (h.mapperRoot.isPrefixOf (h.resolve p) = false ∧ v = p.name) ∨
    (h.mapperRoot.isPrefixOf (h.resolve p) = true ∧
      (v = ['.'] ∨ ∃ n, v = joinSlash ((parsePath (h.resolve p)).parts.drop n))) := by
  unfold safeName at hv
  by_cases hpre : h.mapperRoot.isPrefixOf (h.resolve p) = true
  · refine Or.inr ⟨hpre, ?_⟩
    simp only [hpre, if_true] at hv
    split at hv
    · cases hv
      split
      · exact Or.inl rfl
      · exact Or.inr ⟨_, rfl⟩
    · cases hv
  · rw [if_neg hpre] at hv
    exact Or.inl ⟨Bool.eq_false_iff.mpr hpre, (Except.ok.inj hv).symm⟩

theorem safeName_head?_ne_slash (h : Host) (p : Path) (hp : p.WF) (v : Str)
    (hv : safeName h p = .ok v) : v.head? ≠ some '/' := by
  rcases safeName_cases hv with ⟨_, rfl⟩ | ⟨_, rfl | ⟨n, rfl⟩⟩
  · exact head?_ne_of_not_mem (name_no_slash p hp)
  · simp
  · exact joinSlash_head?_ne_slash _ fun x hx => parsePath_wf _ x (List.mem_of_mem_drop hx)

/-- every character of a replacement comes from the quote-stripped word, from the resolved
path, or is '/' or '.'; `P` is a parameter because this is used for "no whitespace" and for "no
quote character" (`safeName_wsFree`, `safeName_quoteFree`) -/
theorem safeName_chars (P : Char → Prop) (hs : P '/') (hd : P '.') (h : Host)
    (hres : ∀ p, ∀ c ∈ h.resolve p, P c) (w v : Str)
    (hw : ∀ c ∈ stripQuotes w, P c) (hv : safeName h (wordToPath w) = .ok v) : ∀ c ∈ v, P c := by
  intro c hc
  rcases safeName_cases hv with ⟨_, rfl⟩ | ⟨_, rfl | ⟨n, rfl⟩⟩
  · exact hw c ((parsePath_parts _ _ (name_mem_parts hc)).2 c hc).2
  · rw [List.mem_singleton.mp hc]; exact hd
  · rcases joinSlash_chars _ c hc with rfl | ⟨p, hp, hcp⟩
    · exact hs
    · exact hres _ c ((parsePath_parts _ p (List.mem_of_mem_drop hp)).2 c hcp).2

/-! ### `is_exposed` -/

theorem isExposedRev_of_suffix (ex : Path → Bool) (root : Nat) (rev pre : List Str)
    (hpre : pre ≠ []) (hsuf : pre <:+ rev) (hex : ex ⟨root, pre.reverse⟩ = true) :
    isExposedRev ex root rev = true := by
  induction rev with
  | nil => exact absurd (List.eq_nil_of_suffix_nil hsuf) hpre
  | cons p rest ih =>
    simp only [isExposedRev, Bool.or_eq_true]
    rcases List.suffix_cons_iff.mp hsuf with h | h
    · left; rw [← h]; exact hex
    · right; exact ih h

theorem isExposed_of_ancestor (ex : Path → Bool) (root : Nat) (pre parts : List Str)
    (hpre : pre ≠ []) (hp : pre <+: parts) (hex : ex ⟨root, pre⟩ = true) :
    isExposed ex ⟨root, parts⟩ = true := by
  unfold isExposed
  apply isExposedRev_of_suffix ex root parts.reverse pre.reverse
  · simpa using hpre
  · exact List.reverse_suffix.mpr hp
  · simpa using hex

/-! ### `sanitize_paths` over a configuration -/

theorem sanitizeKvs_spec (h : Host) (xs ys : List (Str × Val))
    (hs : sanitizeKvs h xs = .ok ys) :
    ys.map (·.1) = xs.map (·.1) ∧
    ∀ kv ∈ ys, ∃ v0, (kv.1, v0) ∈ xs ∧ sanitizeVal h v0 = .ok kv.2 := by
  induction xs generalizing ys with
  | nil =>
    simp only [sanitizeKvs, Except.ok.injEq] at hs
    subst hs
    exact ⟨rfl, fun _ h => nomatch h⟩
  | cons x rest ih =>
    obtain ⟨k, v⟩ := x
    simp only [sanitizeKvs] at hs
    split at hs
    · cases hs
    · rename_i y hy
      split at hs
      · cases hs
      · rename_i ys' hys'
        simp only [Except.ok.injEq] at hs
        subst hs
        obtain ⟨ih1, ih2⟩ := ih ys' hys'
        refine ⟨by simp [ih1], fun kv hkv => ?_⟩
        rcases List.mem_cons.mp hkv with rfl | hkv
        · exact ⟨v, List.mem_cons_self .., hy⟩
        · obtain ⟨v0, hm, hv0⟩ := ih2 kv hkv
          exact ⟨v0, List.mem_cons_of_mem _ hm, hv0⟩

theorem popKey_spec (k : Str) (xs ys : List (Str × Val)) (hp : popKey k xs = .ok ys) :
    (∀ kv ∈ ys, kv ∈ xs ∧ kv.1 ≠ k) ∧ (∀ kv ∈ xs, kv.1 ≠ k → kv ∈ ys) := by
  unfold popKey at hp
  split at hp
  · simp only [Except.ok.injEq] at hp
    subst hp
    exact ⟨fun kv h => by simpa using List.mem_filter.mp h,
      fun kv h hne => List.mem_filter.mpr ⟨h, by simpa using hne⟩⟩
  · cases hp

/-- `safe_config.pop('extended_result_dir')` on a configuration without that key: whatever
the sanitiser does, a cloud-safe `run_mapping` ends with an error -/
theorem safeConfig_missing_key (h : Host) (config : List (Str × Val))
    (hk : keyExtDir ∉ config.map (·.1)) : ∃ e, safeConfig h true config = .error e := by
  simp only [safeConfig, if_true]
  cases hc : sanitizeKvs h config with
  | error e => exact ⟨_, rfl⟩
  | ok c =>
    have : (c.any fun kv => kv.1 == keyExtDir) = false := by
      rw [List.any_eq_false]
      intro kv hkv he
      rw [← (sanitizeKvs_spec h config c hc).1] at hk
      exact hk (List.mem_map.mpr ⟨kv, hkv, by simpa using he⟩)
    exact ⟨_, by simp only [popKey, this]; rfl⟩

end CTM.Sanitize
