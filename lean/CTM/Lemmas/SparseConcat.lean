/-
  `ofSegs segs`, the compressed matrix whose slices are `segs` (pointer array = prefix sums of the
  slice lengths), is the normal form of this development: every well-formed matrix, and every run
  of rows `_load_sparse` cuts out of one, is `ofSegs` of its slices (`eq_ofSegs_of_wf`,
  `rowsPart_eq_ofSegs`); every later result has the shape `… = ofSegs (l.map …)`, and
  `toDense_ofSegs` then reads the dense matrix off.

  The three concatenations (`merge_csr`, `amalgamate_csr_to_x`, the joining loop of the parallel
  transposition) are `concatAux` with different ways of finding a piece's entry count; on `ofSegs`
  pieces each gives `ofSegs` of the concatenated slices, hence stacks the dense matrices
  (`concat_toDense`).
-/
import CTM.Lemmas.SparseBatch

namespace CTM.Sparse
open CTM.Chunking

abbrev Seg (α : Type) := List Nat × List α

/-- prefix sum of the segment lengths -/
def segPrefix {α} (segs : List (Seg α)) (k : Nat) : Nat := ((segs.take k).map (·.1.length)).sum

/-- the compressed matrix whose major slices are the given segments -/
def ofSegs {α} (segs : List (Seg α)) : Mat α :=
  ⟨(List.range (segs.length + 1)).map (segPrefix segs), segs.flatMap (·.1), segs.flatMap (·.2)⟩

/-! ### `segPrefix`, `ofSegs` -/

theorem segPrefix_append_left {α} (a b : List (Seg α)) (k : Nat) (hk : k ≤ a.length) :
    segPrefix (a ++ b) k = segPrefix a k := by
  unfold segPrefix
  rw [List.take_append_of_le_length hk]

theorem segPrefix_append_right {α} (a b : List (Seg α)) (k : Nat) :
    segPrefix (a ++ b) (a.length + k) = segPrefix a a.length + segPrefix b k := by
  unfold segPrefix
  rw [List.take_append, List.take_of_length_le (by omega)]
  simp

theorem segPrefix_total {α} (a : List (Seg α)) :
    segPrefix a a.length = (a.flatMap (·.1)).length := by
  unfold segPrefix
  rw [List.take_length, List.flatMap_def, List.length_flatten, List.map_map]
  rfl

theorem segPrefix_mono {α} (segs : List (Seg α)) {i j : Nat} (h : i ≤ j) :
    segPrefix segs i ≤ segPrefix segs j := by
  unfold segPrefix
  have : segs.take j = (segs.take j).take i ++ (segs.take j).drop i := (List.take_append_drop i _).symm
  rw [this, List.take_take, Nat.min_eq_left h, List.map_append, List.sum_append]
  omega

def SegsOK {α} (segs : List (Seg α)) : Prop := ∀ s ∈ segs, s.1.length = s.2.length

theorem SegsOK.flatMap_length {α} (a : List (Seg α)) (h : SegsOK a) :
    (a.flatMap (·.2)).length = (a.flatMap (·.1)).length := by
  induction a with
  | nil => rfl
  | cons s rest ih =>
    simp only [List.flatMap_cons, List.length_append]
    rw [ih (fun x hx => h x (by simp [hx])), h s (by simp)]

theorem ofSegs_data_length {α} (segs : List (Seg α)) (h : SegsOK segs) :
    (ofSegs segs).data.length = (ofSegs segs).indices.length := SegsOK.flatMap_length segs h

theorem ptr_ofSegs {α} (segs : List (Seg α)) (k : Nat) (hk : k ≤ segs.length) :
    ptr (ofSegs segs).indptr k = segPrefix segs k := by
  unfold ofSegs
  exact ptr_map_range _ _ _ (by omega)

theorem ofSegs_wf {α} (segs : List (Seg α)) :
    WFptr (ofSegs segs).indptr segs.length (ofSegs segs).indices.length := by
  constructor
  · simp [ofSegs]
  · unfold ofSegs
    simp only
    rw [List.pairwise_map]
    apply List.Pairwise.imp _ List.pairwise_lt_range
    intro a b hab
    exact segPrefix_mono segs (by omega)
  · rw [ptr_ofSegs segs 0 (by omega)]; simp [segPrefix]
  · rw [ptr_ofSegs segs segs.length (Nat.le_refl _), segPrefix_total]; rfl

theorem ofSegs_last {α} (segs : List (Seg α)) :
    (ofSegs segs).indptr.getLast?.getD 0 = (ofSegs segs).indices.length :=
  (ofSegs_wf segs).getLast

theorem ofSegs_indptr_dropLast {α} (segs : List (Seg α)) :
    (ofSegs segs).indptr.dropLast = (List.range segs.length).map (segPrefix segs) := by
  unfold ofSegs
  simp only
  rw [List.range_succ, List.map_append, List.map_cons, List.map_nil, List.dropLast_concat]

theorem segOf_ofSegs {α} (segs : List (Seg α)) (hok : SegsOK segs) (k : Nat)
    (hk : k < segs.length) : segOf (ofSegs segs) k = segs[k] := by
  unfold segOf
  rw [ptr_ofSegs segs k (by omega), ptr_ofSegs segs (k + 1) (by omega)]
  have h1 : (ofSegs segs).indices = (segs.map (·.1)).flatten := by
    unfold ofSegs; simp [List.flatMap_def]
  have h2 : (ofSegs segs).data = (segs.map (·.2)).flatten := by
    unfold ofSegs; simp [List.flatMap_def]
  have hp : ∀ j, segPrefix segs j = (((segs.map (·.1)).take j).map List.length).sum := by
    intro j; unfold segPrefix; rw [← List.map_take, List.map_map]; rfl
  have hp2 : ∀ j, segPrefix segs j = (((segs.map (·.2)).take j).map List.length).sum := by
    intro j
    unfold segPrefix
    rw [← List.map_take, List.map_map]
    congr 1
    apply List.map_congr_left
    intro s hs
    exact hok s ((List.take_sublist _ _).subset hs)
  rw [h1, h2]
  have e1 := slice_flatten (segs.map (·.1)) k (by simpa using hk)
  have e2 := slice_flatten (segs.map (·.2)) k (by simpa using hk)
  rw [← hp, ← hp] at e1
  rw [← hp2, ← hp2] at e2
  rw [e1, e2]
  simp

theorem toDense_ofSegs {α} (zero : α) (segs : List (Seg α)) (hok : SegsOK segs) (nCols : Nat) :
    toDense zero (ofSegs segs) segs.length nCols
      = segs.map fun s => scatter zero nCols s.1 s.2 :=
  toDense_eq_map zero _ nCols segs (segOf_ofSegs segs hok)

/-! ### a well-formed matrix is `ofSegs` of its slices -/

theorem segsOK_map_segOf {α} (M : Mat α) (nRows : Nat) (w : WFptr M.indptr nRows M.indices.length)
    (hlen : M.data.length = M.indices.length) (l : List Nat) (hl : ∀ o ∈ l, o < nRows) :
    SegsOK (l.map (segOf M)) := by
  intro s hs
  obtain ⟨o, ho, rfl⟩ := List.mem_map.mp hs
  have := segOf_lengths M nRows w hlen o (hl o ho)
  omega

theorem eq_ofSegs_of_wf {α} (M : Mat α) (nRows : Nat) (w : WFptr M.indptr nRows M.indices.length)
    (hlen : M.data.length = M.indices.length) :
    M = ofSegs ((List.range nRows).map (segOf M)) := by
  have hl := w.len
  -- the slices `[ptr o, ptr (o+1))` tile `[0, nnz)`: their lengths sum to the pointers and they
  -- concatenate to the whole array
  have hpre : ∀ k, k ≤ nRows → segPrefix ((List.range nRows).map (segOf M)) k = ptr M.indptr k := by
    intro k hk
    have e : (List.range k).map ((fun s : Seg α => s.1.length) ∘ segOf M)
        = (rangeOf (0, k)).map fun o => ptr M.indptr (o + 1) - ptr M.indptr o := by
      rw [rangeOf_zero]
      exact List.map_congr_left fun o ho =>
        (segOf_lengths M nRows w hlen o (by have := List.mem_range.mp ho; omega)).1
    unfold segPrefix
    rw [← List.map_take, List.take_range, Nat.min_eq_left hk, List.map_map, e,
      w.sum_widths (Nat.zero_le _) hk, w.first, Nat.sub_zero]
  have hcat : ∀ {β} (l : List β), l.length = M.indices.length →
      (List.range nRows).flatMap (fun o => slice l (ptr M.indptr o) (ptr M.indptr (o + 1))) = l := by
    intro β l h
    rw [← rangeOf_zero, w.flatMap_slice l (Nat.zero_le _) (Nat.le_refl _), w.first, w.last, ← h]
    exact slice_zero_length l
  obtain ⟨ip, ind, dat⟩ := M
  unfold ofSegs
  congr 1
  · apply List.ext_getElem
    · simp [hl]
    · intro k h1 _
      have hl' : ip.length = nRows + 1 := hl
      rw [List.getElem_map, List.getElem_range, hpre k (by omega), ptr_eq_getElem _ _ h1]
  · rw [List.flatMap_map]; exact (hcat ind rfl).symm
  · rw [List.flatMap_map]; exact (hcat dat hlen).symm

theorem rowsPart_eq_ofSegs {α} (M : Mat α) (nRows : Nat)
    (w : WFptr M.indptr nRows M.indices.length) (hlen : M.data.length = M.indices.length)
    (a b : Nat) (hab : a ≤ b) (hb : b ≤ nRows) :
    rowsPart M a b = ofSegs ((rangeOf (a, b)).map (segOf M)) := by
  refine (eq_ofSegs_of_wf _ _ (rowsPart_wf M nRows w hab hb) (slice_length_congr hlen _ _)).trans
    (congrArg ofSegs ?_)
  rw [rangeOf_eq_map, List.map_map]
  apply List.map_congr_left
  intro i hi
  exact segOf_rowsPart M nRows w (by have := List.mem_range.mp hi; omega) hb

/-! ### concatenating pieces: `concatAux` and its three users -/

theorem concatAux_arrays {α} (off : Mat α → Nat) : ∀ (parts : List (Mat α)) (i0 : Nat),
    (concatAux off parts i0).2.1 = parts.flatMap (·.indices) ∧
    (concatAux off parts i0).2.2 = parts.flatMap (·.data) := by
  intro parts
  induction parts with
  | nil => intro i0; exact ⟨rfl, rfl⟩
  | cons P Ps ih =>
    intro i0
    simp only [concatAux, List.flatMap_cons]
    exact ⟨by rw [(ih _).1], by rw [(ih _).2]⟩

/-- `off` is how the loop finds a piece's entry count (`len(data)`, `len(indices)`, the piece's last
pointer); all that is asked of it is `hoff`, so a further concatenation needs only its `hoff` -/
theorem concatAux_ofSegs {α} (off : Mat α → Nat)
    (hoff : ∀ segs : List (Seg α), SegsOK segs → off (ofSegs segs) = (segs.flatMap (·.1)).length) :
    ∀ (Ls : List (List (Seg α))) (i0 : Nat), (∀ L ∈ Ls, SegsOK L) →
      concatAux off (Ls.map ofSegs) i0
        = ((List.range Ls.flatten.length).map (fun k => segPrefix Ls.flatten k + i0),
           Ls.flatten.flatMap (·.1), Ls.flatten.flatMap (·.2)) := by
  intro Ls
  induction Ls with
  | nil => intro i0 _; simp [concatAux]
  | cons L rest ih =>
    intro i0 hok
    simp only [List.map_cons, concatAux]
    rw [ih _ (fun X hX => hok X (by simp [hX])), hoff L (hok L (by simp))]
    simp only [List.flatten_cons, List.length_append, List.flatMap_append]
    rw [ofSegs_indptr_dropLast]
    congr 1
    rw [List.range_add, List.map_append, List.map_map, List.map_map]
    congr 1
    · apply List.map_congr_left
      intro k hk
      rw [List.mem_range] at hk
      simp only [Function.comp]
      rw [segPrefix_append_left _ _ _ (by omega)]
    · apply List.map_congr_left
      intro k _
      simp only [Function.comp]
      rw [segPrefix_append_right, segPrefix_total]
      omega

/-- the loop's pointer list closed by a last pointer.  `last` is a variable because the three users
compute it differently; each shows `hlast` for its own expression -/
theorem concatAux_ofSegs_close {α} (off : Mat α → Nat)
    (hoff : ∀ segs : List (Seg α), SegsOK segs → off (ofSegs segs) = (segs.flatMap (·.1)).length)
    (Ls : List (List (Seg α))) (hok : ∀ L ∈ Ls, SegsOK L) (last : Nat)
    (hlast : last = (Ls.flatten.flatMap (·.1)).length) :
    (⟨(concatAux off (Ls.map ofSegs) 0).1 ++ [last], (concatAux off (Ls.map ofSegs) 0).2.1,
      (concatAux off (Ls.map ofSegs) 0).2.2⟩ : Mat α) = ofSegs Ls.flatten := by
  rw [concatAux_ofSegs off hoff Ls 0 hok]
  unfold ofSegs
  simp only [Nat.add_zero]
  congr 1
  rw [List.range_succ, List.map_append, List.map_cons, List.map_nil, hlast, segPrefix_total]

theorem segsOK_flatten {α} (Ls : List (List (Seg α))) (hok : ∀ L ∈ Ls, SegsOK L) :
    SegsOK Ls.flatten := by
  intro s hs
  rw [List.mem_flatten] at hs
  obtain ⟨L, hL, hs⟩ := hs
  exact hok L hL s hs

theorem mergeCsr_ofSegs {α} (Ls : List (List (Seg α))) (hok : ∀ L ∈ Ls, SegsOK L) :
    mergeCsr (Ls.map ofSegs) = ofSegs Ls.flatten := by
  unfold mergeCsr
  apply concatAux_ofSegs_close _ _ Ls hok
  · rw [concatAux_ofSegs _ _ Ls 0 hok]
    · exact SegsOK.flatMap_length _ (segsOK_flatten Ls hok)
    · intro segs h; exact SegsOK.flatMap_length segs h
  · intro segs h; exact SegsOK.flatMap_length segs h

theorem joinParts_ofSegs {α} (Ls : List (List (Seg α))) (hok : ∀ L ∈ Ls, SegsOK L) :
    joinParts (Ls.map ofSegs) = ofSegs Ls.flatten := by
  unfold joinParts
  apply concatAux_ofSegs_close _ _ Ls hok
  · rw [concatAux_ofSegs _ _ Ls 0 hok]
    intro segs _; rfl
  · intro segs _; rfl

theorem amalgamateCsr_ofSegs {α} (Ls : List (List (Seg α))) (hok : ∀ L ∈ Ls, SegsOK L) :
    amalgamateCsr (Ls.map ofSegs) = ofSegs Ls.flatten := by
  unfold amalgamateCsr
  apply concatAux_ofSegs_close _ _ Ls hok
  · rw [concatAux_ofSegs _ _ Ls 0 hok]
    · exact SegsOK.flatMap_length _ (segsOK_flatten Ls hok)
    · intro segs _; exact ofSegs_last segs
  · intro segs _; exact ofSegs_last segs

/-- `join` is `mergeCsr`, `amalgamateCsr` or `joinParts`, through its `…_ofSegs` lemma as `hjoin` -/
theorem concat_toDense {α} (zero : α) (join : List (Mat α) → Mat α)
    (hjoin : ∀ Ls : List (List (Seg α)), (∀ L ∈ Ls, SegsOK L) →
      join (Ls.map ofSegs) = ofSegs Ls.flatten)
    (parts : List (Mat α × Nat)) (nCols : Nat)
    (hwf : ∀ P ∈ parts, WFptr P.1.indptr P.2 P.1.indices.length ∧
      P.1.data.length = P.1.indices.length) :
    toDense zero (join (parts.map (·.1))) ((parts.map (·.2)).sum) nCols
      = parts.flatMap (fun P => toDense zero P.1 P.2 nCols) := by
  have h1 : parts.map (·.1)
      = (parts.map fun P => (List.range P.2).map (segOf P.1)).map ofSegs := by
    rw [List.map_map]
    apply List.map_congr_left
    intro P hP
    exact eq_ofSegs_of_wf P.1 P.2 (hwf P hP).1 (hwf P hP).2
  have hok : ∀ L ∈ parts.map (fun P => (List.range P.2).map (segOf P.1)), SegsOK L := by
    intro L hL
    rw [List.mem_map] at hL
    obtain ⟨P, hP, rfl⟩ := hL
    exact segsOK_map_segOf P.1 P.2 (hwf P hP).1 (hwf P hP).2 _ (fun o => List.mem_range.mp)
  rw [h1, hjoin _ hok]
  have hlen : (parts.map fun P => (List.range P.2).map (segOf P.1)).flatten.length
      = (parts.map (·.2)).sum := by
    rw [List.length_flatten, List.map_map]
    congr 1
    apply List.map_congr_left
    intro P _
    simp
  rw [← hlen, toDense_ofSegs zero _ (segsOK_flatten _ hok), List.map_flatten, List.map_map,
    ← List.flatMap_def]
  apply ListAux.flatMap_congr
  intro P _
  simp only [Function.comp, List.map_map, toDense]
  rfl

end CTM.Sparse
